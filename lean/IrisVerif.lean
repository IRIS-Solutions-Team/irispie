-- Root of the `IrisVerif` library: models, lemmas and property theorems.  It imports every module of Props/; the models and the
-- lemma files come in through these.
-- The drivers (IrisVerif/Driver/*.lean) each define `main`; they are built as separate targets (see MANIFEST setup_cmd).
-- Mathlib is no `require` of lakefile.toml: its `.olean`s lie on the toolchain's own search path.
import IrisVerif.Props.C01
import IrisVerif.Props.C01QZ
import IrisVerif.Props.C01State
import IrisVerif.Props.C01Final
import IrisVerif.Props.BridgeC01Cert
import IrisVerif.Props.BridgeC01Sim
import IrisVerif.Props.C02
import IrisVerif.Props.C03
import IrisVerif.Props.C04
import IrisVerif.Props.C05
import IrisVerif.Props.BridgeC05
import IrisVerif.Props.C06
import IrisVerif.Props.C07
import IrisVerif.Props.C07Frames
import IrisVerif.Props.BridgeC07
import IrisVerif.Props.C08
import IrisVerif.Props.KalmanBridge
import IrisVerif.Props.KalmanVariants
import IrisVerif.Props.KalmanObject
import IrisVerif.Props.C09
import IrisVerif.Props.C10
import IrisVerif.Props.C11
import IrisVerif.Props.C12
import IrisVerif.Props.C12Ext
import IrisVerif.Props.C12Arip
import IrisVerif.Props.BridgeC12
import IrisVerif.Props.C13
import IrisVerif.Props.C14
import IrisVerif.Props.C14Span
import IrisVerif.Props.C14Compose
import IrisVerif.Props.BridgeC14
import IrisVerif.Props.C15
import IrisVerif.Props.C15Compose
import IrisVerif.Props.BridgeC15
import IrisVerif.Props.C16
import IrisVerif.Props.C17
import IrisVerif.Props.C18
import IrisVerif.Props.QMatBridge
import IrisVerif.Props.C19
import IrisVerif.Props.C20
import IrisVerif.Props.GenTieCore
import IrisVerif.Props.GenTieC01
import IrisVerif.Props.GenTieC03
import IrisVerif.Props.GenTieC05
import IrisVerif.Props.GenTieC09
import IrisVerif.Props.GenTieC14
import IrisVerif.Props.GenTieC15
import IrisVerif.Props.GenTieC18
