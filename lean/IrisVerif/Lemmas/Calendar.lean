/-
The civil calendar of IrisVerif.Model.Dates: years (`dby`, `yearOf`), months (`dbm`, `monthOf`) and the
ordinal of a date. In this file the month table is opened only for `dbm_one`, `dbm_succ`, `dbm_dec`, `daysInMonth_pos`
and `daysInMonth_dec`, and everything after them is arithmetic over these facts; outside it only `mdAt_spec`
(Lemmas/Refrequent.lean) opens the table, to compare it with the generated day tables. Core Lean only.
-/
import IrisVerif.Model.Dates
import IrisVerif.Lemmas.Blocks

namespace IrisVerif.Dates

theorem isLeap_iff (y : Int) : isLeap y = true ↔ y % 4 = 0 ∧ (y % 100 ≠ 0 ∨ y % 400 = 0) := by
  simp [isLeap]

theorem dby_succ (y : Int) : dby (y + 1) = dby y + yearLen y := by
  -- `y + 1 - 1` is cancelled first, so that `omega` meets the quotients of `y` and of `y - 1` only
  simp only [dby, yearLen, isLeap_iff, Int.add_sub_cancel]
  split <;> omega

theorem yearLen_cases (y : Int) : yearLen y = 365 ∨ yearLen y = 366 := by
  unfold yearLen; split <;> simp

/-- 146097 is the number of days in 400 years, so `400 * (n - 1) / 146097 + 1` is the year of day `n` if every year had
the mean length; `dby` is never a whole year away from that mean, so the estimate is off by at most one year either way
and the two tests of `yearOf` correct it. -/
theorem yearOf_spec (n : Int) : dby (yearOf n) < n ∧ n ≤ dby (yearOf n + 1) := by
  unfold yearOf
  simp only
  split
  · unfold dby at *; omega
  · split
    · unfold dby at *; omega
    · unfold dby at *; omega

/-- The years are consecutive blocks of days, so a day lies in one year only. A block is `lo ≤ t < lo + len` with a `Nat`
length, year `y` is `dby y < n ≤ dby (y + 1)`: hence the cast of `yearLen` and the member `n - 1`. -/
theorem yearOf_unique (n y : Int) (h1 : dby y < n) (h2 : n ≤ dby (y + 1)) : yearOf n = y := by
  have hnext (T : Int) : dby (T + 1) = dby T + ((yearLen T).toNat : Nat) := by
    have := yearLen_cases T
    rw [dby_succ]; omega
  have hs := yearOf_spec n
  rw [hnext] at hs h2
  exact block_unique hnext (t := n - 1) (by omega) (by omega) (by omega) (by omega)

theorem dbm_succ (y m : Int) (h1 : 1 ≤ m) (h2 : m ≤ 11) : dbm y (m + 1) = dbm y m + daysInMonth y m := by
  have hm : m = 1 ∨ m = 2 ∨ m = 3 ∨ m = 4 ∨ m = 5 ∨ m = 6 ∨ m = 7 ∨ m = 8 ∨ m = 9 ∨ m = 10 ∨ m = 11 := by omega
  unfold dbm daysInMonth
  rcases hm with rfl | rfl | rfl | rfl | rfl | rfl | rfl | rfl | rfl | rfl | rfl <;> cases isLeap y <;> rfl

theorem dbm_dec (y : Int) : dbm y 12 + daysInMonth y 12 = yearLen y := by
  unfold dbm daysInMonth yearLen
  cases isLeap y <;> rfl

theorem dbm_one (y : Int) : dbm y 1 = 0 := by simp [dbm]

theorem daysInMonth_dec (y : Int) : daysInMonth y 12 = 31 := rfl

theorem daysInMonth_pos (y m : Int) : 28 ≤ daysInMonth y m ∧ daysInMonth y m ≤ 31 := by
  unfold daysInMonth; repeat' split <;> omega

theorem ymd2ord_jan1 (y : Int) : ymd2ord y 1 1 = dby y + 1 := by
  rw [ymd2ord, dbm_one, Int.add_zero]

theorem ymd2ord_dec31 (y : Int) : ymd2ord y 12 31 = dby (y + 1) := by
  rw [dby_succ, ← dbm_dec, ymd2ord, Int.add_assoc, daysInMonth_dec]

theorem ymd2ord_of_ord2ymd (n : Int) : ymd2ord (ord2ymd n).1 (ord2ymd n).2.1 (ord2ymd n).2.2 = n := by
  simp only [ord2ymd, ymd2ord]
  omega

theorem year_window (n : Int) : ymd2ord (yearOf n) 1 1 ≤ n ∧ n ≤ ymd2ord (yearOf n) 12 31 := by
  rw [ymd2ord_jan1, ymd2ord_dec31]
  exact yearOf_spec n

-- `omega` compares its atoms up to definitional equality, which would open the month table on every pair
-- `dbm y i`, `dbm y j`.
seal dbm daysInMonth

theorem dbm_mono (y : Int) {m m' : Int} (h1 : 1 ≤ m) (h : m ≤ m') (h2 : m' ≤ 12) : dbm y m ≤ dbm y m' := by
  obtain ⟨n, rfl⟩ := Int.le.dest h
  induction n with
  | zero => simp
  | succ n ih =>
    have := dbm_succ y (m + n) (by omega) (by omega)
    have := daysInMonth_pos y (m + n)
    have := ih (by omega) (by omega)
    rw [Int.natCast_succ, ← Int.add_assoc]
    omega

/-- One step down an if-chain: `monthOf_spec` walks the eleven nested tests of `monthOf` with it, one at a time, where
`split` would open all of them at once. -/
theorem ite_eq_cases {c : Prop} [Decidable c] {a b m : Int} (h : (if c then a else b) = m) :
    c ∧ a = m ∨ ¬c ∧ b = m := by
  by_cases hc : c
  · exact .inl ⟨hc, by rwa [if_pos hc] at h⟩
  · exact .inr ⟨hc, by rwa [if_neg hc] at h⟩

/-- `monthOf` finds the month whose slot `dbm y m < doy ≤ dbm y m + daysInMonth y m` holds the day: the chain stops
at the first threshold `dbm y (m + 1)` that is not below `doy`, and the month lengths turn that into the slot. -/
theorem monthOf_spec (y doy : Int) (h1 : 1 ≤ doy) (h2 : doy ≤ yearLen y) :
    1 ≤ monthOf y doy ∧ monthOf y doy ≤ 12 ∧
      dbm y (monthOf y doy) < doy ∧ doy ≤ dbm y (monthOf y doy) + daysInMonth y (monthOf y doy) := by
  generalize hm : monthOf y doy = m
  have walk : 1 ≤ m ∧ m ≤ 12 ∧ dbm y m < doy ∧ (m ≤ 11 → doy ≤ dbm y (m + 1)) := by
    have := dbm_one y
    unfold monthOf at hm
    obtain ⟨_, rfl⟩ | ⟨_, hm⟩ := ite_eq_cases hm; · simp only [Int.reduceAdd]; omega
    obtain ⟨_, rfl⟩ | ⟨_, hm⟩ := ite_eq_cases hm; · simp only [Int.reduceAdd]; omega
    obtain ⟨_, rfl⟩ | ⟨_, hm⟩ := ite_eq_cases hm; · simp only [Int.reduceAdd]; omega
    obtain ⟨_, rfl⟩ | ⟨_, hm⟩ := ite_eq_cases hm; · simp only [Int.reduceAdd]; omega
    obtain ⟨_, rfl⟩ | ⟨_, hm⟩ := ite_eq_cases hm; · simp only [Int.reduceAdd]; omega
    obtain ⟨_, rfl⟩ | ⟨_, hm⟩ := ite_eq_cases hm; · simp only [Int.reduceAdd]; omega
    obtain ⟨_, rfl⟩ | ⟨_, hm⟩ := ite_eq_cases hm; · simp only [Int.reduceAdd]; omega
    obtain ⟨_, rfl⟩ | ⟨_, hm⟩ := ite_eq_cases hm; · simp only [Int.reduceAdd]; omega
    obtain ⟨_, rfl⟩ | ⟨_, hm⟩ := ite_eq_cases hm; · simp only [Int.reduceAdd]; omega
    obtain ⟨_, rfl⟩ | ⟨_, hm⟩ := ite_eq_cases hm; · simp only [Int.reduceAdd]; omega
    obtain ⟨_, rfl⟩ | ⟨_, rfl⟩ := ite_eq_cases hm <;> simp only [Int.reduceAdd] <;> omega
  obtain ⟨m1, m12, lo, hi⟩ := walk
  refine ⟨m1, m12, lo, ?_⟩
  rcases Int.lt_or_eq_of_le m12 with h | rfl
  · rw [← dbm_succ y m m1 (by omega)]; exact hi (by omega)
  · rw [dbm_dec]; exact h2

theorem doy_bounds (y m d : Int) (h : ValidYmd y m d) :
    dbm y m < dbm y m + d ∧ dbm y m + d ≤ dbm y m + daysInMonth y m := by
  obtain ⟨_, _, h3, h4⟩ := h; omega

theorem dbm_add_le (y : Int) {m m' : Int} (h1 : 1 ≤ m) (h : m < m') (h2 : m' ≤ 12) :
    dbm y m + daysInMonth y m ≤ dbm y m' := by
  rw [← dbm_succ y m h1 (by omega)]
  exact dbm_mono y (by omega) (by omega) h2

theorem ymd2ord_first_le {y m m' d' : Int} (h1 : 1 ≤ m) (h : m ≤ m') (hv' : ValidYmd y m' d') :
    ymd2ord y m 1 ≤ ymd2ord y m' d' := by
  unfold ymd2ord
  have := dbm_mono y h1 h hv'.2.1
  have := hv'.2.2.1
  omega

theorem ymd2ord_le_last {y m d m' : Int} (hv : ValidYmd y m d) (h : m ≤ m') (h12 : m' ≤ 12) :
    ymd2ord y m d ≤ ymd2ord y m' (daysInMonth y m') := by
  unfold ymd2ord
  obtain ⟨m1, _, _, d2⟩ := hv
  rcases Int.lt_or_eq_of_le h with h | rfl
  · have := dbm_add_le y m1 h h12
    have := daysInMonth_pos y m'
    omega
  · omega

theorem doy_le_yearLen (y m d : Int) (h : ValidYmd y m d) : 1 ≤ dbm y m + d ∧ dbm y m + d ≤ yearLen y := by
  have lo := ymd2ord_first_le (Int.le_refl 1) h.1 h
  have hi := ymd2ord_le_last h h.2.1 (Int.le_refl 12)
  have := dbm_one y
  have := dbm_dec y
  unfold ymd2ord at lo hi
  omega

theorem monthOf_unique (y doy m : Int) (h1 : 1 ≤ m) (h2 : m ≤ 12) (h3 : dbm y m < doy)
    (h4 : doy ≤ dbm y m + daysInMonth y m) : monthOf y doy = m := by
  have hd := doy_le_yearLen y m (doy - dbm y m) ⟨h1, h2, by omega, by omega⟩
  obtain ⟨g1, g2, g3, g4⟩ := monthOf_spec y doy (by omega) (by omega)
  rcases Int.lt_trichotomy (monthOf y doy) m with h | h | h
  · have := dbm_add_le y g1 h h2; omega
  · exact h
  · have := dbm_add_le y h1 h g2; omega

theorem monthOf_of_valid (y m d : Int) (h : ValidYmd y m d) : monthOf y (dbm y m + d) = m :=
  monthOf_unique y _ m h.1 h.2.1 (doy_bounds y m d h).1 (doy_bounds y m d h).2

theorem monthOf_valid (y doy : Int) (h1 : 1 ≤ doy) (h2 : doy ≤ yearLen y) :
    ValidYmd y (monthOf y doy) (doy - dbm y (monthOf y doy)) := by
  obtain ⟨g1, g2, g3, g4⟩ := monthOf_spec y doy h1 h2
  exact ⟨g1, g2, by omega, by omega⟩

theorem ord2ymd_valid (n : Int) : ValidYmd (ord2ymd n).1 (ord2ymd n).2.1 (ord2ymd n).2.2 := by
  have hs := yearOf_spec n
  rw [dby_succ] at hs
  simp only [ord2ymd]
  exact monthOf_valid _ _ (by omega) (by omega)

theorem toYmd_daily (n : Int) (pos : Pos) : toYmd ⟨.D, n⟩ pos = .ok (ord2ymd n) := rfl

theorem fromYmd_daily {y m d : Int} (hv : ValidYmd y m d) : fromYmd .D y m d = .ok ⟨.D, ymd2ord y m d⟩ := if_pos hv

end IrisVerif.Dates
