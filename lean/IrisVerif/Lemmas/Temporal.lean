/-
Helper lemmas about the temporal model (IrisVerif.Model.Temporal). One series: what `get` sees through trim / shift /
binop / setCell / mapCells, trim as a row range (`trimRange`, shared with the multi-variant trim), when `shiftRef`
succeeds; the loop invariants of the two cumulation folds. Several variants (`MSer`): `get` through trim and `ofSers`,
`mapR` as `List.mapM`. Last, the shape of `minOr` / `zipShift`. Core Lean only.
-/
import IrisVerif.Model.Temporal
import IrisVerif.Lemmas.Refrequent
import IrisVerif.Lemmas.Lists
import IrisVerif.Lemmas.Monads

namespace IrisVerif.Temporal
open IrisVerif.Dates IrisVerif.Gen.Dates

variable {α : Type}

@[simp] theorem lift2_none_left (dom : α → α → Bool) (f : α → α → α) (y : Option α) : lift2 dom f none y = none := by
  cases y <;> rfl

@[simp] theorem lift2_none_right (dom : α → α → Bool) (f : α → α → α) (x : Option α) : lift2 dom f x none = none := by
  cases x <;> rfl

@[simp] theorem lift2_some (dom : α → α → Bool) (f : α → α → α) (x y : α) :
    lift2 dom f (some x) (some y) = if dom x y then some (f x y) else none := rfl

@[simp] theorem lift1_none (dom : α → Bool) (f : α → α) : lift1 dom f none = none := rfl

@[simp] theorem lift1_some (dom : α → Bool) (f : α → α) (x : α) :
    lift1 dom f (some x) = if dom x then some (f x) else none := rfl

namespace Ser

theorem get_of_mem {s : Ser α} {t : Int} (h : s.lo ≤ t ∧ t ≤ s.hi) : s.get t = s.val t := if_pos h

theorem get_of_not_mem {s : Ser α} {t : Int} (h : ¬ (s.lo ≤ t ∧ t ≤ s.hi)) : s.get t = none := if_neg h

theorem get_of_isEmpty (s : Ser α) (h : s.isEmpty = true) (t : Int) : s.get t = none := by
  simp only [isEmpty, decide_eq_true_eq] at h
  exact get_of_not_mem (by omega)

/-- `v` marks the rows that hold an observation; found: the first marked row; not found: no row is marked -/
theorem firstSomeFrom_spec (v : Int → Option α) (lo : Int) (n : Nat) :
    (∀ a, firstSomeFrom v lo n = some a →
      lo ≤ a ∧ a < lo + n ∧ (v a).isSome = true ∧ ∀ t, lo ≤ t → t < a → v t = none) ∧
    (firstSomeFrom v lo n = none → ∀ t, lo ≤ t → t < lo + n → v t = none) := by
  induction n generalizing lo with
  | zero => exact ⟨fun a h => (by cases h), fun _ t h1 h2 => by omega⟩
  | succ n ih =>
    unfold firstSomeFrom
    by_cases hv : (v lo).isSome = true
    · rw [if_pos hv]
      refine ⟨fun a h => ?_, fun h => by cases h⟩
      cases h
      exact ⟨by omega, by omega, hv, fun t h1 h2 => by omega⟩
    · rw [if_neg hv]
      obtain ⟨ih1, ih2⟩ := ih (lo + 1)
      have key : ∀ t, lo ≤ t → (lo + 1 ≤ t → v t = none) → v t = none := fun t h1 h => by
        by_cases e : t = lo
        · subst e; simpa using hv
        · exact h (by omega)
      refine ⟨fun a h => ?_, fun h t h1 h2 => key t h1 fun h' => ih2 h t h' (by omega)⟩
      obtain ⟨h1, h2, h3, h4⟩ := ih1 a h
      exact ⟨by omega, by omega, h3, fun t ht1 ht2 => key t ht1 fun h' => h4 t h' ht2⟩

/-- through this mirroring `firstSomeFrom_spec` serves `lastSomeFrom_spec` as well -/
theorem lastSomeFrom_eq (v : Int → Option α) (hi : Int) (n : Nat) :
    lastSomeFrom v hi n = (firstSomeFrom (fun t => v (-t)) (-hi) n).map (- ·) := by
  induction n generalizing hi with
  | zero => rfl
  | succ n ih =>
    rw [lastSomeFrom, firstSomeFrom, Int.neg_neg, ih, Int.neg_sub, Int.sub_eq_add_neg, Int.add_comm]
    split
    · rw [Option.map_some, Int.neg_neg]
    · rfl

theorem lastSomeFrom_spec (v : Int → Option α) (hi : Int) (n : Nat) :
    (∀ b, lastSomeFrom v hi n = some b →
      b ≤ hi ∧ hi - n < b ∧ (v b).isSome = true ∧ ∀ t, b < t → t ≤ hi → v t = none) ∧
    (lastSomeFrom v hi n = none → ∀ t, hi - n < t → t ≤ hi → v t = none) := by
  rw [lastSomeFrom_eq]
  obtain ⟨f1, f2⟩ := firstSomeFrom_spec (fun t => v (-t)) (-hi) n
  refine ⟨fun b h => ?_, fun h t h1 h2 => ?_⟩
  · obtain ⟨a, ha, rfl⟩ := Option.map_eq_some_iff.1 h
    obtain ⟨a1, a2, a3, a4⟩ := f1 a ha
    exact ⟨by omega, by omega, a3, fun t h1 h2 => Int.neg_neg t ▸ a4 (-t) (by omega) (by omega)⟩
  · exact Int.neg_neg t ▸ f2 (Option.map_eq_none_iff.1 h) (-t) (by omega) (by omega)

/-- the rows that `Ser.trim` and `MSer.trim` keep, given the marks `v` of the rows `lo..hi`: from the first to the
last marked row; `(0, -1)`, the range `reset()` leaves, when no row is marked -/
def trimRange (v : Int → Option α) (lo hi : Int) : Int × Int :=
  match firstSomeFrom v lo (hi + 1 - lo).toNat with
  | none => (0, -1)
  | some a =>
    match lastSomeFrom v hi (hi + 1 - lo).toNat with
    | none => (0, -1)
    | some b => (a, b)

theorem trimRange_spec (v : Int → Option α) (lo hi : Int) :
    (∀ t, lo ≤ t → t ≤ hi → ¬ ((trimRange v lo hi).1 ≤ t ∧ t ≤ (trimRange v lo hi).2) → v t = none) ∧
    ((trimRange v lo hi).1 ≤ (trimRange v lo hi).2 →
      lo ≤ (trimRange v lo hi).1 ∧ (trimRange v lo hi).2 ≤ hi ∧
      (v (trimRange v lo hi).1).isSome = true ∧ (v (trimRange v lo hi).2).isSome = true) := by
  unfold trimRange
  generalize hn : (hi + 1 - lo).toNat = n
  obtain ⟨f1, f2⟩ := firstSomeFrom_spec v lo n
  obtain ⟨l1, l2⟩ := lastSomeFrom_spec v hi n
  cases hf : firstSomeFrom v lo n with
  | none => exact ⟨fun t h1 h2 _ => f2 hf t h1 (by omega), fun h => by simp at h⟩
  | some a =>
    obtain ⟨a1, a2, a3, a4⟩ := f1 a hf
    cases hl : lastSomeFrom v hi n with
    | none => exact ⟨fun t h1 h2 _ => l2 hl t (by omega) h2, fun h => by simp at h⟩
    | some b =>
      obtain ⟨b1, b2, b3, b4⟩ := l1 b hl
      refine ⟨fun t h1 h2 h => ?_, fun _ => ⟨a1, b1, a3, b3⟩⟩
      by_cases e : t < a
      · exact a4 t h1 e
      · exact b4 t (Int.lt_of_not_ge fun h' => h ⟨Int.not_lt.mp e, h'⟩) h2

theorem ite_trimRange (v : Int → Option α) (lo hi t : Int) {β : Type} (x : Option β) (hx : v t = none → x = none) :
    (if (trimRange v lo hi).1 ≤ t ∧ t ≤ (trimRange v lo hi).2 then x else none) =
      if lo ≤ t ∧ t ≤ hi then x else none := by
  obtain ⟨h1, h2⟩ := trimRange_spec v lo hi
  by_cases hin : (trimRange v lo hi).1 ≤ t ∧ t ≤ (trimRange v lo hi).2
  · obtain ⟨g1, g2, _⟩ := h2 (by omega)
    rw [if_pos hin, if_pos ⟨by omega, by omega⟩]
  · rw [if_neg hin]
    split
    · rename_i h; exact (hx (h1 t h.1 h.2 hin)).symm
    · rfl

theorem trim_eq (s : Ser α) :
    s.trim = { s with lo := (trimRange s.val s.lo s.hi).1, hi := (trimRange s.val s.lo s.hi).2 } := by
  unfold trim trimRange
  dsimp only
  cases firstSomeFrom s.val s.lo (s.hi + 1 - s.lo).toNat with
  | none => rfl
  | some a => cases lastSomeFrom s.val s.hi (s.hi + 1 - s.lo).toNat <;> rfl

@[simp] theorem get_trim (s : Ser α) (t : Int) : s.trim.get t = s.get t := by
  rw [trim_eq]
  exact ite_trimRange s.val s.lo s.hi t (s.val t) id

@[simp] theorem freq_trim (s : Ser α) : s.trim.freq = s.freq := by
  rw [trim_eq]

@[simp] theorem freq_binop (g : Option α → Option α → Option α) (a b : Ser α) : (binop g a b).freq = a.freq := by
  simp [binop]

@[simp] theorem freq_mapCells (s : Ser α) (g : Option α → Option α) : (s.mapCells g).freq = s.freq := by
  simp [mapCells]

@[simp] theorem get_shiftBy (s : Ser α) (k t : Int) : (s.shiftBy k).get t = s.get (t + k) := by
  unfold shiftBy
  by_cases h : s.isEmpty = true
  · rw [if_pos h, get_of_isEmpty s h, get_of_isEmpty s h]
  · rw [if_neg h]
    exact ite_congr (propext (by dsimp only; omega)) (fun _ => rfl) (fun _ => rfl)

@[simp] theorem get_setCell (s : Ser α) (t : Int) (v : Option α) (u : Int) :
    (s.setCell t v).get u = if u = t then v else s.get u := by
  unfold setCell
  by_cases h : s.isEmpty = true
  · rw [if_pos h, get_of_isEmpty s h]
    exact ite_congr (propext (by dsimp only; omega)) (fun _ => rfl) (fun _ => rfl)
  · rw [if_neg h]
    simp only [isEmpty, decide_eq_true_eq] at h
    by_cases r : min s.lo t ≤ u ∧ u ≤ max s.hi t
    · exact get_of_mem r
    · rw [get_of_not_mem r, if_neg (by omega), get_of_not_mem (by omega)]

/-- `hg`: outside both row ranges `_binop` has no row at all, which agrees with `g` only if `g` of two missing values is
missing (true of every NaN-strict function) -/
theorem get_binop (g : Option α → Option α → Option α) (hg : g none none = none) (a b : Ser α) (t : Int) :
    (binop g a b).get t = g (a.get t) (b.get t) := by
  unfold binop
  rw [get_trim]
  by_cases r : min a.lo b.lo ≤ t ∧ t ≤ max a.hi b.hi
  · exact get_of_mem r
  · rw [get_of_not_mem r, get_of_not_mem (s := a) (by omega), get_of_not_mem (s := b) (by omega), hg]

@[simp] theorem get_mapCells (s : Ser α) (g : Option α → Option α) (hg : g none = none) (t : Int) :
    (s.mapCells g).get t = g (s.get t) := by
  unfold mapCells
  rw [get_trim]
  by_cases r : s.lo ≤ t ∧ t ≤ s.hi
  · exact get_of_mem r
  · rw [get_of_not_mem r, hg]
    exact get_of_not_mem r

theorem mem_rows (s : Ser α) (t : Int) : t ∈ s.rows ↔ s.lo ≤ t ∧ t ≤ s.hi := by
  unfold rows
  simp only [List.mem_map, List.mem_range]
  constructor
  · rintro ⟨i, hi, rfl⟩; omega
  · intro h
    exact ⟨(t - s.lo).toNat, by omega, by omega⟩

/-- `_shift_soy/_eopy/_tty` succeed exactly when no reference computation raises on a row ("no such period" is not
raising); the result keeps the rows and holds the referenced value, or `neutral`, in each -/
theorem shiftRef_eq_ok (s : Ser α) (ref : Int → R Int) (neutral : Option α) (o : Ser α) :
    s.shiftRef ref neutral = .ok o ↔
      (∀ t, s.lo ≤ t → t ≤ s.hi → refOk (ref t) = true) ∧ o = { s with val := fun t => s.refCell neutral (ref t) } := by
  have hall : (s.rows.all fun t => refOk (ref t)) = true ↔ ∀ t, s.lo ≤ t → t ≤ s.hi → refOk (ref t) = true := by
    simp only [List.all_eq_true, mem_rows, and_imp]
  unfold shiftRef
  split
  · rename_i h
    exact ⟨fun e => ⟨hall.1 h, (Except.ok.inj e).symm⟩, fun e => e.2 ▸ rfl⟩
  · rename_i h
    exact ⟨nofun, fun e => absurd (hall.2 e.1) h⟩

end Ser

/-! ### the cumulation loops

Both loops fold a step of the form `self ↦ self.setCell (w p) (F p (self.get (r p)))` over their work items `p`:
the forward loop over the pairs `(t, shifted t)`, writing `t` and reading the shifted period; the backward loop over
the periods `sh`, writing `sh` and reading `sh - k`. `tgt` is the map the loop is meant to reproduce. -/

section loops
variable {β : Type} (w r : β → Int) (F : β → Option α → Option α) (tgt : Int → Option α)
  {step : Ser α → β → Ser α}

/-- a region `P` that the steps respect: a step whose target lies in `P` reads in `P` and regenerates the target
value; steps whose target lies outside `P` may do anything (they cannot write into `P`). -/
theorem foldl_setCell_inv_on (hset : ∀ self p, step self p = self.setCell (w p) (F p (self.get (r p))))
    (P : Int → Prop) (ps : List β) (self : Ser α)
    (h0 : ∀ u, P u → self.get u = tgt u)
    (hz : ∀ p ∈ ps, P (w p) → P (r p) ∧ F p (tgt (r p)) = tgt (w p)) :
    ∀ u, P u → (ps.foldl step self).get u = tgt u :=
  List.foldlRecOn (motive := fun self : Ser α => ∀ u, P u → self.get u = tgt u) ps _ h0
    fun self ih p hp u hu => by
      rw [hset, Ser.get_setCell]
      split
      · rename_i e
        obtain ⟨hr, he⟩ := hz p hp (e ▸ hu)
        rw [ih _ hr, he, e]
      · exact ih u hu

/-- the same when the cells of `P` that some item writes start out arbitrary: it is enough that no item reads a cell
which it or a later item writes. Then the cells of `P` that no REMAINING item writes are right at every stage. With `P`
a single chain `t, t+k, t+2k, …` this follows the chain through a series with missing values elsewhere. -/
theorem foldl_setCell_inv_ordered (hset : ∀ self p, step self p = self.setCell (w p) (F p (self.get (r p))))
    (P : Int → Prop) (ps : List β) (self : Ser α)
    (hord : ps.Pairwise fun p q => w q ≠ r p) (hrw : ∀ p ∈ ps, w p ≠ r p)
    (h0 : ∀ u, P u → (∀ p ∈ ps, w p ≠ u) → self.get u = tgt u)
    (hz : ∀ p ∈ ps, P (w p) → P (r p) ∧ F p (tgt (r p)) = tgt (w p)) :
    ∀ u, P u → (ps.foldl step self).get u = tgt u := by
  induction ps generalizing self with
  | nil => exact fun u hu => h0 u hu nofun
  | cons p ps ih =>
    rw [List.foldl_cons]
    obtain ⟨hp, hps⟩ := List.pairwise_cons.mp hord
    refine ih _ hps (fun q hq => hrw q (List.mem_cons_of_mem _ hq)) (fun u hu hw => ?_)
      (fun q hq => hz q (List.mem_cons_of_mem _ hq))
    rw [hset, Ser.get_setCell]
    split
    · rename_i e
      obtain ⟨hr, he⟩ := hz p List.mem_cons_self (e ▸ hu)
      rw [h0 _ hr (List.forall_mem_cons.mpr ⟨hrw p List.mem_cons_self, hp⟩), he, e]
    · rename_i e
      exact h0 u hu (List.forall_mem_cons.mpr ⟨fun h => e h.symm, hw⟩)

end loops

theorem foldl_stepForward_untouched [Add α] [Sub α] [Mul α] [Div α] [NatCast α]
    (S : Sym α) (kind : CumKind) (change : Ser α) (zs : List (Int × Int)) (self : Ser α) (u : Int)
    (hu : ∀ p ∈ zs, p.1 ≠ u) :
    (zs.foldl (stepForward S kind change) self).get u = self.get u :=
  -- the region `{u}`, which no step writes into, with the constant target `self.get u`
  foldl_setCell_inv_on (w := Prod.fst) (r := Prod.snd)
    (F := fun p v => lift2 (kind.domF S) (kind.forward S) v (change.get p.1)) (tgt := fun _ => self.get u)
    (hset := fun _ _ => rfl) (P := (· = u)) zs self (fun _ e => e ▸ rfl) (fun p hp e => absurd e (hu p hp)) u rfl

namespace MSer

theorem rowMark_eq_none (m : MSer α) (t : Int) : m.rowMark t = none ↔ ∀ j, j < m.nv → m.val t j = none := by
  simp [rowMark, Option.isSome_iff_ne_none]

theorem rowMark_isSome (m : MSer α) (t : Int) (h : (m.rowMark t).isSome = true) :
    ∃ j, j < m.nv ∧ (m.val t j).isSome = true := by
  unfold rowMark at h
  split at h
  · rename_i hany
    obtain ⟨j, hj, hv⟩ := List.any_eq_true.mp hany
    exact ⟨j, List.mem_range.mp hj, hv⟩
  · cases h

theorem trim_eq (m : MSer α) :
    m.trim = { m with lo := (Ser.trimRange m.rowMark m.lo m.hi).1, hi := (Ser.trimRange m.rowMark m.lo m.hi).2 } := by
  unfold trim Ser.trimRange
  dsimp only
  cases Ser.firstSomeFrom m.rowMark m.lo (m.hi + 1 - m.lo).toNat with
  | none => rfl
  | some a => cases Ser.lastSomeFrom m.rowMark m.hi (m.hi + 1 - m.lo).toNat <;> rfl

@[simp] theorem nv_trim (m : MSer α) : m.trim.nv = m.nv := by
  rw [trim_eq]

@[simp] theorem freq_trim (m : MSer α) : m.trim.freq = m.freq := by
  rw [trim_eq]

@[simp] theorem get_trim (m : MSer α) (t : Int) (j : Nat) : m.trim.get t j = m.get t j := by
  rw [trim_eq]
  by_cases hj : j < m.nv
  · simp only [get, hj, and_true]
    exact Ser.ite_trimRange m.rowMark m.lo m.hi t (m.val t j) fun h => (rowMark_eq_none m t).mp h j hj
  · simp only [get, hj, and_false, if_false]

theorem rowsUnion_cover (outs : List (Ser α)) (o : Ser α) (ho : o ∈ outs) (t : Int) (h : o.lo ≤ t ∧ t ≤ o.hi) :
    ∃ a b, rowsUnion outs = some (a, b) ∧ a ≤ t ∧ t ≤ b := by
  have hne : o.isEmpty = false := decide_eq_false (by omega)
  induction outs with
  | nil => cases ho
  | cons x xs ih =>
    unfold rowsUnion
    rcases List.mem_cons.mp ho with rfl | e
    · cases rowsUnion xs with
      | none => exact ⟨o.lo, o.hi, by simp [hne], h.1, h.2⟩
      | some ab => exact ⟨min ab.1 o.lo, max ab.2 o.hi, by simp [hne], by omega, by omega⟩
    · obtain ⟨a, b, hab, h1, h2⟩ := ih e
      rw [hab]
      by_cases hx : x.isEmpty = true
      · exact ⟨a, b, by simp [hx], h1, h2⟩
      · exact ⟨min a x.lo, max b x.hi, by simp [hx], by omega, by omega⟩

@[simp] theorem nv_ofSers (f : Freq) (outs : List (Ser α)) : (ofSers f outs).nv = outs.length := by
  unfold ofSers; split <;> simp

theorem get_ofSers (f : Freq) (outs : List (Ser α)) (t : Int) (j : Nat) :
    (ofSers f outs).get t j = (outs[j]?).bind (fun o => o.get t) := by
  unfold ofSers
  cases hx : (outs[j]?).bind (fun o => o.get t) with
  | none =>
    split
    · exact ite_self _
    · rw [get_trim]
      simp only [get, hx, ite_self]
  | some x =>
    -- a cell of `outs[j]` lies in the union of the rows
    obtain ⟨o, ho, hox⟩ := Option.bind_eq_some_iff.1 hx
    have hin : o.lo ≤ t ∧ t ≤ o.hi := Classical.byContradiction fun h => by
      rw [Ser.get_of_not_mem h] at hox
      cases hox
    obtain ⟨a, b, hab, h1, h2⟩ := rowsUnion_cover outs o (List.mem_of_getElem? ho) t hin
    rw [hab, get_trim]
    exact (if_pos ⟨h1, h2, (List.getElem?_eq_some_iff.mp ho).1⟩).trans hx

end MSer

theorem mapR_eq_mapM {β γ : Type} (g : β → R γ) (l : List β) : mapR g l = l.mapM g := by
  induction l with
  | nil => rfl
  | cons b bs ih =>
    rw [mapR, ih, List.mapM_cons]
    cases g b with
    | error e => rfl
    | ok c => cases bs.mapM g <;> rfl

/-- a successful `mapR` is element-wise: same length, `i`-th result from the `i`-th input -/
theorem mapR_ok {β γ : Type} {g : β → R γ} {l : List β} {cs : List γ} (h : mapR g l = .ok cs) :
    cs.length = l.length ∧ ∀ i (hi : i < l.length), ∃ c, g l[i] = .ok c ∧ cs[i]? = some c := by
  rw [mapR_eq_mapM] at h
  exact ⟨mapM_ok_length h, fun i hi => (mapM_ok_getElem? h (List.getElem?_eq_getElem hi)).imp fun _ hc => ⟨hc.2, hc.1⟩⟩

theorem mapR_error {β γ : Type} {g : β → R γ} {l : List β} {e : Err} (h : mapR g l = .error e) :
    ∃ b ∈ l, g b = .error e :=
  mapM_error_mem (mapR_eq_mapM g l ▸ h)

/-- what `mchange` / `mcum` build: the columns `g 0, …, g (n-1)` computed one by one and joined -/
theorem MSer.ofSers_mapR (f : Freq) {g : Nat → R (Ser α)} {n : Nat} {outs : List (Ser α)}
    (h : mapR g (List.range n) = .ok outs) :
    (MSer.ofSers f outs).nv = n ∧
      ∀ j, j < n → ∃ oj, g j = .ok oj ∧ ∀ t, (MSer.ofSers f outs).get t j = oj.get t := by
  obtain ⟨hlen, hget⟩ := mapR_ok h
  refine ⟨by simpa using hlen, fun j hj => ?_⟩
  obtain ⟨c, hc1, hc2⟩ := hget j (by simpa using hj)
  exact ⟨c, by simpa using hc1, fun t => by rw [MSer.get_ofSers, hc2]; rfl⟩

theorem minOr_le (d : Int) (xs : List Int) (y : Int) (hy : y ∈ xs) : minOr d xs ≤ y := by
  cases xs with
  | nil => cases hy
  | cons x xs => exact foldl_min_le x xs y hy

theorem minOr_cons_of_le (d x : Int) (xs : List Int) (h : ∀ y ∈ xs, x ≤ y) : minOr d (x :: xs) = x :=
  foldl_min_iff.2 ⟨List.mem_cons_self, List.forall_mem_cons.2 ⟨Int.le_refl x, h⟩⟩

theorem zipShift_int (f : Freq) (k : Int) (ts : List Int) :
    zipShift f (.by_ k) ts = .ok (ts.map (fun t => (t, t + k))) := by
  induction ts with
  | nil => rfl
  | cons t ts ih =>
    simp only [zipShift, Period.shift, pure, Except.pure, Period.add, ih, bind, Except.bind, List.map_cons]

/-- `zipShift` silently drops the periods whose shifted period is `None` ("tty" in a start-of-year period); whatever
it keeps is a period of the list paired with what `Period.shift` yields for it -/
theorem zipShift_mem {f : Freq} {by_ : ShiftBy} {ts : List Int} {zs : List (Int × Int)}
    (h : zipShift f by_ ts = .ok zs) {p : Int × Int} (hp : p ∈ zs) :
    p.1 ∈ ts ∧ ∃ q, Period.shift ⟨f, p.1⟩ by_ = .ok q ∧ q.serial = p.2 := by
  induction ts generalizing zs with
  | nil => cases h; cases hp
  | cons t ts ih =>
    unfold zipShift at h
    cases hs : Period.shift ⟨f, t⟩ by_ with
    | ok q =>
      rw [hs] at h
      obtain ⟨rest, hr, ⟨⟩⟩ := Except.bind_eq_ok.1 h
      rcases List.mem_cons.mp hp with rfl | e
      · exact ⟨List.mem_cons_self, q, hs, rfl⟩
      · exact (ih hr e).imp_left (List.mem_cons_of_mem _)
    | error e =>
      rw [hs] at h
      cases e with
      | noPeriod => exact (ih h hp).imp_left (List.mem_cons_of_mem _)
      | mixedFreq => cases h
      | badInput => cases h

theorem zipShift_ok (f : Freq) (hf : f ≠ .I) (by_ : ShiftBy) (ts : List Int) : ∃ zs, zipShift f by_ ts = .ok zs := by
  induction ts with
  | nil => exact ⟨[], rfl⟩
  | cons t ts ih =>
    obtain ⟨zs, hzs⟩ := ih
    rcases shift_ok_or_noPeriod f hf t by_ with ⟨q, hq⟩ | hq
    · exact ⟨(t, q.serial) :: zs, by simp [zipShift, hq, hzs, bind, Except.bind, pure, Except.pure]⟩
    · exact ⟨zs, by simp [zipShift, hq, hzs]⟩

end IrisVerif.Temporal
