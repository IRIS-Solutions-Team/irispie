/-
Helper lemmas for property C15: reading an `ofFn` cell matrix of the executable autocovariance model, what a
successful run of its Lyapunov solver is made of, the dimensions of the matrices it assembles, and `acov` as a map over that run.
-/
import IrisVerif.Lemmas.QMatRefines
import IrisVerif.Model.Acov

open Matrix

namespace IrisVerif.Acov
open IrisVerif

theorem cmat_get_ofFn {r c : Nat} (f : Nat → Nat → Cell) {i j : Nat} (hi : i < r) (hj : j < c) :
    (CMat.ofFn r c f).get i j = f i j := by
  unfold CMat.get CMat.ofFn
  rw [QMat.getD_map_range, if_pos hi, QMat.getD_map_range, if_pos hj]

theorem lyapunov_eq_some (T Sig Om : QMat) (h : lyapunov T Sig = some Om) :
    (∃ x, QMat.solveChecked (QMat.identity (T.rows * T.rows) - QMat.kron T T) (QMat.col (QMat.vec Sig)) = some x ∧
      Om = QMat.unvec T.rows T.rows x.toVec) ∧
    isLyapunov T Sig Om = true ∧ Om.isSymmetric = true := by
  unfold lyapunov at h
  simp only at h
  split at h
  · cases h
  · rename_i x hx
    split at h
    · rename_i hc
      cases h
      exact ⟨⟨x, hx, rfl⟩, by simpa using hc⟩
    · cases h

theorem calA_rows (s : Sol) (hZ : s.Za.rows = s.ny) : (calA s).rows = s.na + s.ny := by
  show (Ta00 s).rows + (s.Za * Ta00 s).rows = _
  rw [QMat.mul_rows, hZ]
  rfl

theorem covTriangular00_dims (s : Sol) (hZ : s.Za.rows = s.ny) (OmS : QMat) :
    (covTriangular00 s OmS).rows = s.na + s.ny ∧ (covTriangular00 s OmS).cols = s.na + s.ny := by
  constructor
  · show (covAlpha00 s OmS).rows + ((covAlpha00 s OmS * s.Za.transpose).transpose).rows = _
    rw [QMat.transpose_rows, QMat.mul_cols, QMat.transpose_cols, hZ]
    rfl
  · show (covAlpha00 s OmS).cols + (covAlpha00 s OmS * s.Za.transpose).cols = _
    rw [QMat.mul_cols, QMat.transpose_cols, hZ]
    rfl

theorem autocovTriangular_dims (s : Sol) (hZ : s.Za.rows = s.ny) (OmS : QMat) (j : Nat) :
    (autocovTriangular s OmS j).rows = s.na + s.ny ∧ (autocovTriangular s OmS j).cols = s.na + s.ny := by
  induction j with
  | zero => exact covTriangular00_dims s hZ OmS
  | succ j ih => exact ⟨(QMat.mul_rows _ _).trans (calA_rows s hZ), (QMat.mul_cols _ _).trans ih.2⟩

theorem acov_eq_map (s : Sol) (sel : List Nat) (k : Nat) :
    acov s sel k = (lyapunov (TaStable s) (sigmaU s)).map fun OmS =>
      (List.range (k + 1)).map fun j => select (fillNaN s (toSquare s (autocovTriangular s OmS j))) sel := by
  unfold acov
  cases lyapunov (TaStable s) (sigmaU s) <;> rfl

end IrisVerif.Acov
