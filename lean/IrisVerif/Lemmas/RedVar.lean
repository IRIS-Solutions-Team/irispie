/-
Helper lemmas for property C18 about the executable VAR model (`Model/RedVar.lean`): the left-to-right sums,
one simulation step, where a residual is a number, what a successful `estimate` is made of.
-/
import IrisVerif.Model.RedVar
import IrisVerif.Lemmas.QMatRefines

namespace IrisVerif.RedVar
open IrisVerif

theorem sumTo_congr {n : Nat} {f g : Nat → Rat} (h : ∀ k, k < n → f k = g k) : sumTo n f = sumTo n g :=
  List.foldl_ext _ _ _ fun a k hk => by rw [h k (List.mem_range.1 hk)]

theorem simStep_rows (s : Spec) (A B : QMat) (c : QVec) (X E P : QMat) (t : Nat) :
    (simStep s A B c X E P t).rows = P.rows ∧ (simStep s A B c X E P t).cols = P.cols := ⟨rfl, rfl⟩

theorem simStep_get (s : Spec) (A B : QMat) (c : QVec) (X E P : QMat) (t i j : Nat)
    (hi : i < P.rows) (hj : j < P.cols) :
    (simStep s A B c X E P t).get i j = if j = t then simValue s A B c X E P i t else P.get i j :=
  QMat.get_ofFn_of_lt _ _ _ _ _ hi hj

/-- the simulated value of period `t` reads the path only in columns before `t` -/
theorem simValue_congr (s : Spec) (A B : QMat) (c : QVec) (X E P D : QMat) (i t : Nat)
    (ht : 1 ≤ t) (hn : s.n = D.rows)
    (hagree : ∀ i j, i < D.rows → j < t → P.get i j = D.get i j) :
    simValue s A B c X E P i t = simValue s A B c X E D i t := by
  have hlag : ∀ r, r < s.numLagged →
      A.get i r * P.get (r % s.n) (t - (r / s.n + 1)) = A.get i r * D.get (r % s.n) (t - (r / s.n + 1)) := fun r hr => by
    rw [hagree _ _ (hn ▸ Nat.mod_lt r (Nat.pos_of_lt_mul_right hr)) (Nat.sub_lt ht (Nat.succ_pos _))]
  unfold simValue
  rw [sumTo_congr hlag]

theorem simulate_dims (s : Spec) (A B : QMat) (c : QVec) (X E P : QMat) (ts : List Nat) :
    (simulate s A B c X E P ts).rows = P.rows ∧ (simulate s A B c X E P ts).cols = P.cols :=
  List.foldlRecOn (motive := fun Q : QMat => Q.rows = P.rows ∧ Q.cols = P.cols) ts _ ⟨rfl, rfl⟩ fun Q h t _ =>
    ⟨(simStep_rows s A B c X E Q t).1.trans h.1, (simStep_rows s A B c X E Q t).2.trans h.2⟩

theorem residual_eq_some (s : Spec) (beta : QMat) (Y X : OMat) (i t : Nat) (hy : (y0 s Y i t).isSome = true)
    (hr : regsFinite s Y X t = true) :
    residual s beta Y X i t = some ((y0 s Y i t).getD 0 - fitAt s beta Y X i t) := by
  unfold residual
  obtain ⟨y, hy⟩ := Option.isSome_iff_exists.1 hy
  rw [hy]
  exact if_pos hr

/-- that `priorScalingOk` held as well is not recorded -/
theorem estimate_unfold (s : Spec) (dof : Bool) (Y X : OMat) (pr : Option (List Prior)) (e : Estimate)
    (h : estimate s dof Y X pr = .ok e) :
    (fitted s Y X).length ≠ 0 ∧
    ∃ beta, ols (lhsFull s Y (fitted s Y X) pr) (rhsFull s Y X (fitted s Y X) pr) = some beta ∧
      ((fitted s Y X).length : Int) - (if dof then (dofCount s : Int) else 0) ≠ 0 ∧
      e = ⟨fitted s Y X, lhsFull s Y (fitted s Y X) pr, rhsFull s Y X (fitted s Y X) pr, beta,
        OMat.ofFn s.n (numBase s Y) (residual s beta Y X),
        covResiduals s (OMat.ofFn s.n (numBase s Y) (residual s beta Y X)) (fitted s Y X)
          (((fitted s Y X).length : Int) - (if dof then (dofCount s : Int) else 0))⟩ := by
  unfold estimate at h
  simp only at h
  split at h
  · cases h
  · rename_i hlen
    split at h
    · cases h
    split at h
    · cases h
    · rename_i beta hols
      by_cases hden : ((fitted s Y X).length : Int) - (if dof then (dofCount s : Int) else 0) = 0
      · rw [if_pos hden] at h; cases h
      · rw [if_neg hden] at h
        injection h with h
        exact ⟨hlen, beta, hols, hden, h.symm⟩

end IrisVerif.RedVar
