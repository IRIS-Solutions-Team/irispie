/-
C02 — the generated AD rules of `Atom` (`Generated/AtomGen.lean`) instantiated at `ℝ`, and a soundness lemma for every rule that the
dispatch tables of `Props/C02.lean` name, except `sqrt` and `maximum` with an Atom floor: for these two this file has the true
derivative (`sqrt_hasDerivAt`, `max_hasDerivAt`); that the generated rules return it is `sqrtFormula_holds`,
`maxFloorFormula_holds` in `Props/C02.lean`.  `power_sound`, `exponential_sound` are about `Atom._power`, `Atom._exponential`,
whose text the generator also inlines into `pow_an_*`, `pow_aa_*`; `mininum` is never reached and has no lemma.

`Rep v d f x` says that the Atom `(v, d)` represents the function `f` at the point `x`: `f x = v` and `f` has
derivative `d` at `x`.  Each lemma has the form "if the operands represent `f`, `g` then the generated rule
represents `f ⊕ g`", under the domain guard the mathematics needs.  The proofs unfold the generated definitions, so
a changed rule in `differentiators.py` re-checks (and, when wrong, breaks) exactly its lemma.
-/
import Mathlib.Analysis.SpecialFunctions.Log.Deriv
import Mathlib.Analysis.SpecialFunctions.Pow.Deriv
import Mathlib.Analysis.SpecialFunctions.ExpDeriv
import Mathlib.Analysis.SpecialFunctions.Sqrt
import IrisVerif.Model.Expr

namespace IrisVerif.AD
open IrisVerif.Gen

/-- the real-number meaning of the abstract symbols of the rules.  `pw` is `Real.rpow`: the generated `pw v 2` has the exponent
    `((2 : ℕ) : ℝ)` (hence `Real.rpow_natCast` below), and `Real.rpow` of a negative base is a number where numpy returns NaN
    (hence the integer-exponent conjuncts of `binGuard` in `Props/C02.lean`) -/
noncomputable instance instADFunReal : ADFun ℝ where
  log := Real.log
  exp := Real.exp
  sqrt := Real.sqrt
  expit x := 1 / (1 + Real.exp (-x))
  pw x y := x ^ y
  ltb a b := decide (a < b)
  eqb a b := decide (a = b)

@[simp] theorem adfun_log (x : ℝ) : ADFun.log x = Real.log x := rfl
@[simp] theorem adfun_exp (x : ℝ) : ADFun.exp x = Real.exp x := rfl
@[simp] theorem adfun_sqrt (x : ℝ) : ADFun.sqrt x = Real.sqrt x := rfl
@[simp] theorem adfun_expit (x : ℝ) : ADFun.expit x = 1 / (1 + Real.exp (-x)) := rfl
@[simp] theorem adfun_pw (x y : ℝ) : ADFun.pw x y = x ^ y := rfl
@[simp] theorem adfun_ltb (x y : ℝ) : ADFun.ltb x y = decide (x < y) := rfl
@[simp] theorem adfun_eqb (x y : ℝ) : ADFun.eqb x y = decide (x = y) := rfl

/-- the Atom `(v, d)` represents `f` at `x` -/
structure Rep (v d : ℝ) (f : ℝ → ℝ) (x : ℝ) : Prop where
  val : f x = v
  der : HasDerivAt f d x

variable {f g : ℝ → ℝ} {x sv sd ov od o : ℝ}

theorem Rep.congr_fun {f' : ℝ → ℝ} (h : Rep sv sd f x) (hf : ∀ y, f' y = f y) : Rep sv sd f' x := by
  obtain rfl : f' = f := funext hf
  exact h

/-- a number is a constant function -/
theorem hasDerivAt_of_const (hg : ∀ y, g y = o) : HasDerivAt g 0 x := by
  obtain rfl : g = fun _ => o := funext hg
  exact hasDerivAt_const x o

/-! ### the rules, one by one

Each proof takes `sv` to be `f x` itself (`Rep.val` by `rfl`); a number operand `o` is the constant function.  Then the
rule's value is the function's value by unfolding and Mathlib's derivative of the operation is the proof, up to the
algebra between the generated `_diff` and Mathlib's formula. -/

theorem pos_sound (hf : Rep sv sd f x) : Rep (Atom.pos_value sv sd) (Atom.pos_diff sv sd) f x := hf

theorem neg_sound (hf : Rep sv sd f x) :
    Rep (Atom.neg_value sv sd) (Atom.neg_diff sv sd) (fun y => -f y) x := by
  obtain ⟨rfl, hf⟩ := hf
  exact ⟨rfl, hf.neg⟩

theorem add_aa_sound (hf : Rep sv sd f x) (hg : Rep ov od g x) :
    Rep (Atom.add_aa_value sv sd ov od) (Atom.add_aa_diff sv sd ov od) (fun y => f y + g y) x := by
  obtain ⟨rfl, hf⟩ := hf
  obtain ⟨rfl, hg⟩ := hg
  exact ⟨rfl, hf.add hg⟩

theorem add_an_sound (hf : Rep sv sd f x) :
    Rep (Atom.add_an_value sv sd o) (Atom.add_an_diff sv sd o) (fun y => f y + o) x := by
  obtain ⟨rfl, hf⟩ := hf
  exact ⟨rfl, hf.add_const o⟩

theorem sub_aa_sound (hf : Rep sv sd f x) (hg : Rep ov od g x) :
    Rep (Atom.sub_aa_value sv sd ov od) (Atom.sub_aa_diff sv sd ov od) (fun y => f y - g y) x := by
  obtain ⟨rfl, hf⟩ := hf
  obtain ⟨rfl, hg⟩ := hg
  exact ⟨rfl, hf.sub hg⟩

theorem sub_an_sound (hf : Rep sv sd f x) :
    Rep (Atom.sub_an_value sv sd o) (Atom.sub_an_diff sv sd o) (fun y => f y - o) x := by
  obtain ⟨rfl, hf⟩ := hf
  exact ⟨rfl, hf.sub_const o⟩

theorem mul_aa_sound (hf : Rep sv sd f x) (hg : Rep ov od g x) :
    Rep (Atom.mul_aa_value sv sd ov od) (Atom.mul_aa_diff sv sd ov od) (fun y => f y * g y) x := by
  obtain ⟨rfl, hf⟩ := hf
  obtain ⟨rfl, hg⟩ := hg
  exact ⟨rfl, hf.mul hg⟩

theorem mul_an_sound (hf : Rep sv sd f x) :
    Rep (Atom.mul_an_value sv sd o) (Atom.mul_an_diff sv sd o) (fun y => f y * o) x := by
  obtain ⟨rfl, hf⟩ := hf
  exact ⟨rfl, hf.mul_const o⟩

/-- number * Atom goes through `__rmul__ = __mul__`: the product is commuted -/
theorem rmul_sound (hf : Rep sv sd f x) :
    Rep (Atom.mul_an_value sv sd o) (Atom.mul_an_diff sv sd o) (fun y => o * f y) x :=
  (mul_an_sound hf).congr_fun (fun _ => mul_comm _ _)

/-- number + Atom goes through `__radd__ = __add__` -/
theorem radd_sound (hf : Rep sv sd f x) :
    Rep (Atom.add_an_value sv sd o) (Atom.add_an_diff sv sd o) (fun y => o + f y) x :=
  (add_an_sound hf).congr_fun (fun _ => add_comm _ _)

theorem truediv_aa_sound (hf : Rep sv sd f x) (hg : Rep ov od g x) (h0 : ov ≠ 0) :
    Rep (Atom.truediv_aa_value sv sd ov od) (Atom.truediv_aa_diff sv sd ov od) (fun y => f y / g y) x := by
  obtain ⟨rfl, hf⟩ := hf
  obtain ⟨rfl, hg⟩ := hg
  refine ⟨rfl, (hf.div hg h0).congr_deriv ?_⟩
  simp only [Atom.truediv_aa_diff, adfun_pw, Real.rpow_natCast]

theorem truediv_an_sound (hf : Rep sv sd f x) :
    Rep (Atom.truediv_an_value sv sd o) (Atom.truediv_an_diff sv sd o) (fun y => f y / o) x := by
  obtain ⟨rfl, hf⟩ := hf
  exact ⟨rfl, hf.div_const o⟩

theorem rtruediv_sound (hf : Rep sv sd f x) (h0 : sv ≠ 0) :
    Rep (Atom.rtruediv_value sv sd o) (Atom.rtruediv_diff sv sd o) (fun y => o / f y) x := by
  obtain ⟨rfl, hf⟩ := hf
  refine ⟨rfl, ((hasDerivAt_const x o).div hf h0).congr_deriv ?_⟩
  simp only [Atom.rtruediv_diff, adfun_pw, Real.rpow_natCast, zero_mul, zero_sub, neg_mul]

theorem rsub_sound (hf : Rep sv sd f x) :
    Rep (Atom.rsub_value sv sd o) (Atom.rsub_diff sv sd o) (fun y => o - f y) x := by
  obtain ⟨rfl, hf⟩ := hf
  exact ⟨sub_eq_neg_add o (f x), hf.const_sub o⟩

/-- `Atom._power`: `self ** number` -/
theorem power_sound (hf : Rep sv sd f x) (h0 : sv ≠ 0 ∨ 1 ≤ o) :
    Rep (Atom.power_value sv sd o) (Atom.power_diff sv sd o) (fun y => f y ^ o) x := by
  obtain ⟨rfl, hf⟩ := hf
  refine ⟨rfl, (hf.rpow_const h0).congr_deriv ?_⟩
  simp only [Atom.power_diff, adfun_pw, Nat.cast_one]
  ring

theorem pow_an_sound (hf : Rep sv sd f x) (h0 : sv ≠ 0 ∨ 1 ≤ o) :
    Rep (Atom.pow_an_value sv sd o) (Atom.pow_an_diff sv sd o) (fun y => f y ^ o) x :=
  power_sound hf h0

/-- `Atom._exponential`: `number ** self` (only reached from `__pow__` of two Atoms) -/
theorem exponential_sound (hf : Rep sv sd f x) (hg : ∀ y, g y = o) (h0 : 0 < o) :
    Rep (Atom.exponential_value sv sd o) (Atom.exponential_diff sv sd o) (fun y => g y ^ f y) x := by
  obtain ⟨rfl, hf⟩ := hf
  obtain rfl : g = fun _ => o := funext hg
  refine ⟨rfl, (hf.const_rpow h0).congr_deriv ?_⟩
  simp only [Atom.exponential_diff, adfun_pw, adfun_log]
  ring

theorem pow_aa_sound (hf : Rep sv sd f x) (hg : Rep ov od g x) (h0 : 0 < sv) :
    Rep (Atom.pow_aa_value sv sd ov od) (Atom.pow_aa_diff sv sd ov od) (fun y => f y ^ g y) x := by
  obtain ⟨rfl, hf⟩ := hf
  obtain ⟨rfl, hg⟩ := hg
  refine ⟨rfl, (hf.rpow hg h0).congr_deriv ?_⟩
  simp only [Atom.pow_aa_diff, adfun_pw, adfun_log, Nat.cast_one]
  ring

theorem log_sound (hf : Rep sv sd f x) (h0 : sv ≠ 0) :
    Rep (Atom.log_value sv sd) (Atom.log_diff sv sd) (fun y => Real.log (f y)) x := by
  obtain ⟨rfl, hf⟩ := hf
  refine ⟨rfl, (hf.log h0).congr_deriv ?_⟩
  simp only [Atom.log_diff, Nat.cast_one]
  ring

theorem exp_sound (hf : Rep sv sd f x) :
    Rep (Atom.exp_value sv sd) (Atom.exp_diff sv sd) (fun y => Real.exp (f y)) x := by
  obtain ⟨rfl, hf⟩ := hf
  exact ⟨rfl, hf.exp⟩

theorem logistic_sound (hf : Rep sv sd f x) :
    Rep (Atom.logistic_value sv sd) (Atom.logistic_diff sv sd) (fun y => 1 / (1 + Real.exp (-f y))) x := by
  obtain ⟨rfl, hf⟩ := hf
  have hpos : 1 + Real.exp (-f x) ≠ 0 := by positivity
  refine ⟨rfl, ((hasDerivAt_const x (1 : ℝ)).div (hf.fun_neg.exp.const_add 1) hpos).congr_deriv ?_⟩
  simp only [Atom.logistic_diff, adfun_expit, Nat.cast_one]
  field_simp
  ring

theorem max_eventuallyEq_left (hf : ContinuousAt f x) (hg : ContinuousAt g x) (h : g x < f x) :
    (fun y => max (f y) (g y)) =ᶠ[nhds x] f := by
  filter_upwards [hg.eventually_lt hf h] with y hy using max_eq_left hy.le

/-- the true derivative of `max f g` away from the kink (what a correct `maximum` rule must return) -/
theorem max_hasDerivAt (hf : Rep sv sd f x) (hg : Rep ov od g x) (hne : sv ≠ ov) :
    HasDerivAt (fun y => max (f y) (g y)) (if sv < ov then od else sd) x := by
  obtain ⟨rfl, hf⟩ := hf
  obtain ⟨rfl, hg⟩ := hg
  rcases lt_or_gt_of_ne hne with h | h
  · rw [if_pos h]
    refine hg.congr_of_eventuallyEq ?_
    simpa only [max_comm (f _) (g _)] using max_eventuallyEq_left hg.continuousAt hf.continuousAt h
  · rw [if_neg (not_lt_of_gt h)]
    exact hf.congr_of_eventuallyEq (max_eventuallyEq_left hf.continuousAt hg.continuousAt h)

/-- the text of `maximum`'s value for an Atom and for a number floor, and of the model's `numpy.maximum` on numbers (`evalFn2`) -/
theorem ite_ltb_eq_max (a b : ℝ) : (if ADFun.ltb a b then b else a) = max a b := by
  rw [max_def_lt]
  simp only [adfun_ltb, decide_eq_true_eq]

theorem maximum_aa_value_eq : Atom.maximum_aa_value sv sd ov od = max sv ov :=
  ite_ltb_eq_max sv ov

/-- a number floor is an Atom floor with derivative `0` -/
theorem maximum_an_sound (hf : Rep sv sd f x) (hne : sv ≠ o) :
    Rep (Atom.maximum_an_value sv sd o) (Atom.maximum_an_diff sv sd o) (fun y => max (f y) o) x := by
  have hg : Rep o 0 (fun _ => o) x := ⟨rfl, hasDerivAt_const x o⟩
  refine ⟨?_, (max_hasDerivAt hf hg hne).congr_deriv ?_⟩
  · rw [hf.val, Atom.maximum_an_value, ite_ltb_eq_max]
  -- the generated multiplier of `sd` is `0` below the floor and `1` above it
  · rcases lt_or_gt_of_ne hne with h | h
    · simp [Atom.maximum_an_diff, h]
    · simp [Atom.maximum_an_diff, h, not_lt_of_gt h]

/-- the true derivative of `sqrt f` (what a correct `sqrt` rule must return) -/
theorem sqrt_hasDerivAt (hf : Rep sv sd f x) (h0 : 0 < sv) :
    HasDerivAt (fun y => Real.sqrt (f y)) (sd / (2 * Real.sqrt sv)) x := by
  obtain ⟨rfl, hf⟩ := hf
  exact hf.sqrt h0.ne'

/-- every pair `(v, d)` is represented by some function: the affine one -/
theorem rep_affine (v d x : ℝ) : Rep v d (fun y => v + d * (y - x)) x :=
  ⟨by simp, by simpa using (((hasDerivAt_id x).sub_const x).const_mul d).const_add v⟩

/-- `finite_differentiators._get_epsilon`: the step `max(|value|, 1) · 1e-6` -/
noncomputable def getEpsilon (v : ℝ) : ℝ := max |v| 1 * (1 / 1000000)

theorem getEpsilon_pos (v : ℝ) : 0 < getEpsilon v :=
  mul_pos (lt_of_lt_of_le one_pos (le_max_right _ _)) (by norm_num)

/-- a separable quadratic in any number of arguments: `Σ_k (a_k x_k² + b_k x_k)` (coefficients `(a_k, b_k)`): the user
    context functions on which `userCallNDiff` is shown exact for every number of arguments (`userCallN_sepQuad_exact`) -/
def sepQuad : List (ℝ × ℝ) → List ℝ → ℝ
  | (a, b) :: cs, x :: xs => a * x ^ 2 + b * x + sepQuad cs xs
  | _, _ => 0

/-- its gradient contracted with the inner derivatives: `Σ_k (2 a_k v_k + b_k) d_k` -/
def sepQuadDiff : List (ℝ × ℝ) → List (ℝ × ℝ × ℝ) → ℝ
  | (a, b) :: cs, (v, d, _) :: rest => (2 * a * v + b) * d + sepQuadDiff cs rest
  | _, _ => 0

end IrisVerif.AD
