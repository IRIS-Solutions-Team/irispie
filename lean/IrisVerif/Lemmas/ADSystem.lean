/-
C02 — what `scatterAssign` and `scatterSum` of `Model/ADSystem.lean` leave in one cell, duplicate-freeness of the static map of
`Model/Expr.lean`, and where row `k` of block `i` lies in a stack of blocks (`flatMap_getElem_offset`; equal block sizes:
`flatten_getElem_uniform`).
-/
import Mathlib.Data.Real.Basic
import IrisVerif.Lemmas.ADMaps
import IrisVerif.Model.ADSystem

namespace IrisVerif.AD

theorem scatterAssign_eq_ite {α : Type} (td : Nat → Nat → α) (r c : Nat) (v : α) (l : List Entry) (z : α)
    (hall : ∀ en ∈ l, en.lhsRow = r ∧ en.lhsCol = c → td en.rhsRow en.rhsCol = v) :
    scatterAssign l td z r c = if (∃ en ∈ l, en.lhsRow = r ∧ en.lhsCol = c) then v else z := by
  unfold scatterAssign
  induction l generalizing z with
  | nil => simp
  | cons x xs ih =>
    rw [List.foldl_cons, ih _ fun en h => hall en (List.mem_cons_of_mem _ h)]
    by_cases hx : x.lhsRow = r ∧ x.lhsCol = c
    · rw [if_pos hx, hall x List.mem_cons_self hx, ite_self, if_pos ⟨x, List.mem_cons_self, hx⟩]
    · simp [hx]

theorem scatterSum_eq_add_sum (td : Nat → Nat → ℝ) (r c : Nat) (l : List Entry) (z : ℝ) :
    scatterSum l td z r c
      = z + ((l.filter (fun en => decide (en.lhsRow = r ∧ en.lhsCol = c))).map (fun en => td en.rhsRow en.rhsCol)).sum := by
  unfold scatterSum
  induction l generalizing z with
  | nil => simp
  | cons x xs ih =>
    simp only [List.foldl_cons]
    rw [ih]
    by_cases hx : x.lhsRow = r ∧ x.lhsCol = c
    · simp [hx, add_assoc]
    · simp [hx]

theorem rawMapAux_nodup (cols : List (Option Token)) (row r : Nat) (wrt : List Token) :
    (rawMapAux cols row r wrt).Nodup := by
  induction wrt generalizing r with
  | nil => exact List.nodup_nil
  | cons t ts ih =>
    rw [rawMapAux]
    split
    · refine List.nodup_cons.mpr ⟨fun hm => ?_, ih (r + 1)⟩
      obtain ⟨k, _, _, h⟩ := (mem_rawMapAux cols row (r + 1) ts _).mp hm
      exact absurd (congrArg Entry.rhsRow h) (by simp only; omega)
    · exact ih (r + 1)

theorem staticMapAux_nodup (cols : List (Option Token)) (row : Nat) (eqs : List (List Token × Nat)) :
    (staticMapAux cols row eqs).Nodup := by
  induction eqs generalizing row with
  | nil => exact List.nodup_nil
  | cons p rest ih =>
    rw [staticMapAux, List.nodup_append]
    refine ⟨rawMapAux_nodup .., ih (row + 1), fun a ha b hb hab => ?_⟩
    obtain ⟨_, _, _, rfl⟩ := (mem_rawMapAux ..).mp ha
    obtain ⟨i, _, hb⟩ := (mem_staticMapAux ..).mp hb
    obtain ⟨_, _, _, rfl⟩ := (mem_rawMapAux ..).mp hb
    exact absurd (congrArg Entry.lhsRow hab) (by simp only; omega)

theorem flatMap_getElem_offset {β γ : Type} (f : β → List γ) (l : List β) (i : Nat) (hi : i < l.length) (k : Nat)
    (hk : k < (f l[i]).length) :
    (l.flatMap f)[((l.take i).map (fun b => (f b).length)).sum + k]? = (f l[i])[k]? := by
  have e : l.flatMap f = (l.take i).flatMap f ++ (f l[i] ++ (l.drop (i + 1)).flatMap f) := by
    rw [← List.flatMap_cons, ← List.flatMap_append, List.getElem_cons_drop, List.take_append_drop]
  rw [e, List.getElem?_append_right (by rw [List.length_flatMap]; exact Nat.le_add_right _ _), List.length_flatMap,
    Nat.add_sub_cancel_left, List.getElem?_append_left hk]

/-- rows of uniformly sized blocks stacked on top of each other: row `k * n + p` of the stack is row `p` of block `k` -/
theorem flatten_getElem_uniform {ρ : Type} (blocks : List (List ρ)) (n : Nat) (hn : ∀ b ∈ blocks, b.length = n)
    (k p : Nat) (hk : k < blocks.length) (hp : p < n) :
    blocks.flatten[k * n + p]? = blocks[k][p]? := by
  have hrep : (blocks.take k).map List.length = List.replicate k n := by
    refine List.eq_replicate_iff.mpr ⟨by rw [List.length_map, List.length_take_of_le hk.le], fun x hx => ?_⟩
    obtain ⟨b, hb, rfl⟩ := List.mem_map.mp hx
    exact hn b (List.mem_of_mem_take hb)
  have hsum : ((blocks.take k).map List.length).sum = k * n := by
    rw [hrep, List.sum_replicate_nat]
  rw [← List.flatMap_id, ← hsum]
  exact flatMap_getElem_offset id blocks k hk p (by rw [id, hn _ (List.getElem_mem hk)]; exact hp)

end IrisVerif.AD
