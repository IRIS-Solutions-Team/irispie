/-
The ownership invariant of the model/variant heap (C20): every variant object owns its two dicts -- the two lie
below the allocation pointer (`lt`), are distinct (`ne`), and no other variant object points to either of them (`sep`).
It holds in the empty heap and is kept by each of the elementary writes (`Write.owned`), hence by every operation of
the language (`step_owned`), so it holds after any history.
-/
import IrisVerif.Lemmas.Heap

namespace IrisVerif.Heap

structure Owned (h : Heap) : Prop where
  wf : h.WF
  lt : ∀ (v l c : Nat) (s : Option Nat), h.get v = some (.var l c s) → l < h.next ∧ c < h.next
  ne : ∀ (v l c : Nat) (s : Option Nat), h.get v = some (.var l c s) → l ≠ c
  sep : ∀ (v1 v2 l1 c1 : Nat) (s1 : Option Nat) (l2 c2 : Nat) (s2 : Option Nat), h.get v1 = some (.var l1 c1 s1) → h.get v2 = some (.var l2 c2 s2) → v1 ≠ v2 →
    l1 ≠ l2 ∧ l1 ≠ c2 ∧ c1 ≠ l2 ∧ c1 ≠ c2

theorem Owned.empty : Owned Heap.empty where
  wf := fun _ _ => rfl
  lt := nofun
  ne := nofun
  sep := nofun

/-- a heap whose variant objects are (up to their solution field) variant objects of an owned heap is owned -/
theorem Owned.of_same_vars {h h' : Heap} (o : Owned h) (hw : h'.WF) (hn : h.next ≤ h'.next)
    (hv : ∀ v l c s, h'.get v = some (.var l c s) → ∃ s', h.get v = some (.var l c s')) : Owned h' where
  wf := hw
  lt v l c s hg :=
    have ⟨s', hg'⟩ := hv v l c s hg
    ⟨Nat.lt_of_lt_of_le (o.lt v l c s' hg').1 hn, Nat.lt_of_lt_of_le (o.lt v l c s' hg').2 hn⟩
  ne v l c s hg :=
    have ⟨s', hg'⟩ := hv v l c s hg
    o.ne v l c s' hg'
  sep v1 v2 l1 c1 s1 l2 c2 s2 h1 h2 hne :=
    have ⟨s1', h1'⟩ := hv v1 l1 c1 s1 h1
    have ⟨s2', h2'⟩ := hv v2 l2 c2 s2 h2
    o.sep v1 v2 l1 c1 s1' l2 c2 s2' h1' h2' hne

theorem Heap.get_alloc_var {h : Heap} {ob : Obj} {v l c : Ref} {s : Option Ref} (hv : ob.isVar = false)
    (hg : (h.alloc ob).2.get v = some (.var l c s)) : h.get v = some (.var l c s) := by
  rw [Heap.get_alloc] at hg
  split at hg
  · cases hg
    cases hv
  · exact hg

/-- the variant object is allocated last, after objects that are not variant objects -/
theorem Heap.allocVariant_eq (h : Heap) (o : VarObs) : ∃ (hp : Heap) (s : Option Ref), h.allocVariant o = hp.alloc (.var h.next (h.next + 1) s) ∧
    ∀ {v l c s'}, hp.get v = some (.var l c s') → h.get v = some (.var l c s') := by
  obtain ⟨lv, cv, _ | sd⟩ := o
  · exact ⟨_, _, rfl, fun hg => Heap.get_alloc_var rfl (Heap.get_alloc_var rfl hg)⟩
  · exact ⟨_, _, rfl, fun hg => Heap.get_alloc_var rfl (Heap.get_alloc_var rfl (Heap.get_alloc_var rfl hg))⟩

/-- a new variant comes with two new dicts: distinct, allocated, and no older variant object can point to them -/
theorem Owned.allocVariant {h : Heap} (o : Owned h) (ob : VarObs) : Owned (h.allocVariant ob).2 := by
  obtain ⟨f1, f2⟩ := h.allocVariant_fresh ob
  have key : ∀ (v l c : Nat) (s : Option Nat), (h.allocVariant ob).2.get v = some (.var l c s) →
      (h.get v = some (.var l c s) ∧ l < h.next ∧ c < h.next) ∨ (v = (h.allocVariant ob).1 ∧ l = h.next ∧ c = h.next + 1) := by
    intro v l c s hg
    obtain ⟨hp, s', hp', hold⟩ := h.allocVariant_eq ob
    rw [hp', Heap.get_alloc] at hg
    rw [hp']
    split at hg
    · rename_i hv
      cases hg
      exact Or.inr ⟨hv, rfl, rfl⟩
    · exact Or.inl ⟨hold hg, o.lt v l c s (hold hg)⟩
  refine ⟨((Ext.triv o.wf).allocVariant ob).wf, fun v l c s hg => ?_, fun v l c s hg => ?_,
    fun v1 v2 l1 c1 s1 l2 c2 s2 h1 h2 hne => ?_⟩
  · rcases key v l c s hg with ⟨_, hl, hc⟩ | ⟨_, rfl, rfl⟩ <;> omega
  · rcases key v l c s hg with ⟨hg', _⟩ | ⟨_, rfl, rfl⟩
    · exact o.ne v l c s hg'
    · omega
  · rcases key v1 l1 c1 s1 h1 with ⟨g1, _, _⟩ | ⟨e1, rfl, rfl⟩ <;>
      rcases key v2 l2 c2 s2 h2 with ⟨g2, _, _⟩ | ⟨e2, rfl, rfl⟩
    · exact o.sep v1 v2 l1 c1 s1 l2 c2 s2 g1 g2 hne
    · omega
    · omega
    · exact absurd (e1.trans e2.symm) hne

theorem Write.owned {W : Ref → Prop} {n0 : Nat} {h h' : Heap} (o : Owned h) (w : Write W n0 h h') : Owned h' := by
  cases w with
  | alloc ob hv _ =>
    exact o.of_same_vars (o.wf.alloc ob) (Nat.le_succ _) fun v l c s hg => ⟨s, Heap.get_alloc_var hv hg⟩
  | allocVariant ob => exact o.allocVariant ob
  | set ob hx _ _ hv _ =>
    refine o.of_same_vars (o.wf.set hx ob) (Nat.le_refl _) fun v l c s hg => ?_
    rw [Heap.get_set] at hg
    split at hg
    · cases hg
      cases hv
    · exact ⟨s, hg⟩
  | setSol sr hx _ _ =>
    refine o.of_same_vars (o.wf.set hx _) (Nat.le_refl _) fun v l c s hg => ?_
    rw [Heap.get_set] at hg
    split at hg
    · cases hg
      exact ⟨_, ‹v = _› ▸ hx⟩
    · exact ⟨s, hg⟩

theorem Writes.owned {W : Ref → Prop} {n0 : Nat} {h h' : Heap} (w : Writes W n0 h h') (o : Owned h) : Owned h' :=
  w.keep Write.owned o

/-- every operation of the language preserves ownership: it is an invariant of the operation semantics -/
theorem step_owned (fs : Funs) {h h' : Heap} (o : Owned h) (op : Op) {r : Option Nat}
    (hr : step fs h op = .ok (r, h')) : Owned h' :=
  (step_writes fs (Ext.top o.wf) op (Or.inl trivial) hr).1.owned o

theorem newModel_owned {h : Heap} (o : Owned h) (d : InvData) : Owned (newModel h d).2 :=
  (newModel_writes (W := fun _ => True) h d (Nat.le_refl _)).owned o

end IrisVerif.Heap
