/-
Refinement lemmas tying the executable model `IrisVerif.HP` (over `QMat`, core `Rat`) to the Mathlib-level
matrices of `IrisVerif.HPMatrix` / `Props/C14.lean`: entry formulas of `hpK`, `plainF`,
the bordered system matrix `sysMatrix` (closed form, block by block), the right-hand side, and what
`filterData` returns; then `log=True` as `exp ∘ hpf ∘ log` on `filterData`, and `get_encompassing_span`
(`encompassing`: each end bounds its candidates and is one of them, hence idempotence) with what `setup` draws from it.
-/
import IrisVerif.Model.HP
import IrisVerif.Lemmas.HPMatrix
import IrisVerif.Lemmas.QMatViews
import IrisVerif.Lemmas.Lists
import Mathlib.Data.Rat.Defs
import Mathlib.Logic.Equiv.Fin.Basic

namespace IrisVerif.HPModel

open IrisVerif IrisVerif.HP IrisVerif.HPMatrix Matrix

theorem get_ofFn_row_out (r c : Nat) (f : Nat → Nat → Rat) (i j : Nat) (hi : r ≤ i) :
    (QMat.ofFn r c f).get i j = 0 :=
  QMat.get_ofFn_of_not r c f i j fun h => Nat.not_lt.2 hi h.1

theorem get_ofFn_col_out (r c : Nat) (f : Nat → Nat → Rat) (i j : Nat) (hj : c ≤ j) :
    (QMat.ofFn r c f).get i j = 0 :=
  QMat.get_ofFn_of_not r c f i j fun h => Nat.not_lt.2 hj h.2

theorem get_sub (a b : QMat) (i j : Nat) (hi : i < a.rows) (hj : j < a.cols) :
    (a - b).get i j = a.get i j - b.get i j := by
  rw [QMat.get_sub, if_pos ⟨hi, hj⟩]

theorem eqv_dims (a b : QMat) (h : QMat.eqv a b = true) : a.rows = b.rows ∧ a.cols = b.cols :=
  ⟨((QMat.eqv_iff_get a b).1 h).1, ((QMat.eqv_iff_get a b).1 h).2.1⟩

theorem solveChecked_dims {a b x : QMat} (h : QMat.solveChecked a b = some x) : x.rows = a.rows ∧ x.cols = b.cols := by
  obtain ⟨_, _, hr, hc, _⟩ := QMat.solve_dims a b x (QMat.solveChecked_eq_some a b x h).1
  exact ⟨hr, hc⟩

theorem col_rows (v : QVec) : (QMat.col v).rows = v.size := QMat.col_rows v

/-! ### The second-difference matrix: entry formula by proof -/

theorem kEntry_eq (i j : Nat) : HP.kEntry i j = (kEntryK i j : ℚ) := by
  unfold HP.kEntry kEntryK; rfl

theorem hpK_get (n i j : Nat) (hi : i < n - 2) (hj : j < n) :
    (hpK n).get i j = (Kmat n : Matrix _ _ ℚ) ⟨i, hi⟩ ⟨j, hj⟩ := by
  unfold hpK Kmat
  rw [QMat.get_ofFn_of_lt _ _ _ _ _ hi hj, kEntry_eq]

theorem hpK_rows (n : Nat) : (hpK n).rows = n - 2 := rfl
theorem hpK_cols (n : Nat) : (hpK n).cols = n := rfl

theorem hpK_views (n : Nat) : (hpK n).Views (Kmat n : Matrix _ _ ℚ) :=
  ⟨rfl, rfl, Matrix.ext fun i j => hpK_get n i j i.isLt j.isLt⟩

theorem plainF_views (n : Nat) (lam : Rat) :
    (plainF n lam).Views (lam • ((Kmat n)ᵀ * Kmat n) : Matrix (Fin n) (Fin n) ℚ) :=
  ((hpK_views n).transpose.mul (hpK_views n)).smul lam

theorem plainF_get (n : Nat) (lam : Rat) (i j : Nat) (hi : i < n) (hj : j < n) :
    (plainF n lam).get i j = (lam • ((Kmat n)ᵀ * Kmat n) : Matrix (Fin n) (Fin n) ℚ) ⟨i, hi⟩ ⟨j, hj⟩ :=
  congrFun (congrFun (plainF_views n lam).toMat ⟨i, hi⟩) ⟨j, hj⟩

theorem plainF_rows (n : Nat) (lam : Rat) : (plainF n lam).rows = n := rfl
theorem plainF_cols (n : Nat) (lam : Rat) : (plainF n lam).cols = n := rfl

/-! ### Bordering with constraint rows and columns -/

/-- entries of `hstack (vstack F R) Cc` where `R` holds the pattern rows and `Cc` the same patterns as columns -/
theorem get_border (F : QMat) (nr nc : Nat) (hnr : F.rows = nr) (hnc : F.cols = nc)
    (k : Nat) (pat : Nat → Nat → Rat) (i j : Nat) (hi : i < nr + k) (hj : j < nc + k) :
    (QMat.hstack (QMat.vstack F (QMat.ofFn k nc (fun a c => pat a c)))
        (QMat.ofFn (nr + k) k (fun r a => pat a r))).get i j
      = if j < nc then (if i < nr then F.get i j else pat (i - nr) j) else pat (j - nc) i := by
  subst hnr hnc
  rw [QMat.get_hstack, if_pos ⟨hi, hj⟩]
  show (if j < F.cols then _ else QMat.get _ i (j - F.cols)) = _
  refine ite_congr rfl (fun hjc => ?_) (fun hjc => QMat.get_ofFn_of_lt _ _ _ _ _ hi (by omega))
  rw [QMat.get_vstack, if_pos ⟨hi, hjc⟩]
  exact ite_congr rfl (fun _ => rfl) (fun hir => QMat.get_ofFn_of_lt _ _ _ _ _ (by omega) hjc)

theorem addLevel_rows (n : Nat) (F : QMat) (lw : List Nat) : (addLevel n F lw).rows = F.rows + lw.length := by
  unfold addLevel
  split
  · next h => rw [List.isEmpty_iff.1 h]; rfl
  · rfl

theorem addLevel_cols (n : Nat) (F : QMat) (lw : List Nat) : (addLevel n F lw).cols = F.cols + lw.length := by
  unfold addLevel
  split
  · next h => rw [List.isEmpty_iff.1 h]; rfl
  · rfl

theorem addChange_rows (F : QMat) (cw : List Nat) : (addChange F cw).rows = F.rows + cw.length := by
  unfold addChange
  split
  · next h => rw [List.isEmpty_iff.1 h]; rfl
  · rfl

theorem addChange_cols (F : QMat) (cw : List Nat) : (addChange F cw).cols = F.cols + cw.length := by
  unfold addChange
  split
  · next h => rw [List.isEmpty_iff.1 h]; rfl
  · rfl

theorem addLevel_get (n : Nat) {F : QMat} (hr : F.rows = n) (hc : F.cols = n) {lw : List Nat} {i j : Nat}
    (hi : i < n + lw.length) (hj : j < n + lw.length) :
    (addLevel n F lw).get i j
      = if j < n then (if i < n then F.get i j else levelPat (lw.getD (i - n) 0) j)
        else levelPat (lw.getD (j - n) 0) i := by
  unfold addLevel
  split
  · next h =>
    obtain rfl := List.isEmpty_iff.1 h
    rw [if_pos (show j < n from hj), if_pos (show i < n from hi)]
  · exact get_border F n n hr hc lw.length (fun x c => levelPat (lw.getD x 0) c) i j hi hj

theorem addChange_get {F : QMat} {cw : List Nat} {i j : Nat}
    (hi : i < F.rows + cw.length) (hj : j < F.cols + cw.length) :
    (addChange F cw).get i j
      = if j < F.cols then (if i < F.rows then F.get i j else changePat (cw.getD (i - F.rows) 0) j)
        else changePat (cw.getD (j - F.cols) 0) i := by
  unfold addChange
  split
  · next h =>
    obtain rfl := List.isEmpty_iff.1 h
    rw [if_pos (show j < F.cols from hj), if_pos (show i < F.rows from hi)]
  · exact get_border F F.rows F.cols rfl rfl cw.length (fun x c => changePat (cw.getD x 0) c) i j hi hj

theorem addEye_get {n : Nat} {F : QMat} {y : Array (Option Rat)} {i j : Nat} (hi : i < F.rows) (hj : j < F.cols) :
    (addEye n F y).get i j = F.get i j + (if i = j ∧ i < n ∧ (y.getD i none).isSome then 1 else 0) := by
  unfold addEye; rw [QMat.get_ofFn_of_lt _ _ _ _ _ hi hj]

theorem sysMatrix_rows (n : Nat) (lam : Rat) (lw cw : List Nat) (y : Array (Option Rat)) :
    (sysMatrix n lam lw cw y).rows = n + lw.length + cw.length := by
  show (addChange (addLevel n (plainF n lam) lw) cw).rows = _
  rw [addChange_rows, addLevel_rows, plainF_rows]

theorem sysMatrix_cols (n : Nat) (lam : Rat) (lw cw : List Nat) (y : Array (Option Rat)) :
    (sysMatrix n lam lw cw y).cols = n + lw.length + cw.length := by
  show (addChange (addLevel n (plainF n lam) lw) cw).cols = _
  rw [addChange_cols, addLevel_cols, plainF_cols]

/-- **Closed form of the model's system matrix** (all entries):
top-left `λKᵀK + diag(obs)`, then the level patterns, then the change patterns, mirrored, zero corner. -/
theorem sysMatrix_get (n : Nat) (lam : Rat) (lw cw : List Nat) (y : Array (Option Rat)) (i j : Nat)
    (hi : i < n + lw.length + cw.length) (hj : j < n + lw.length + cw.length) :
    (sysMatrix n lam lw cw y).get i j =
      (if j < n + lw.length then
          (if i < n + lw.length then
            (if j < n then (if i < n then (plainF n lam).get i j else levelPat (lw.getD (i - n) 0) j)
             else levelPat (lw.getD (j - n) 0) i)
           else changePat (cw.getD (i - (n + lw.length)) 0) j)
        else changePat (cw.getD (j - (n + lw.length)) 0) i)
      + (if i = j ∧ i < n ∧ (y.getD i none).isSome then 1 else 0) := by
  have hr : (addLevel n (plainF n lam) lw).rows = n + lw.length := by rw [addLevel_rows, plainF_rows]
  have hc : (addLevel n (plainF n lam) lw).cols = n + lw.length := by rw [addLevel_cols, plainF_cols]
  unfold sysMatrix initF
  rw [addEye_get (by rwa [addChange_rows, hr]) (by rwa [addChange_cols, hc]),
    addChange_get (by rwa [hr]) (by rwa [hc]), hr, hc]
  refine congrArg (· + _) ?_
  refine ite_congr rfl (fun hjN => ?_) (fun _ => rfl)
  refine ite_congr rfl (fun hiN => ?_) (fun _ => rfl)
  exact addLevel_get n (plainF_rows n lam) (plainF_cols n lam) hiN hjN

/-! Outside the trend block the closed form is a single constraint pattern: a level column or row
holds its level pattern, a change column or row its change pattern.  Offsets are variables: `i`, `j` range over a whole
side of the matrix, so each lemma covers every block the column (row) crosses. -/

theorem sysMatrix_get_levelCol (n : Nat) (lam : Rat) (lw cw : List Nat) (y : Array (Option Rat)) (i b : Nat)
    (hi : i < n + lw.length) (hb : b < lw.length) :
    (sysMatrix n lam lw cw y).get i (n + b) = levelPat (lw.getD b 0) i := by
  rw [sysMatrix_get n lam lw cw y _ _ (by omega) (by omega), if_pos (by omega), if_pos hi, if_neg (by omega),
    if_neg (by omega), Nat.add_sub_cancel_left, add_zero]

theorem sysMatrix_get_levelRow (n : Nat) (lam : Rat) (lw cw : List Nat) (y : Array (Option Rat)) (a j : Nat)
    (ha : a < lw.length) (hj : j < n) :
    (sysMatrix n lam lw cw y).get (n + a) j = levelPat (lw.getD a 0) j := by
  rw [sysMatrix_get n lam lw cw y _ _ (by omega) (by omega), if_pos (by omega), if_pos (by omega), if_pos hj,
    if_neg (by omega), if_neg (by omega), Nat.add_sub_cancel_left, add_zero]

theorem sysMatrix_get_changeCol (n : Nat) (lam : Rat) (lw cw : List Nat) (y : Array (Option Rat)) (i b : Nat)
    (hi : i < n + lw.length + cw.length) (hb : b < cw.length) :
    (sysMatrix n lam lw cw y).get i (n + lw.length + b) = changePat (cw.getD b 0) i := by
  rw [sysMatrix_get n lam lw cw y _ _ hi (by omega), if_neg (by omega), if_neg (by omega), Nat.add_sub_cancel_left,
    add_zero]

theorem sysMatrix_get_changeRow (n : Nat) (lam : Rat) (lw cw : List Nat) (y : Array (Option Rat)) (a j : Nat)
    (ha : a < cw.length) (hj : j < n + lw.length) :
    (sysMatrix n lam lw cw y).get (n + lw.length + a) j = changePat (cw.getD a 0) j := by
  rw [sysMatrix_get n lam lw cw y _ _ (by omega) (by omega), if_pos hj, if_neg (by omega), if_neg (by omega),
    Nat.add_sub_cancel_left, add_zero]

/-! ### Constraint patterns are the rows of `Cmat` -/

/-- positions of a list as `Fin n`, given that all are `< n` -/
def posF (n : Nat) (l : List Nat) (h : ∀ a, a < l.length → l.getD a 0 < n) : Fin l.length → Fin n :=
  fun a => ⟨l.getD a.val 0, h a.val a.isLt⟩

/-- observation pattern of a data column -/
def obsOf (n : Nat) (y : Array (Option Rat)) : Fin n → Bool := fun t => (y.getD t.val none).isSome

theorem levelPat_eq (n : Nat) (lw cw : List Nat) (hl : ∀ a, a < lw.length → lw.getD a 0 < n)
    (hc : ∀ a, a < cw.length → cw.getD a 0 < n) (a : Fin lw.length) (j : Fin n) :
    levelPat (lw.getD a.val 0) j.val = (Cmat (posF n lw hl) (posF n cw hc) : Matrix _ _ ℚ) (Sum.inl a) j := by
  unfold levelPat Cmat posF
  simp only [Fin.ext_iff]

theorem changePat_eq (n : Nat) (lw cw : List Nat) (hl : ∀ a, a < lw.length → lw.getD a 0 < n)
    (hc : ∀ a, a < cw.length → cw.getD a 0 < n) (a : Fin cw.length) (j : Fin n) :
    changePat (cw.getD a.val 0) j.val = (Cmat (posF n lw hl) (posF n cw hc) : Matrix _ _ ℚ) (Sum.inr a) j := by
  unfold changePat Cmat posF
  simp only [Fin.ext_iff]

theorem levelPat_out {p i : Nat} (h : p < i) : levelPat p i = 0 := if_neg h.ne'

theorem changePat_out {p i : Nat} (h : p < i) : changePat p i = 0 :=
  (if_neg h.ne').trans (if_neg (by omega))

/-- the index of a block position in the model's matrix (`kc` only fixes the domain type) -/
def emb (n kl : Nat) {kc : Nat} : Fin n ⊕ (Fin kl ⊕ Fin kc) → Nat
  | Sum.inl t => t.val
  | Sum.inr (Sum.inl a) => n + a.val
  | Sum.inr (Sum.inr a) => n + kl + a.val

/-- block positions → positions of the model's matrix, as an equivalence (its value is `emb`) -/
def blockEquiv (n kl kc : Nat) : Fin n ⊕ (Fin kl ⊕ Fin kc) ≃ Fin (n + kl + kc) :=
  (Equiv.sumAssoc (Fin n) (Fin kl) (Fin kc)).symm.trans
    ((Equiv.sumCongr finSumFinEquiv (Equiv.refl (Fin kc))).trans finSumFinEquiv)

theorem blockEquiv_val (n kl kc : Nat) (r : Fin n ⊕ (Fin kl ⊕ Fin kc)) :
    (blockEquiv n kl kc r).val = emb n kl r := by
  rcases r with t | a | a <;> rfl

/-- `filterData` returns an answer only together with an exact solution `x` of `F x = rhs` (found by `solveChecked`,
i.e. re-checked with `QMat.eqv`); trend and gap are read off that solution. -/
theorem filterData_spec {lg ex : Rat → Rat} {n : Nat} {lam : Rat} {lw cw : List Nat} {ld cd : List Rat}
    {y : Array (Option Rat)} {f : Filtered} (h : filterData lg ex n lam lw cw ld cd y = some f) :
    ∃ x : QMat, QMat.solveChecked (sysMatrix n lam lw cw y) (QMat.col (rhs lg y ld cd)) = some x ∧
      f.trend = ((Array.range n).map (fun i => x.toVec.getD i 0)).map ex ∧
      f.gap = (Array.range n).map (fun i =>
        match y.getD i none with
        | some v => some (ex (lg v - x.toVec.getD i 0))
        | none => none) := by
  unfold filterData at h
  simp only at h
  split at h
  · cases h
  · next x hx =>
    cases h
    exact ⟨x, hx, rfl, rfl⟩

theorem rhs_size (lg : Rat → Rat) (y : Array (Option Rat)) (ld cd : List Rat) :
    (rhs lg y ld cd).size = y.size + ld.length + cd.length := by
  simp only [rhs, Array.size_append, Array.size_map, List.size_toArray, List.length_map]

theorem rhs_get_level (lg : Rat → Rat) (y : Array (Option Rat)) (ld cd : List Rat) (a : Nat) (ha : a < ld.length) :
    (rhs lg y ld cd).getD (y.size + a) 0 = lg (ld.getD a 0) := by
  unfold rhs
  -- `rhs` is `(data ++ levels) ++ changes`: row `y.size + a` lies left in the outer append and right in the inner one
  rw [Array.getD_eq_getD_getElem?, Array.getElem?_append_left (by simp; omega), Array.getElem?_append_right (by simp)]
  simp [ha]

theorem rhs_get_change (lg : Rat → Rat) (y : Array (Option Rat)) (ld cd : List Rat) (a : Nat) (ha : a < cd.length) :
    (rhs lg y ld cd).getD (y.size + ld.length + a) 0 = lg (cd.getD a 0) := by
  unfold rhs
  rw [Array.getD_eq_getD_getElem?, Array.getElem?_append_right (by simp)]
  simp [ha]

theorem rhs_get_data (lg : Rat → Rat) (y : Array (Option Rat)) (ld cd : List Rat) (i : Nat) (hi : i < y.size) :
    (rhs lg y ld cd).getD i 0 = (match y.getD i none with | some v => lg v | none => 0) := by
  unfold rhs
  rw [Array.getD_eq_getD_getElem?, Array.append_assoc, Array.getElem?_append_left (by simpa using hi),
    Array.getElem?_map, Array.getD_eq_getD_getElem?]
  cases y[i]? <;> rfl

/-! ### `log=True` and the encompassing span -/

theorem getD_map_option (y : Array (Option Rat)) (g : Rat → Rat) (i : Nat) :
    (y.map (Option.map g)).getD i none = (y.getD i none).map g := by
  rw [Array.getD_eq_getD_getElem?, Array.getElem?_map, Array.getD_eq_getD_getElem?]
  cases y[i]? <;> rfl

theorem sysMatrix_congr (n : Nat) (lam : Rat) (lw cw : List Nat) (y y' : Array (Option Rat))
    (h : ∀ i, (y.getD i none).isSome = (y'.getD i none).isSome) :
    sysMatrix n lam lw cw y = sysMatrix n lam lw cw y' := by
  unfold sysMatrix addEye
  congr 1
  funext i j
  rw [h i]

theorem sysMatrix_map (n : Nat) (lam : Rat) (lw cw : List Nat) (y : Array (Option Rat)) (g : Rat → Rat) :
    sysMatrix n lam lw cw (y.map (Option.map g)) = sysMatrix n lam lw cw y :=
  sysMatrix_congr n lam lw cw _ y fun i => by rw [getD_map_option, Option.isSome_map]

theorem rhs_map (lg : Rat → Rat) (y : Array (Option Rat)) (ld cd : List Rat) :
    rhs id (y.map (Option.map lg)) (ld.map lg) (cd.map lg) = rhs lg y ld cd := by
  unfold rhs
  simp only [List.map_id, Array.map_map]
  congr 2
  apply Array.map_congr_left
  intro o _
  cases o <;> rfl

/-- `log=True` is `exp ∘ hpf ∘ log` on the model -/
theorem filterData_log (lg ex : Rat → Rat) (n : Nat) (lam : Rat) (lw cw : List Nat) (ld cd : List Rat)
    (y : Array (Option Rat)) :
    filterData lg ex n lam lw cw ld cd y =
      (filterData id id n lam lw cw (ld.map lg) (cd.map lg) (y.map (Option.map lg))).map
        (fun f => ⟨f.trend.map ex, f.gap.map (Option.map ex), f.mult⟩) := by
  unfold filterData
  simp only [sysMatrix_map, rhs_map]
  cases QMat.solveChecked (sysMatrix n lam lw cw y) (QMat.col (rhs lg y ld cd)) with
  | none => rfl
  | some x =>
    simp only [Option.map_some, Option.some.injEq]
    congr 1
    · rw [Array.map_id]
    · simp only [Array.map_map]
      apply Array.map_congr_left
      intro i _
      simp only [Function.comp, getD_map_option]
      cases y.getD i none <;> rfl

/-- one end of `get_encompassing_span` (`f` is `start` or `stop`, `R` is `≤` or `≥`): what it says of `m` to be one of the
candidates and `R`-related to all of them; the left side has the shape `foldl_min_iff` and `foldl_max_iff` give -/
theorem end_spec (a b : Int) (level change : Option Ser) (f : Ser → Int) (R : Int → Int → Prop) (m : Int) :
    (m ∈ a :: ([a, b] ++ (level.map f).toList ++ (change.map f).toList) ∧
      ∀ x ∈ a :: ([a, b] ++ (level.map f).toList ++ (change.map f).toList), R m x) ↔
    (R m a ∧ R m b ∧ (∀ s, level = some s → R m (f s)) ∧ (∀ s, change = some s → R m (f s))) ∧
    (m = a ∨ m = b ∨ (∃ s, level = some s ∧ m = f s) ∨ (∃ s, change = some s ∧ m = f s)) := by
  simp only [List.mem_append, List.mem_cons, List.not_mem_nil, or_false, Option.mem_toList, Option.map_eq_some_iff,
    or_assoc, or_self_left, eq_comm (b := m), or_imp, forall_eq, forall_and, forall_exists_index, and_imp,
    forall_apply_eq_imp_iff₂]
  -- `or_self_left` drops the repeated `a`
  exact and_comm

theorem encompassing_spec (dlo dhi : Int) (level change : Option Ser) (slo shi : Int) :
    let e := encompassing dlo dhi level change slo shi
    (e.1 ≤ dlo ∧ e.1 ≤ slo ∧ (∀ s, level = some s → e.1 ≤ s.start) ∧ (∀ s, change = some s → e.1 ≤ s.start)) ∧
    (e.1 = dlo ∨ e.1 = slo ∨ (∃ s, level = some s ∧ e.1 = s.start) ∨ (∃ s, change = some s ∧ e.1 = s.start)) ∧
    (dhi ≤ e.2 ∧ shi ≤ e.2 ∧ (∀ s, level = some s → s.stop ≤ e.2) ∧ (∀ s, change = some s → s.stop ≤ e.2)) ∧
    (e.2 = dhi ∨ e.2 = shi ∨ (∃ s, level = some s ∧ e.2 = s.stop) ∨ (∃ s, change = some s ∧ e.2 = s.stop)) := by
  intro e
  obtain ⟨h1, h2⟩ := (end_spec dlo slo level change (·.start) (· ≤ ·) e.1).1 (foldl_min_iff.1 rfl)
  obtain ⟨h3, h4⟩ := (end_spec dhi shi level change (·.stop) (· ≥ ·) e.2).1 (foldl_max_iff.1 rfl)
  exact ⟨h1, h2, h3, h4⟩

theorem encompassing_bounds (dlo dhi : Int) (level change : Option Ser) (slo shi : Int) :
    (encompassing dlo dhi level change slo shi).1 ≤ slo ∧ shi ≤ (encompassing dlo dhi level change slo shi).2 := by
  obtain ⟨⟨_, hlo, _⟩, _, ⟨_, hhi, _⟩, _⟩ := encompassing_spec dlo dhi level change slo shi
  exact ⟨hlo, hhi⟩

/-- the encompassing span of the encompassing span is itself: each end is a bound of its candidates and one of them -/
theorem encompassing_idem (dlo dhi : Int) (level change : Option Ser) (slo shi : Int) :
    encompassing dlo dhi level change (encompassing dlo dhi level change slo shi).1
      (encompassing dlo dhi level change slo shi).2 = encompassing dlo dhi level change slo shi := by
  obtain ⟨⟨a1, _, a3, a4⟩, _, ⟨b1, _, b3, b4⟩, _⟩ := encompassing_spec dlo dhi level change slo shi
  generalize encompassing dlo dhi level change slo shi = e at *
  refine Prod.ext (foldl_min_iff.2 ?_) (foldl_max_iff.2 ?_)
  · exact (end_spec dlo e.1 level change (·.start) (· ≤ ·) e.1).2 ⟨⟨a1, le_rfl, a3, a4⟩, .inr (.inl rfl)⟩
  · exact (end_spec dhi e.2 level change (·.stop) (· ≥ ·) e.2).2 ⟨⟨b1, le_rfl, b3, b4⟩, .inr (.inl rfl)⟩

/-- widening the requested span to the encompassing span does not change the problem -/
theorem setup_wide (r : Request) :
    setup { r with span := some ((setup r).lo, (setup r).hi) }
      = { setup r with slo := (setup r).lo, shi := (setup r).hi } := by
  unfold setup
  simp only [Option.getD_some]
  rw [encompassing_idem]

theorem setup_shi_le (r : Request) : (setup r).lo ≤ (setup r).slo ∧ (setup r).shi ≤ (setup r).hi := by
  unfold setup
  simp only
  exact encompassing_bounds _ _ _ _ _ _

theorem setup_n (r : Request) : (setup r).n = ((setup r).hi - (setup r).lo + 1).toNat := by
  unfold setup; rfl

end IrisVerif.HPModel
