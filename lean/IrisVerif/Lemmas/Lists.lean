/-
Facts about `List` that mention no definition of the development: what a fold with `min` or `max` returns (Lemmas/GridSelection,
Temporal, Sequential, HPModel; Props/C14Span, BridgeC01Cert), the elements of a sorted list without repetitions built by insertion
(Props/C02, C05; that the insertion which keeps repetitions sorts is in Lemmas/Sorts, with Mathlib), a list indexed by its own
positions (Lemmas/Blazer, GridCodec, GridSelection, Series), the first and the last index below `n` that passes a test
(Lemmas/Series).  Core Lean only.
-/

namespace IrisVerif

section minmax
variable {α : Type} [LE α] [Std.IsLinearOrder α]

/-- what a fold with `min` returns: the least element of start value and list (core's `List.min?` is this fold) -/
theorem foldl_min_iff [Min α] [Std.LawfulOrderMin α] {a : α} {l : List α} {m : α} :
    l.foldl min a = m ↔ m ∈ a :: l ∧ ∀ x ∈ a :: l, m ≤ x := by
  rw [← List.min?_eq_some_iff, List.min?_cons', Option.some.injEq]

theorem foldl_max_iff [Max α] [Std.LawfulOrderMax α] {a : α} {l : List α} {m : α} :
    l.foldl max a = m ↔ m ∈ a :: l ∧ ∀ x ∈ a :: l, x ≤ m := by
  rw [← List.max?_eq_some_iff, List.max?_cons', Option.some.injEq]

theorem foldl_min_le [Min α] [Std.LawfulOrderMin α] (a : α) (l : List α) : ∀ x ∈ a :: l, l.foldl min a ≤ x :=
  (foldl_min_iff.1 rfl).2

theorem le_foldl_max [Max α] [Std.LawfulOrderMax α] (a : α) (l : List α) : ∀ x ∈ a :: l, x ≤ l.foldl max a :=
  (foldl_max_iff.1 rfl).2

end minmax

/-- `sorted(set(l))` as the models write it: `foldr` of an insertion that keeps the list increasing and drops what is there
already (`AD.insertNat`, `Steady.insertSorted`) -/
theorem mem_foldr_insert {ins : Nat → List Nat → List Nat} (hnil : ∀ x, ins x [] = [x])
    (hcons : ∀ x y ys, ins x (y :: ys) = if x < y then x :: y :: ys else if x = y then y :: ys else y :: ins x ys)
    (q : Nat) (l : List Nat) : q ∈ l.foldr ins [] ↔ q ∈ l := by
  have one : ∀ x (l : List Nat), q ∈ ins x l ↔ q = x ∨ q ∈ l := fun x l => by
    induction l with
    | nil => rw [hnil, List.mem_singleton, List.mem_nil_iff, or_false]
    | cons y ys ih =>
      rw [hcons]
      split
      · exact List.mem_cons
      · split
        · rename_i h; rw [h, List.mem_cons, or_self_left]
        · rw [List.mem_cons, ih, List.mem_cons]; exact or_left_comm
  induction l with
  | nil => rfl
  | cons a l ih => rw [List.foldr_cons, one, List.mem_cons]; exact or_congr_right ih

theorem map_getElem?_range {α β : Type} (l : List α) (h : Option α → β) :
    (List.range l.length).map (fun i => h l[i]?) = l.map (fun t => h (some t)) := by
  refine List.ext_getElem? fun i => ?_
  by_cases hi : i < l.length <;> simp [hi]

/-! the filter of a range lists, in increasing order, the indices below `n` that satisfy `p`: its first and its last element -/

theorem head_filter_range (p : Nat → Bool) (n j : Nat) (h : ((List.range n).filter p).head? = some j) :
    j < n ∧ p j = true ∧ ∀ j', j' < j → p j' = false := by
  rw [List.head?_filter, List.find?_range_eq_some] at h
  exact ⟨List.mem_range.mp h.2.1, h.1, fun j' hj => by simpa using h.2.2 j' hj⟩

theorem last_filter_range (p : Nat → Bool) (n j : Nat) (h : ((List.range n).filter p).getLast? = some j) :
    j < n ∧ p j = true ∧ ∀ j', j < j' → j' < n → p j' = false := by
  obtain ⟨ys, e⟩ := List.getLast?_eq_some_iff.mp h
  have hm : ∀ x, x ∈ ys ++ [j] ↔ x < n ∧ p x = true := fun x => by rw [← e, List.mem_filter, List.mem_range]
  have hs : (ys ++ [j]).Pairwise (· < ·) := e ▸ List.pairwise_lt_range.filter p
  refine ⟨((hm j).1 (by simp)).1, ((hm j).1 (by simp)).2, fun j' h1 h2 => ?_⟩
  cases hp : p j' with
  | false => rfl
  | true =>
    -- a later index that satisfies `p` would be listed, before `j` or as `j`
    rcases List.mem_append.mp ((hm j').2 ⟨h2, hp⟩) with hy | hy
    · have := (List.pairwise_append.mp hs).2.2 j' hy j (by simp); omega
    · have := List.mem_singleton.mp hy; omega

end IrisVerif
