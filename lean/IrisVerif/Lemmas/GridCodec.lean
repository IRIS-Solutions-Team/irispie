/-
Helper lemmas for property C19: the two state machines of the CSV importer (`scan` = `_block_iterator`,
`colScan` = `column_iterator`) run on what the exporter writes, and the layout of the written grid (which cells of which
row belong to which block).
-/
import IrisVerif.Model.Grid
import IrisVerif.Lemmas.Lists

namespace IrisVerif.Grid
open IrisVerif.Databox

theorem scan_none (col : Nat) (c : String) (rest : List String) :
    scan none col (c :: rest) = scan ((startFreq c).map (fun f => (f, col))) (col + 1) rest := by
  simp [scan]

theorem scan_end {st : Option (BFreq × Nat)} {col : Nat} {c : String} (hc : isEnd c = true) (rest : List String) :
    scan st col (c :: rest) = (st.map fun s => (⟨s.1, s.2, col - (s.2 + 1)⟩ : RawBlock)).toList
      ++ scan ((startFreq c).map (fun f => (f, col))) (col + 1) rest := by
  cases st <;> simp [scan, hc]

theorem scan_pass {st : BFreq × Nat} {body : List String} (hb : ∀ c ∈ body, isEnd c = false) (col : Nat) (tl : List String) :
    scan (some st) col (body ++ tl) = scan (some st) (col + body.length) tl := by
  induction body generalizing col with
  | nil => rfl
  | cons c rest ih =>
    rw [List.cons_append, scan]
    simp only [hb c List.mem_cons_self, Bool.false_eq_true, if_false, List.nil_append]
    rw [ih (fun x hx => hb x (List.mem_cons_of_mem _ hx)), List.length_cons, Nat.add_assoc, Nat.add_comm 1]

/-- a raw block found `w` columns further right -/
def shiftBlock (w : Nat) (b : RawBlock) : RawBlock := { b with dateCol := b.dateCol + w }

theorem scan_shift (w : Nat) (st : Option (BFreq × Nat)) (col : Nat) (cells : List String) :
    scan (st.map (fun s => (s.1, s.2 + w))) (col + w) cells = (scan st col cells).map (shiftBlock w) := by
  induction cells generalizing st col with
  | nil => rfl
  | cons c rest ih =>
    simp only [scan, List.map_append, ← ih, Nat.add_right_comm col w 1]
    cases st with
    | none => cases startFreq c <;> rfl
    | some s =>
      cases isEnd c with
      | false => rfl
      | true =>
        have e : col + w - (s.2 + w + 1) = col - (s.2 + 1) := by omega
        cases startFreq c <;> simp [shiftBlock, e]

theorem mark_spec (f : BFreq) : isEnd (mark f) = true ∧ startFreq (mark f) = some f := by cases f <;> decide +kernel

section
variable {V : Type}

/-- what the block iterator should find: one raw block per exported block, at the cumulated widths -/
def rawOf (off : Nat) : List (Block V) → List RawBlock
  | [] => []
  | b :: bs => ⟨b.freq, off, b.width - 1⟩ :: rawOf (off + b.width) bs

/-- names the format can carry: a name starting with `__` would end the block, `""` and `"*"` are what the column iterator takes
for "no series" and "further variant"; and a `Series` has at least one variant -/
def GoodNames (m : List (String × Ser V)) : Prop :=
  ∀ p ∈ m, isEnd p.1 = false ∧ p.1 ≠ "" ∧ p.1 ≠ "*" ∧ 1 ≤ p.2.nv

theorem GoodNames.tail {p : String × Ser V} {m : List (String × Ser V)} (h : GoodNames (p :: m)) : GoodNames m :=
  fun q hq => h q (List.mem_cons_of_mem _ hq)

theorem flatMap_length_nv {α : Type} (g : String × Ser V → List α) (m : List (String × Ser V))
    (h : ∀ q ∈ m, (g q).length = q.2.nv) : (m.flatMap g).length = (m.map (fun q => q.2.nv)).sum := by
  rw [List.length_flatMap, List.map_congr_left h]

theorem starCells_length (g : String × Ser V → String) (m : List (String × Ser V)) (h : GoodNames m) :
    (m.flatMap (fun p => starCont (g p) p.2.nv) ++ [""]).length = (m.map (fun p => p.2.nv)).sum + 1 := by
  rw [List.length_append, flatMap_length_nv _ m (fun q hq => by have := (h q hq).2.2.2; simp [starCont]; omega)]
  rfl

theorem nameRow_length (b : Block V) (h : GoodNames b.members) : b.nameRow.length = b.width := by
  simp only [Block.nameRow, List.length_cons, starCells_length _ _ h, Block.width]; omega

theorem descRow_length (b : Block V) (h : GoodNames b.members) : b.descRow.length = b.width := by
  simp only [Block.descRow, List.length_cons, starCells_length _ _ h, Block.width]; omega

theorem nameCells_notEnd (m : List (String × Ser V)) (h : GoodNames m) :
    ∀ c ∈ m.flatMap (fun p => starCont p.1 p.2.nv) ++ [""], isEnd c = false := by
  intro c hc
  simp only [List.mem_append, List.mem_flatMap, List.mem_singleton] at hc
  rcases hc with ⟨p, hp, hc⟩ | rfl
  · simp only [starCont, List.mem_cons, List.mem_replicate] at hc
    rcases hc with rfl | ⟨_, rfl⟩
    · exact (h p hp).1
    · decide
  · decide

theorem scan_blocks (Bs : List (Block V)) (h : ∀ b ∈ Bs, GoodNames b.members) (st : Option (BFreq × Nat)) (off : Nat) :
    scan st off (Bs.flatMap Block.nameRow ++ ["__"])
      = (st.map fun s => (⟨s.1, s.2, off - (s.2 + 1)⟩ : RawBlock)).toList ++ rawOf off Bs := by
  induction Bs generalizing st off with
  | nil => cases st <;> rfl
  | cons b bs ih =>
    have hb := h b List.mem_cons_self
    have e : (b :: bs).flatMap Block.nameRow ++ ["__"]
        = mark b.freq :: ((b.members.flatMap (fun p => starCont p.1 p.2.nv) ++ [""]) ++ (bs.flatMap Block.nameRow ++ ["__"])) := by
      simp [Block.nameRow]
    rw [e, scan_end (mark_spec _).1, (mark_spec _).2,
      Option.map_some, scan_pass (nameCells_notEnd _ hb), ih (fun x hx => h x (List.mem_cons_of_mem _ hx)),
      starCells_length _ _ hb, rawOf, Block.width]
    simp only [Option.map_some, Option.toList_some, List.cons_append, List.nil_append]
    -- left: the mark, the name cells and the separator make up the block's width
    congr 3 <;> omega

theorem scan_export (Bs : List (Block V)) (h : ∀ b ∈ Bs, GoodNames b.members) (off : Nat) :
    scan none off (Bs.flatMap Block.nameRow ++ ["__"]) = rawOf off Bs :=
  scan_blocks Bs h none off

end

theorem colScan_stars {cs : ColSpec} {l : List (String × String)} (hl : ∀ q ∈ l, q.1 = "*") (i : Nat)
    (tl : List (String × String)) :
    colScan (some cs) i (l ++ tl) = colScan (some { cs with count := cs.count + l.length }) (i + l.length) tl := by
  induction l generalizing cs i with
  | nil => simp
  | cons q rest ih =>
    obtain ⟨n, d⟩ := q
    obtain rfl : n = "*" := hl (n, d) (by simp)
    simp only [List.cons_append, colScan, ne_eq, not_true_eq_false, if_false, if_true, List.nil_append]
    rw [ih (fun q hq => hl q (List.mem_cons_of_mem _ hq))]
    simp only [List.length_cons, Nat.add_assoc, Nat.add_comm 1 rest.length]

theorem colScan_name {st : Option ColSpec} {i : Nat} {n d : String} (hn : n ≠ "*") (tl : List (String × String)) :
    colScan st i ((n, d) :: tl) = st.toList ++ colScan (if n ≠ "" then some ⟨i, 1, n, d⟩ else none) (i + 1) tl := by
  cases st <;> simp [colScan, hn]

section
variable {V : Type}

/-- what the column iterator should find in a block: per series its first column, variants, name and description -/
def colsOf (off : Nat) : List (String × Ser V) → List ColSpec
  | [] => []
  | p :: ps => ⟨off, p.2.nv, p.1, p.2.desc⟩ :: colsOf (off + p.2.nv) ps

/-- the series with the description the importer attaches to it -/
def withDesc (dh : String × Ser V → String) (p : String × Ser V) : String × Ser V := (p.1, { p.2 with desc := dh p })

/-- the (name, description) pairs the column iterator sees for one series: `dh p` is the cell under the name, `dc` the
cell under every continuation mark (`*` when the description row is written, empty when it is not) -/
def pairCells (dh : String × Ser V → String) (dc : String) (p : String × Ser V) : List (String × String) :=
  (p.1, dh p) :: List.replicate (p.2.nv - 1) ("*", dc)

/-- the description cells under one block's names -/
def descCells (dh : String × Ser V → String) (dc : String) (m : List (String × Ser V)) : List String :=
  m.flatMap (fun p => dh p :: List.replicate (p.2.nv - 1) dc)

theorem colScan_series (dh : String × Ser V → String) (dc e1 e2 : String) (m : List (String × Ser V)) (h : GoodNames m)
    (st : Option ColSpec) (off : Nat) :
    colScan st off (m.flatMap (pairCells dh dc) ++ [("", e1), ("", e2)]) = st.toList ++ colsOf off (m.map (withDesc dh)) := by
  induction m generalizing st off with
  | nil => cases st <;> rfl
  | cons p ps ih =>
    obtain ⟨_, h1, h2, h3⟩ := h p List.mem_cons_self
    have e : (p :: ps).flatMap (pairCells dh dc) ++ [("", e1), ("", e2)]
        = (p.1, dh p) :: (List.replicate (p.2.nv - 1) ("*", dc) ++ (ps.flatMap (pairCells dh dc) ++ [("", e1), ("", e2)])) := by
      simp [pairCells]
    rw [e, colScan_name h2, if_pos h1, colScan_stars (fun q hq => by rw [(List.mem_replicate.1 hq).2]), ih h.tail,
      List.length_replicate, List.map_cons, colsOf, withDesc]
    simp only [Option.toList_some, List.cons_append, List.nil_append]
    -- left: the name cell and the `nv - 1` marks make up the `nv` columns of the series
    congr 3 <;> omega

theorem zip_names_descCells (dh : String × Ser V → String) (dc : String) (m : List (String × Ser V)) (a b : List String) :
    (m.flatMap (fun p => starCont p.1 p.2.nv) ++ a).zip (descCells dh dc m ++ b)
      = m.flatMap (pairCells dh dc) ++ a.zip b := by
  induction m with
  | nil => rfl
  | cons p ps ih =>
    simp only [descCells] at ih ⊢
    simp only [List.flatMap_cons, List.append_assoc]
    rw [List.zip_append (by simp [starCont]), ih]
    simp [starCont, pairCells, List.zip_replicate']

theorem columnIterator_export (dh : String × Ser V → String) (dc e : String) (m : List (String × Ser V)) (h : GoodNames m) :
    columnIterator (m.flatMap (fun p => starCont p.1 p.2.nv) ++ [""]) (descCells dh dc m ++ [e])
      = colsOf 0 (m.map (withDesc dh)) := by
  unfold columnIterator
  rw [List.append_assoc, List.append_assoc, zip_names_descCells]
  exact colScan_series dh dc e "" m h none 0

/-- a map over `colsOf` whose function may depend on the column offset: `h` is asked at every split of `m` -/
theorem map_colsOf {β : Type} (dh : String × Ser V → String) {F : ColSpec → β} {G : String × Ser V → β}
    {m : List (String × Ser V)} (off : Nat)
    (h : ∀ m1 p m2, m = m1 ++ p :: m2 → F ⟨off + (m1.map (fun q => q.2.nv)).sum, p.2.nv, p.1, dh p⟩ = G p) :
    (colsOf off (m.map (withDesc dh))).map F = m.map G := by
  induction m generalizing off with
  | nil => rfl
  | cons p ps ih =>
    simp only [List.map_cons, colsOf, withDesc]
    congr 1
    · simpa using h [] p ps rfl
    · apply ih
      intro m1 q m2 hq
      simpa [Nat.add_assoc] using h (p :: m1) q m2 (by rw [hq]; rfl)

end

theorem zipRows_peel {α : Type} (R : Nat) (hd : α → List String) (tl : α → List (List String)) (Bs : List α) :
    zipRowsN (R + 1) (Bs.map (fun b => hd b :: tl b)) = Bs.flatMap hd :: zipRowsN R (Bs.map tl) := by
  induction Bs with
  | nil => simp [zipRowsN, List.replicate_succ]
  | cons b bs ih => simp [zipRowsN, ih]

theorem zipRowsN_cons (R : Nat) (Bs : List (List String × List (List String))) :
    zipRowsN (R + 1) (Bs.map (fun b => b.1 :: b.2)) = (Bs.flatMap (·.1)) :: zipRowsN R (Bs.map (·.2)) :=
  zipRows_peel R (·.1) (·.2) Bs

theorem zipRowsN_range {α : Type} (T : Nat) (g : α → Nat → List String) (Bs : List α) :
    zipRowsN T (Bs.map (fun b => (List.range T).map (g b))) = (List.range T).map (fun i => Bs.flatMap (fun b => g b i)) := by
  induction Bs with
  | nil =>
    simp only [List.map_nil, zipRowsN, List.flatMap_nil]
    rw [List.map_const', List.length_range]
  | cons b bs ih =>
    simp only [List.map_cons, zipRowsN, ih, List.flatMap_cons]
    rw [List.zipWith_map, List.zipWith_self]

theorem slice_at (f : BFreq) (pre : List String) (x : String) (body post : List String) :
    sliceRow ⟨f, pre.length, body.length⟩ (pre ++ x :: (body ++ post)) = body
      ∧ dateCell ⟨f, pre.length, body.length⟩ (pre ++ x :: (body ++ post)) = x := by
  constructor
  · have e : pre ++ x :: (body ++ post) = (pre ++ [x]) ++ (body ++ post) := by simp
    have l : (pre ++ [x]).length = pre.length + 1 := by simp
    simp only [sliceRow]
    rw [e, ← l, List.drop_left]
    simp
  · simp [dateCell, List.getD_eq_getElem?_getD]

section
variable {V : Type}

/-- columns taken by a list of blocks -/
def widths (Bs : List (Block V)) : Nat := (Bs.map Block.width).sum

theorem flatMap_seg_length (seg : Block V → List String) (Bs : List (Block V)) (h : ∀ x ∈ Bs, (seg x).length = x.width) :
    (Bs.flatMap seg).length = widths Bs := by
  rw [List.length_flatMap, List.map_congr_left h, widths]

theorem nameRows_length (Bs : List (Block V)) (h : ∀ b ∈ Bs, GoodNames b.members) :
    (Bs.flatMap Block.nameRow).length = widths Bs :=
  flatMap_seg_length _ Bs fun b hb => nameRow_length b (h b hb)

theorem descRows_length (Bs : List (Block V)) (h : ∀ b ∈ Bs, GoodNames b.members) :
    (Bs.flatMap Block.descRow).length = widths Bs :=
  flatMap_seg_length _ Bs fun b hb => descRow_length b (h b hb)

/-- the cells of a block in a row that is the concatenation of one segment per block -/
theorem seg_slice (seg : Block V → List String) (B1 B2 : List (Block V)) (b : Block V)
    (h : ∀ x ∈ B1, (seg x).length = x.width) (x0 : String) (body : List String) (hb : seg b = x0 :: body)
    (hw : body.length = b.width - 1) :
    sliceRow ⟨b.freq, widths B1, b.width - 1⟩ ((B1 ++ b :: B2).flatMap seg) = body
      ∧ dateCell ⟨b.freq, widths B1, b.width - 1⟩ ((B1 ++ b :: B2).flatMap seg) = x0 := by
  have := slice_at b.freq (B1.flatMap seg) x0 body (B2.flatMap seg)
  rw [flatMap_seg_length seg B1 h, hw] at this
  simpa [List.flatMap_append, hb] using this

/-- data row `i` of a block as it stands in the file: the row of its `i`-th period, or the empty padding row -/
def Block.gridRow (c : Codec V) (b : Block V) (i : Nat) : List String :=
  match b.periods[i]? with
  | some t => b.dataRow c t
  | none => b.emptyRow

theorem rowAt_length (s : Ser V) (hrows : ∀ r ∈ s.rows, r.length = s.nv) (t : Int) : (s.rowAt t).length = s.nv := by
  unfold Ser.rowAt
  split
  · cases hq : s.rows[(t - s.start).toNat]? with
    | none => simp [nanRow]
    | some r => exact hrows r (List.mem_of_getElem? hq)
  · simp [nanRow]

theorem gridRow_length (c : Codec V) (x : Block V) (hs : ∀ p ∈ x.members, ∀ r ∈ p.2.rows, r.length = p.2.nv) (i : Nat) :
    (x.gridRow c i).length = x.width := by
  unfold Block.gridRow
  split
  · rename_i t _
    simp only [Block.dataRow, List.length_cons, List.length_append, Block.width,
      flatMap_length_nv (fun p => (p.2.rowAt t).map c.fmtCell) x.members
        (fun p hp => by rw [List.length_map, rowAt_length p.2 (hs p hp) t])]
    simp; omega
  · simp [Block.emptyRow]

theorem dataPart_eq (c : Codec V) (b : Block V) (total : Nat) (h : b.periods.length ≤ total) :
    b.periods.map (b.dataRow c) ++ List.replicate (total - b.periods.length) b.emptyRow
      = (List.range total).map (b.gridRow c) := by
  obtain ⟨k, rfl⟩ : ∃ k, total = b.periods.length + k := ⟨total - b.periods.length, by omega⟩
  rw [List.range_add, ← List.range'_eq_map_range, List.map_append, Nat.add_sub_cancel_left]
  congr 1
  · exact (map_getElem?_range b.periods (fun o => match o with | some t => b.dataRow c t | none => b.emptyRow)).symm
  · symm
    rw [List.map_eq_replicate_iff.mpr, List.length_range']
    intro i hi
    simp only [Block.gridRow]
    rw [List.getElem?_eq_none (List.mem_range'_1.mp hi).1]

/-- the description the importer attaches: the written one when the description row is on, none otherwise -/
def descOf (d : Bool) (p : String × Ser V) : String := if d then p.2.desc else ""

/-- the description row as `from_csv_file` sees it -/
def descRowOf (d : Bool) (Bs : List (Block V)) : List String :=
  if d then Bs.flatMap Block.descRow else List.replicate (Bs.flatMap Block.nameRow).length ""

/-- the data rows of the grid: row `i` of every block side by side -/
def dataRowsOf (c : Codec V) (T : Nat) (Bs : List (Block V)) : List (List String) :=
  (List.range T).map (fun i => Bs.flatMap (fun x => x.gridRow c i))

theorem grid_eq (c : Codec V) (d : Bool) (T : Nat) (Bs : List (Block V)) (hfit : ∀ x ∈ Bs, x.periods.length ≤ T) :
    zipRowsN (headerRows d + T) (Bs.map (Block.rows c d T))
      = Bs.flatMap Block.nameRow :: ((if d then [Bs.flatMap Block.descRow] else []) ++ dataRowsOf c T Bs) := by
  have hrows : ∀ b ∈ Bs, b.rows c d T = b.nameRow :: ((if d then [b.descRow] else []) ++ (List.range T).map (b.gridRow c)) :=
    fun b hb => by rw [Block.rows, List.append_assoc, dataPart_eq c b T (hfit b hb)]
  rw [List.map_congr_left hrows]
  cases d with
  | true =>
    rw [show headerRows true + T = (T + 1) + 1 by simp [headerRows]; omega]
    refine (zipRows_peel _ Block.nameRow (fun b => b.descRow :: (List.range T).map (b.gridRow c)) Bs).trans ?_
    rw [zipRows_peel _ Block.descRow (fun b => (List.range T).map (b.gridRow c)) Bs, zipRowsN_range]
    rfl
  | false =>
    rw [show headerRows false + T = T + 1 by simp [headerRows]; omega]
    refine (zipRows_peel _ Block.nameRow (fun b => (List.range T).map (b.gridRow c)) Bs).trans ?_
    rw [zipRowsN_range]
    rfl

theorem mem_exportBlocksWith {fs : FSpan} {ss : List (String × Ser V)} {b : Block V} :
    b ∈ exportBlocksWith fs ss ↔ ∃ e ∈ fs, (withFreq ss e.1).isEmpty = false
      ∧ b = ⟨e.1, e.2.getD (blockPeriods e.1 (withFreq ss e.1)), withFreq ss e.1⟩ := by
  simp only [exportBlocksWith, List.mem_filterMap]
  constructor
  · rintro ⟨e, he, hbe⟩
    split at hbe
    · simp at hbe
    · exact ⟨e, he, Bool.eq_false_iff.mpr ‹_›, (Option.some.inj hbe).symm⟩
  · rintro ⟨e, he, hm, rfl⟩
    exact ⟨e, he, by simp [hm]⟩

theorem mem_members_exportBlocksWith {fs : FSpan} {ss : List (String × Ser V)} {b : Block V} (h : b ∈ exportBlocksWith fs ss)
    {p : String × Ser V} (hp : p ∈ b.members) : p ∈ ss ∧ p.2.freq = b.freq := by
  obtain ⟨e, _, _, rfl⟩ := mem_exportBlocksWith.mp h
  exact ⟨(List.mem_filter.mp hp).1, by simpa using (List.mem_filter.mp hp).2⟩

theorem goodNames_exportBlocksWith (fs : FSpan) (ss : List (String × Ser V)) (h : GoodNames ss) :
    ∀ b ∈ exportBlocksWith fs ss, GoodNames b.members :=
  fun _ hb p hp => h p (mem_members_exportBlocksWith hb hp).1

theorem le_maxLen (l : List Nat) : ∀ x ∈ l, x ≤ maxLen l := by
  induction l with
  | nil => intro x hx; simp at hx
  | cons a l ih =>
    intro x hx
    unfold maxLen
    rcases List.mem_cons.mp hx with rfl | hx
    · exact Nat.le_max_left _ _
    · exact Nat.le_trans (ih x hx) (Nat.le_max_right _ _)

theorem fit_exportBlocksWith (fs : FSpan) (ss : List (String × Ser V)) :
    ∀ b ∈ exportBlocksWith fs ss, b.periods.length ≤ totalRowsWith fs ss := by
  intro b hb
  obtain ⟨e, he, hm, rfl⟩ := mem_exportBlocksWith.mp hb
  refine le_maxLen _ _ (List.mem_map.mpr ⟨e, he, ?_⟩)
  cases e.2 <;> simp [hm]

theorem members_exportBlocksWith (fs : FSpan) (ss : List (String × Ser V)) :
    (exportBlocksWith fs ss).flatMap (·.members) = fs.flatMap (fun e => withFreq ss e.1) := by
  induction fs with
  | nil => rfl
  | cons e rest ih =>
    unfold exportBlocksWith at ih ⊢
    simp only [List.filterMap_cons, List.flatMap_cons]
    by_cases hm : (withFreq ss e.1).isEmpty = true
    · simp only [hm, if_true]
      rw [ih, List.isEmpty_iff.mp hm]
      rfl
    · simp only [hm, Bool.false_eq_true, if_false, List.flatMap_cons]
      rw [ih]

theorem exportGridWith_eq (c : Codec V) (d : Bool) (fs : FSpan) (db : Box (Ser V) V)
    (hne : (exportBlocksWith fs (seriesOf db)).isEmpty = false) :
    exportGridWith c d fs db = (exportBlocksWith fs (seriesOf db)).flatMap Block.nameRow
      :: ((if d then [(exportBlocksWith fs (seriesOf db)).flatMap Block.descRow] else [])
        ++ dataRowsOf c (totalRowsWith fs (seriesOf db)) (exportBlocksWith fs (seriesOf db))) := by
  unfold exportGridWith
  simp only [hne, Bool.false_eq_true, if_false]
  exact grid_eq c d _ _ (fit_exportBlocksWith fs _)

end

end IrisVerif.Grid
