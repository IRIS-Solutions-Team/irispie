/-
The day line. A period of a calendar frequency (yearly … daily) is an interval of day ordinals, and the intervals of
consecutive periods follow one another without gap or overlap. `refrequent` returns the period of the target frequency
whose interval holds the chosen day of the source period, and a regular period is the union of its sub-periods of a finer
regular frequency; what the conversions between frequencies do follows from these two facts. Core Lean only.

`C09.dayOrd` and `C11.calendarFreqs`, with which the property theorems of C09 and C11 are stated, are defined here because
this layer is stated with them as well; its lemmas share the namespace `C11` with `calendarFreqs`, so Props/C09 cites them as
`C11.ordAt_tile` and the like.
-/
import IrisVerif.Lemmas.Refrequent
import IrisVerif.Lemmas.Blocks

namespace IrisVerif.Dates.C09
open IrisVerif.Dates

def dayOrd (p : Period) (pos : Pos) : R Int := do
  let (y, m, d) ← toYmd p pos
  pure (ymd2ord y m d)

theorem dayOrd_of_toYmd {p : Period} {pos : Pos} {y m d : Int} (h : toYmd p pos = .ok (y, m, d)) :
    dayOrd p pos = .ok (ymd2ord y m d) := by
  unfold dayOrd; rw [h]; rfl

end IrisVerif.Dates.C09

namespace IrisVerif.Dates.C11
open IrisVerif.Dates IrisVerif.Gen.Dates IrisVerif.Dates.C09

def calendarFreqs : List Freq := [.Y, .H, .Q, .M, .D]

theorem regular_calendar {f : Freq} (hf : f.isRegular = true) : f ∈ calendarFreqs := by
  revert hf; cases f <;> decide

theorem calendar_cases {f : Freq} (hf : f ∈ calendarFreqs) : f.isRegular = true ∨ f = .D := by
  revert hf; cases f <;> decide

/-- `to_ymd` of a period of a calendar frequency is a valid date -/
theorem toYmd_valid {f : Freq} (hf : f ∈ calendarFreqs) (s : Int) (pos : Pos) :
    ∃ y m d, toYmd ⟨f, s⟩ pos = .ok (y, m, d) ∧ ValidYmd y m d := by
  rcases calendar_cases hf with hr | rfl
  · obtain ⟨m, d, h, hv, -⟩ := toYmd_spec hr s pos
    exact ⟨_, m, d, h, hv⟩
  · exact ⟨_, _, _, toYmd_daily s pos, ord2ymd_valid s⟩

/-! ### The day of a period at a position -/

/-- total version of `dayOrd` (the error branch is unreachable for calendar frequencies, see `dayOrd_eq_ordAt`) -/
def ordAt (f : Freq) (s : Int) (pos : Pos) : Int :=
  match dayOrd ⟨f, s⟩ pos with
  | .ok a => a
  | .error _ => 0

theorem ordAt_of_toYmd {f : Freq} {s : Int} {pos : Pos} {y m d : Int} (h : toYmd ⟨f, s⟩ pos = .ok (y, m, d)) :
    ordAt f s pos = ymd2ord y m d := by
  simp only [ordAt, dayOrd_of_toYmd h]

theorem dayOrd_eq_ordAt (f : Freq) (hf : f ∈ calendarFreqs) (s : Int) (pos : Pos) :
    dayOrd ⟨f, s⟩ pos = .ok (ordAt f s pos) := by
  obtain ⟨y, m, d, h, -⟩ := toYmd_valid hf s pos
  rw [ordAt_of_toYmd h, dayOrd_of_toYmd h]

theorem ordAt_daily (n : Int) (pos : Pos) : ordAt .D n pos = n := by
  rw [ordAt_of_toYmd (toYmd_daily n pos)]
  exact ymd2ord_of_ord2ymd n

theorem ordAt_start {f : Freq} (hf : f.isRegular = true) (s : Int) :
    ordAt f s .start = ymd2ord (s / f.value) (s % f.value * (12 / f.value) + 1) 1 :=
  ordAt_of_toYmd (toYmd_start hf s)

theorem ordAt_end {f : Freq} (hf : f.isRegular = true) (s : Int) :
    ordAt f s .end_ = ymd2ord (s / f.value) ((s % f.value + 1) * (12 / f.value))
      (daysInMonth (s / f.value) ((s % f.value + 1) * (12 / f.value))) :=
  ordAt_of_toYmd (toYmd_end hf s)

/-! ### Consecutive periods tile the day line -/

/-- the first day of period `s + 1` is the day after the last day of period `s` -/
theorem ordAt_tile (f : Freq) (hf : f ∈ calendarFreqs) (s : Int) :
    ordAt f (s + 1) .start = ordAt f s .end_ + 1 := by
  rcases calendar_cases hf with hr | rfl
  · rw [ordAt_start hr, ordAt_end hr]
    obtain ⟨c0, c1, -⟩ := segment_months hr s
    obtain ⟨c11, c12⟩ := segment_last_month hr s
    unfold ymd2ord
    -- either the next segment of the same year begins with the next month, or January 1st follows December 31st
    obtain ⟨hlt, ey, es⟩ | ⟨heq, ey, es⟩ := succ_serial hr s
    · rw [ey, es, dbm_succ _ _ (by omega) (c11 hlt)]; omega
    · rw [ey, es, c12 heq, Int.zero_mul, Int.zero_add, dby_succ, dbm_one, ← dbm_dec]; omega
  · simp only [ordAt_daily]

theorem ordAt_order (f : Freq) (hf : f ∈ calendarFreqs) (s : Int) (pos : Pos) :
    ordAt f s .start ≤ ordAt f s pos ∧ ordAt f s pos ≤ ordAt f s .end_ := by
  rcases calendar_cases hf with hr | rfl
  · obtain ⟨c0, c1, c12⟩ := segment_months hr s
    obtain ⟨m, d, h, hv, lo, hi, -⟩ := toYmd_spec hr s pos
    rw [ordAt_start hr, ordAt_end hr, ordAt_of_toYmd h]
    exact ⟨ymd2ord_first_le (by omega) (by omega) hv, ymd2ord_le_last hv hi c12⟩
  · simp only [ordAt_daily]
    exact ⟨Int.le_refl _, Int.le_refl _⟩

/-- the periods of a frequency as consecutive blocks of days (`Nat` lengths, as Lemmas/Blocks.lean has them) -/
theorem ordAt_next (f : Freq) (hf : f ∈ calendarFreqs) (T : Int) :
    ordAt f (T + 1) .start = ordAt f T .start + ((ordAt f T .end_ - ordAt f T .start + 1).toNat : Nat) := by
  have := ordAt_tile f hf T
  have := (ordAt_order f hf T .end_).1
  omega

/-- a later period starts after an earlier one ends -/
theorem end_lt_start_of_lt (f : Freq) (hf : f ∈ calendarFreqs) (s s' : Int) (h : s < s') :
    ordAt f s .end_ < ordAt f s' .start := by
  have := block_end_le (lo := (ordAt f · .start)) (len := fun T => (ordAt f T .end_ - ordAt f T .start + 1).toNat)
    (ordAt_next f hf) h
  have := (ordAt_order f hf s .end_).1
  omega

theorem ordAt_mono (f : Freq) (hf : f ∈ calendarFreqs) {s s' : Int} (h : s ≤ s') (pos : Pos) :
    ordAt f s pos ≤ ordAt f s' pos := by
  rcases Int.lt_or_eq_of_le h with hlt | rfl
  · have := (ordAt_order f hf s pos).2
    have := (ordAt_order f hf s' pos).1
    have := end_lt_start_of_lt f hf s s' hlt
    omega
  · exact Int.le_refl _

/-- a day lies in one period only -/
theorem ordAt_unique (f : Freq) (hf : f ∈ calendarFreqs) {T T' n : Int}
    (h1 : ordAt f T .start ≤ n) (h2 : n ≤ ordAt f T .end_) (h1' : ordAt f T' .start ≤ n) (h2' : n ≤ ordAt f T' .end_) :
    T = T' :=
  block_unique (lo := (ordAt f · .start)) (len := fun T => (ordAt f T .end_ - ordAt f T .start + 1).toNat)
    (ordAt_next f hf) h1 (by omega) h1' (by omega)

/-! ### Conversion finds the period that holds the chosen day -/

/-- the regular period that `from_ymd` builds from a valid date contains that date -/
theorem ordAt_of_date {f : Freq} (hf : f.isRegular = true) {y m d : Int} (hv : ValidYmd y m d) :
    ordAt f (y * f.value + monthToSegment f m - 1) .start ≤ ymd2ord y m d ∧
      ymd2ord y m d ≤ ordAt f (y * f.value + monthToSegment f m - 1) .end_ := by
  obtain ⟨s1, s2⟩ := monthToSegment_range hf hv.1 hv.2.1
  obtain ⟨ey, es⟩ := serial_of_segment hf y s1 s2
  generalize y * f.value + monthToSegment f m - 1 = T at ey es
  obtain ⟨lo, hi⟩ := (month_in_segment hf hv.1 hv.2.1).1 es.symm
  obtain ⟨c0, -, c12⟩ := segment_months hf T
  rw [ordAt_start hf, ordAt_end hf, ey]
  exact ⟨ymd2ord_first_le (by omega) (by omega) hv, ymd2ord_le_last hv hi c12⟩

theorem refrequent_of_toYmd {p : Period} {pos : Pos} {y m d : Int} (h : toYmd p pos = .ok (y, m, d)) (f' : Freq) :
    refrequent p f' pos = fromYmd f' y m d := by
  rw [refrequent, h]; rfl

/-- conversion between calendar frequencies succeeds, and the days of the period it returns include the chosen day of
the source period -/
theorem refrequent_ok (f f' : Freq) (hf : f ∈ calendarFreqs) (hf' : f' ∈ calendarFreqs) (s : Int) (pos : Pos) :
    ∃ T, refrequent ⟨f, s⟩ f' pos = .ok ⟨f', T⟩ ∧
      ordAt f' T .start ≤ ordAt f s pos ∧ ordAt f s pos ≤ ordAt f' T .end_ := by
  obtain ⟨y, m, d, h, hv⟩ := toYmd_valid hf s pos
  rw [ordAt_of_toYmd h, refrequent_of_toYmd h]
  rcases calendar_cases hf' with hr | rfl
  · exact ⟨_, fromYmd_regular hr y m d, ordAt_of_date hr hv⟩
  · refine ⟨ymd2ord y m d, fromYmd_daily hv, ?_⟩
    simp only [ordAt_daily]
    exact ⟨Int.le_refl _, Int.le_refl _⟩

/-- **Conversion is containment on the day line**: `refrequent` returns THE period of the target frequency whose days
include the chosen day of the source period. -/
theorem refrequent_iff (f f' : Freq) (hf : f ∈ calendarFreqs) (hf' : f' ∈ calendarFreqs) (s T : Int) (pos : Pos) :
    refrequent ⟨f, s⟩ f' pos = .ok ⟨f', T⟩ ↔ ordAt f' T .start ≤ ordAt f s pos ∧ ordAt f s pos ≤ ordAt f' T .end_ := by
  obtain ⟨T0, hq, h1, h2⟩ := refrequent_ok f f' hf hf' s pos
  rw [hq]
  constructor
  · rintro ⟨⟩; exact ⟨h1, h2⟩
  · rintro ⟨h1', h2'⟩; rw [ordAt_unique f' hf' h1 h2 h1' h2']

/-! ### Refinement: a period is the union of its sub-periods of a finer frequency -/

/-- a period of a regular frequency starts where the first of its `r` sub-periods of an `r` times finer frequency starts -/
theorem ordAt_start_refine {f f' : Freq} (hf : f.isRegular = true) (hf' : f'.isRegular = true) {r : Int}
    (hr : f'.value = r * f.value) (T : Int) : ordAt f T .start = ordAt f' (r * T) .start := by
  have hr0 := ratio_pos hf hf' hr
  have hk := regular_value_pos hf
  have hc' := regular_months hf'
  have hm : 12 / f.value = r * (12 / f'.value) := by
    apply Int.ediv_eq_of_eq_mul_right (Int.ne_of_gt hk)
    generalize 12 / f'.value = c' at hc'
    rw [← hc', hr, Int.mul_assoc, Int.mul_left_comm]
  rw [ordAt_start hf, ordAt_start hf', hm]
  generalize 12 / f'.value = c'
  rw [hr, Int.mul_ediv_mul_of_pos _ _ hr0, Int.mul_emod_mul_of_pos _ _ hr0, Int.mul_left_comm, Int.mul_assoc]

theorem ordAt_end_refine {f f' : Freq} (hf : f.isRegular = true) (hf' : f'.isRegular = true) {r : Int}
    (hr : f'.value = r * f.value) (T : Int) : ordAt f T .end_ = ordAt f' (r * T + r - 1) .end_ := by
  have h1 := ordAt_tile f (regular_calendar hf) T
  have h2 := ordAt_tile f' (regular_calendar hf') (r * T + r - 1)
  have e : r * T + r - 1 + 1 = r * (T + 1) := by rw [Int.mul_add, Int.mul_one]; omega
  rw [e, ← ordAt_start_refine hf hf' hr] at h2
  omega

/-- sub-period `t` of an `r` times finer frequency lies within period `t / r` -/
theorem ordAt_within {f f' : Freq} (hf : f.isRegular = true) (hf' : f'.isRegular = true) {r : Int}
    (hr : f'.value = r * f.value) (t : Int) :
    ordAt f (t / r) .start ≤ ordAt f' t .start ∧ ordAt f' t .end_ ≤ ordAt f (t / r) .end_ := by
  have hr0 := ratio_pos hf hf' hr
  have hc' := regular_calendar hf'
  rw [ordAt_start_refine hf hf' hr, ordAt_end_refine hf hf' hr]
  -- sub-period `t` is one of the sub-periods `r * (t / r) … r * (t / r) + r - 1`
  have := Int.mul_ediv_add_emod t r
  have := Int.emod_nonneg t (Int.ne_of_gt hr0)
  have := Int.emod_lt_of_pos t hr0
  exact ⟨ordAt_mono f' hc' (by omega) .start, ordAt_mono f' hc' (by omega) .end_⟩

/-- **Regular → coarser regular conversion is integer division of the serial**, at every position. -/
theorem refrequent_coarser {f f' : Freq} (hf : f.isRegular = true) (hf' : f'.isRegular = true) {r : Int}
    (hr : f'.value = r * f.value) (t : Int) (pos : Pos) : refrequent ⟨f', t⟩ f pos = .ok ⟨f, t / r⟩ := by
  have hc' := regular_calendar hf'
  have := ordAt_within hf hf' hr t
  have := ordAt_order f' hc' t pos
  rw [refrequent_iff f' f hc' (regular_calendar hf)]
  omega

end IrisVerif.Dates.C11
