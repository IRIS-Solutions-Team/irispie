/-
A Python `dict` as an association list in insertion order.  The models read an entry each in their own way: the databox
(`Databox.lookup`; Lemmas/DataboxOps), `estimate`'s returned databox (`RedVar.dbLookup`; Props/C18), the solver settings and a model
object's parameters (`Stacked.Settings.lookup`, `Stacked.Obj.lookup`; Props/C06), the steady evaluator's positional look-up
(`Steady.Evaluator.lookup`; Props/C05).  All are `get?`, by definition or by the `lookup_eq_get?` of the file named, and what
reading does after `map`, `filter`, `++` and `left | right`, and under distinct keys, is proved here for `get?`.  Not so the
stacked-time model's position and overwrite lists (`Stacked.storeCurr`, `Stacked.applyOverwrites`), read by a `match` on `find?` that
Props/C06 reasons about as it stands.  Core Lean only.
-/

namespace IrisVerif.Assoc

variable {κ ν : Type} [BEq κ]

/-- the value of the first entry with key `k` -/
def get? (l : List (κ × ν)) (k : κ) : Option ν := (l.find? (fun p => p.1 == k)).map (·.2)

@[simp] theorem get?_nil (k : κ) : get? ([] : List (κ × ν)) k = none := rfl

theorem get?_append (a b : List (κ × ν)) (k : κ) : get? (a ++ b) k = (get? a k).or (get? b k) := by
  unfold get?
  rw [List.find?_append, Option.map_or]

theorem get?_cons (a : κ) (b : ν) (l : List (κ × ν)) (k : κ) :
    get? ((a, b) :: l) k = if a == k then some b else get? l k := by
  unfold get?
  rw [List.find?_cons]
  split
  · next h => rw [if_pos h]; rfl
  · next h => rw [if_neg (ne_true_of_eq_false h)]

variable [LawfulBEq κ]

theorem get?_cons_self (a : κ) (b : ν) (l : List (κ × ν)) : get? ((a, b) :: l) a = some b := by
  rw [get?_cons, if_pos BEq.rfl]

theorem get?_cons_ne (a : κ) (b : ν) (l : List (κ × ν)) {k : κ} (h : a ≠ k) : get? ((a, b) :: l) k = get? l k := by
  rw [get?_cons, if_neg (by simpa using h)]

theorem get?_eq_some_mem {l : List (κ × ν)} {k : κ} {v : ν} (h : get? l k = some v) : (k, v) ∈ l := by
  obtain ⟨p, hp, rfl⟩ := Option.map_eq_some_iff.1 h
  have := List.find?_some hp
  rw [← eq_of_beq this]
  exact List.mem_of_find?_eq_some hp

theorem get?_eq_none_iff {l : List (κ × ν)} {k : κ} : get? l k = none ↔ k ∉ l.map (·.1) := by
  unfold get?
  rw [Option.map_eq_none_iff, List.find?_eq_none]
  simp only [List.mem_map, not_exists, not_and, beq_iff_eq]

theorem get?_isSome_iff {l : List (κ × ν)} {k : κ} : (get? l k).isSome ↔ k ∈ l.map (·.1) := by
  rw [Option.isSome_iff_ne_none, Ne, get?_eq_none_iff, Decidable.not_not]

theorem get?_of_mem {l : List (κ × ν)} (hnd : (l.map (·.1)).Nodup) {k : κ} {v : ν} (h : (k, v) ∈ l) : get? l k = some v := by
  induction l with
  | nil => cases h
  | cons p l ih =>
    obtain ⟨a, b⟩ := p
    rw [List.map_cons, List.nodup_cons] at hnd
    rcases List.mem_cons.1 h with e | h
    · cases e; exact get?_cons_self k v l
    · rw [get?_cons_ne _ _ _ (fun e : a = k => hnd.1 (e ▸ List.mem_map_of_mem (f := (·.1)) h)), ih hnd.2 h]

theorem get?_graph (f : κ → ν) {l : List κ} {k : κ} (h : k ∈ l) : get? (l.map fun a => (a, f a)) k = some (f k) := by
  induction l with
  | nil => cases h
  | cons a l ih =>
    rw [List.map_cons, get?_cons]
    split
    · rename_i e; rw [eq_of_beq e]
    · rename_i e; exact ih ((List.mem_cons.1 h).resolve_left fun e' => e (e' ▸ BEq.rfl))

theorem get?_map_val (f : κ → ν → ν) (l : List (κ × ν)) (k : κ) :
    get? (l.map (fun p => (p.1, f p.1 p.2))) k = (get? l k).map (f k) := by
  induction l with
  | nil => rfl
  | cons p l ih =>
    obtain ⟨a, b⟩ := p
    rw [List.map_cons, get?_cons, get?_cons, ih]
    split
    · rename_i h; rw [eq_of_beq h]; rfl
    · rfl

theorem get?_filter_key (q : κ → Bool) (l : List (κ × ν)) (k : κ) :
    get? (l.filter (fun p => q p.1)) k = if q k then get? l k else none := by
  induction l with
  | nil => simp
  | cons p l ih =>
    obtain ⟨a, b⟩ := p
    rw [List.filter_cons]
    by_cases ha : a = k
    · subst ha
      cases hq : q a <;> simp [hq, ih, get?_cons_self]
    · cases q a <;> simp [ih, get?_cons_ne _ _ _ ha]

/-- Python's `left | right`: the keys of `left` in their places with the value of `right` where it has one, then the keys only
`right` has; `new` is any test for "is not a key of `left`" -/
theorem get?_union (left right : List (κ × ν)) (new : κ → Bool) (hnew : ∀ k, new k = (get? left k).isNone) (k : κ) :
    get? (left.map (fun p => (p.1, (get? right p.1).getD p.2)) ++ right.filter (fun p => new p.1)) k
      = (get? right k).or (get? left k) := by
  rw [get?_append, get?_map_val (fun n v => (get? right n).getD v) left, get?_filter_key new, hnew]
  cases get? left k <;> cases get? right k <;> rfl

end IrisVerif.Assoc
