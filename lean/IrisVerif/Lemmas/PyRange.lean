/-
Lemmas about the model of Python's `range` (IrisVerif.Model.Spans). Core Lean only.
-/
import IrisVerif.Model.Spans

namespace IrisVerif.Dates

theorem pyRange_length (lo hi step : Int) : (pyRange lo hi step).length = pyRangeLen lo hi step := by
  simp [pyRange]

theorem pyRange_getElem (lo hi step : Int) (i : Nat) (h : i < (pyRange lo hi step).length) :
    (pyRange lo hi step)[i] = lo + (i : Int) * step := by
  simp [pyRange]

theorem pyRangeGet_of_nonneg {lo hi step i : Int} (h0 : 0 ≤ i) (h : i < pyRangeLen lo hi step) :
    pyRangeGet lo hi step i = some (lo + i * step) :=
  if_pos ⟨h0, h⟩

theorem pyRangeGet_of_neg {lo hi step i : Int} (h0 : i < 0) (h : -(pyRangeLen lo hi step : Int) ≤ i) :
    pyRangeGet lo hi step i = some (lo + (i + pyRangeLen lo hi step) * step) :=
  (if_neg (by omega)).trans (if_pos ⟨h, h0⟩)

theorem pyRangeGet_none {lo hi step i : Int}
    (h : (pyRangeLen lo hi step : Int) ≤ i ∨ i < -(pyRangeLen lo hi step : Int)) :
    pyRangeGet lo hi step i = none :=
  (if_neg (by omega)).trans (if_neg (by omega))

/-- a backward range is the mirror image of a forward one -/
theorem pyRangeLen_neg (lo hi step : Int) (hs : step < 0) :
    pyRangeLen lo hi step = pyRangeLen (-lo) (-hi) (-step) := by
  have e1 : -hi - -lo - 1 = lo - hi - 1 := by omega
  have e2 : (-lo < -hi) = (hi < lo) := propext (by omega)
  have h1 : ¬ step > 0 := by omega
  have h2 : -step > 0 := by omega
  simp only [pyRangeLen, h1, hs, h2, e1, e2, if_true, if_false]

theorem lt_pyRangeLen_pos (lo hi step : Int) (hs : 0 < step) (i : Nat) :
    i < pyRangeLen lo hi step ↔ lo + (i : Int) * step < hi := by
  unfold pyRangeLen
  rw [if_pos hs]
  split
  · rw [Int.lt_toNat, Int.lt_add_one_iff, Int.le_ediv_iff_mul_le hs]; omega
  · have := Int.mul_nonneg (Int.natCast_nonneg i) (Int.le_of_lt hs); omega

theorem lt_pyRangeLen (lo hi step : Int) (hs : step ≠ 0) (i : Nat) :
    i < pyRangeLen lo hi step ↔
      (0 < step → lo + (i : Int) * step < hi) ∧ (step < 0 → hi < lo + (i : Int) * step) := by
  rcases Int.lt_or_gt_of_ne hs with h | h
  · rw [pyRangeLen_neg lo hi step h, lt_pyRangeLen_pos _ _ _ (by omega), Int.mul_neg]; omega
  · rw [lt_pyRangeLen_pos lo hi step h]; omega

/-- `range(lo, hi, step)` enumerates exactly `lo, lo+step, …` strictly before `hi` (in the direction of `step`). -/
theorem mem_pyRange (lo hi step x : Int) (hs : step ≠ 0) :
    x ∈ pyRange lo hi step ↔
      ∃ i : Nat, x = lo + (i : Int) * step ∧ (0 < step → x < hi) ∧ (step < 0 → hi < x) := by
  simp only [pyRange, List.mem_map, List.mem_range, lt_pyRangeLen lo hi step hs]
  constructor
  · rintro ⟨i, h, rfl⟩; exact ⟨i, rfl, h⟩
  · rintro ⟨i, rfl, h⟩; exact ⟨i, h, rfl⟩

theorem pyRange_bounds {lo hi step x : Int} (hs : step ≠ 0) (h : x ∈ pyRange lo hi step) :
    (0 < step → lo ≤ x ∧ x < hi) ∧ (step < 0 → hi < x ∧ x ≤ lo) := by
  obtain ⟨i, rfl, h1, h2⟩ := (mem_pyRange lo hi step x hs).mp h
  refine ⟨fun hp => ⟨?_, h1 hp⟩, fun hn => ⟨h2 hn, ?_⟩⟩
  · have := Int.mul_nonneg (Int.natCast_nonneg i) (Int.le_of_lt hp); omega
  · have := Int.mul_nonpos_of_nonneg_of_nonpos (Int.natCast_nonneg i) (Int.le_of_lt hn); omega

theorem head_mem_pyRange {lo hi step : Int} (h : (0 < step ∧ lo < hi) ∨ (step < 0 ∧ hi < lo)) :
    lo ∈ pyRange lo hi step :=
  (mem_pyRange lo hi step lo (by omega)).mpr ⟨0, by simp, fun _ => by omega, fun _ => by omega⟩

theorem pyRange_eq_nil {lo hi step : Int} (h : (0 < step ∧ hi ≤ lo) ∨ (step < 0 ∧ lo ≤ hi)) :
    pyRange lo hi step = [] :=
  List.eq_nil_iff_forall_not_mem.2 fun x hx => by have := pyRange_bounds (by omega) hx; omega

theorem pyRange_pairwise (lo hi step : Int) :
    (0 < step → (pyRange lo hi step).Pairwise (· < ·)) ∧ (step < 0 → (pyRange lo hi step).Pairwise (· > ·)) := by
  unfold pyRange
  refine ⟨fun h => ?_, fun h => ?_⟩
  · rw [List.pairwise_map]
    refine List.pairwise_lt_range.imp fun {i j} (hij : i < j) => ?_
    have := Int.mul_lt_mul_of_pos_right (Int.ofNat_lt.mpr hij) h; omega
  · rw [List.pairwise_map]
    refine List.pairwise_lt_range.imp fun {i j} (hij : i < j) => ?_
    have := Int.mul_lt_mul_of_neg_right (Int.ofNat_lt.mpr hij) h; omega

theorem pyRange_shift (lo hi step k : Int) :
    pyRange (lo + k) (hi + k) step = (pyRange lo hi step).map (· + k) := by
  have hl : pyRangeLen (lo + k) (hi + k) step = pyRangeLen lo hi step := by
    simp only [pyRangeLen, Int.add_lt_add_iff_right, Int.add_sub_add_right]
  unfold pyRange
  rw [hl, List.map_map]
  apply List.map_congr_left
  intro i _
  simp only [Function.comp]
  omega

theorem sign_pos {x : Int} (h : 0 < x) : sign x = 1 := by simp [sign, h]
theorem sign_neg {x : Int} (h : x < 0) : sign x = -1 := by
  rw [sign, if_neg (by omega), if_neg (by simp; omega)]

/-- the inclusive range of the span model: `a, a + step, …` as far as `b` -/
theorem mem_pyRange_incl (a b step x : Int) (hs : step ≠ 0) :
    x ∈ pyRange a (b + sign step) step ↔
      ∃ i : Nat, x = a + (i : Int) * step ∧ (0 < step → x ≤ b) ∧ (step < 0 → b ≤ x) := by
  rw [mem_pyRange _ _ _ _ hs]
  refine exists_congr fun i => and_congr_right fun _ => ?_
  rcases Int.lt_or_gt_of_ne hs with h | h
  · rw [sign_neg h]; omega
  · rw [sign_pos h]; omega

theorem mem_pyRange_up (a b x : Int) : x ∈ pyRange a (b + 1) 1 ↔ a ≤ x ∧ x ≤ b := by
  rw [mem_pyRange _ _ _ _ (by decide)]
  exact ⟨fun ⟨i, hi, h1, _⟩ => by have := h1 (by decide); omega,
    fun ⟨h1, h2⟩ => ⟨(x - a).toNat, by omega, fun _ => by omega, fun h => by omega⟩⟩

theorem pyRangeLen_up (a b : Int) : pyRangeLen a (b + 1) 1 = (b - a + 1).toNat := by
  rw [pyRangeLen, if_pos (by decide), Int.ediv_one]
  split <;> omega

theorem pyRange_up_ends {a b : Int} (h : a ≤ b) :
    (pyRange a (b + 1) 1).head? = some a ∧ (pyRange a (b + 1) 1).getLast? = some b := by
  obtain ⟨n, rfl⟩ : ∃ n : Nat, b = a + n := ⟨(b - a).toNat, by omega⟩
  have hl : (pyRange a (a + n + 1) 1).length = n + 1 := by rw [pyRange_length, pyRangeLen_up]; omega
  constructor
  · rw [List.head?_eq_getElem?, List.getElem?_eq_getElem (by omega), pyRange_getElem]
    simp
  · rw [List.getLast?_eq_getElem?, hl, List.getElem?_eq_getElem (by omega), pyRange_getElem, Int.mul_one]
    rfl

theorem mem_pyRange_down (a b x : Int) : x ∈ pyRange b (a - 1) (-1) ↔ a ≤ x ∧ x ≤ b := by
  rw [mem_pyRange _ _ _ _ (by decide)]
  exact ⟨fun ⟨i, hi, _, h2⟩ => by have := h2 (by decide); omega,
    fun ⟨h1, h2⟩ => ⟨(b - x).toNat, by omega, fun h => by omega, fun _ => by omega⟩⟩

theorem pyRangeLen_exact_pos (a step : Int) (m : Nat) (hs : 0 < step) :
    pyRangeLen a (a + (m : Int) * step + 1) step = m + 1 := by
  have := Int.mul_nonneg (Int.natCast_nonneg m) (Int.le_of_lt hs)
  have e : a + (m : Int) * step + 1 - a - 1 = (m : Int) * step := by omega
  unfold pyRangeLen
  rw [if_pos hs, if_pos (by omega), e, Int.mul_ediv_cancel _ (Int.ne_of_gt hs)]
  omega

theorem pyRangeLen_exact (a step : Int) (m : Nat) (hs : step ≠ 0) :
    pyRangeLen a (a + (m : Int) * step + sign step) step = m + 1 := by
  rcases Int.lt_or_gt_of_ne hs with h | h
  · rw [sign_neg h, pyRangeLen_neg _ _ _ h,
      show -(a + (m : Int) * step + -1) = -a + (m : Int) * -step + 1 by rw [Int.mul_neg]; omega]
    exact pyRangeLen_exact_pos _ _ m (by omega)
  · rw [sign_pos h]
    exact pyRangeLen_exact_pos a step m h

/-- when the end is reachable from the start (`end = start + m·step`) the reversed span enumerates the
same periods in the opposite order -/
theorem pyRange_reverse (a step : Int) (m : Nat) (hs : step ≠ 0) :
    pyRange (a + (m : Int) * step) (a + sign (-step)) (-step) =
      (pyRange a (a + (m : Int) * step + sign step) step).reverse := by
  have hlen := pyRangeLen_exact a step m hs
  have hlen' := pyRangeLen_exact (a + (m : Int) * step) (-step) m (by omega)
  rw [show a + (m : Int) * step + (m : Int) * -step = a by rw [Int.mul_neg]; omega] at hlen'
  apply List.ext_getElem
  · rw [List.length_reverse, pyRange_length, pyRange_length, hlen, hlen']
  · intro i h1 _
    rw [pyRange_length, hlen'] at h1
    rw [pyRange_getElem, List.getElem_reverse, pyRange_getElem, pyRange_length, hlen,
      show ((m + 1 - 1 - i : Nat) : Int) = (m : Int) - i by omega, Int.mul_neg, Int.sub_mul]
    omega

end IrisVerif.Dates
