/-
Mathlib-level objects of the Hodrick-Prescott problem (helper lemmas for Props/C14.lean), over any field:
the second-difference matrix `Kmat` and its kernel (the affine sequences), the first-difference matrix `Dmat1` of
`lonf`, the constraint matrix `Cmat` (level rows, then change rows), their actions on a sequence, and the full row
rank of `Cmat` for independent constraints (`Cmat_rank_mixed`, through the recursion `steps_vanish` on the weights
that `Cᵀ μ` puts on each period).
-/
import Mathlib.Data.Matrix.Mul
import Mathlib.Algebra.BigOperators.Fin
import Mathlib.Algebra.Field.Defs
import Mathlib.Tactic.LinearCombination

namespace IrisVerif.HPMatrix

open Matrix

variable {K : Type} [Field K]

/-- entry `(i, j)` of the second-difference matrix (the same nested `if` as `IrisVerif.HP.kEntry`) -/
def kEntryK (i j : Nat) : K :=
  if j = i then 1 else if j = i + 1 then -2 else if j = i + 2 then 1 else 0

/-- the second-difference matrix `K` of `_create_plain_filter_matrix` (the model's `HP.hpK`) over any field -/
def Kmat (n : Nat) : Matrix (Fin (n - 2)) (Fin n) K := fun i j => kEntryK i.val j.val

/-- positions `i, i+1, i+2` of row `i` -/
def p0 {n : Nat} (i : Fin (n - 2)) : Fin n := ⟨i.val, by omega⟩
def p1 {n : Nat} (i : Fin (n - 2)) : Fin n := ⟨i.val + 1, by omega⟩
def p2 {n : Nat} (i : Fin (n - 2)) : Fin n := ⟨i.val + 2, by omega⟩

/-- one non-zero entry of a matrix row peeled off a dot product: if row entry `a` is `x` and the rest of the row is `f`
(with `f a = 0`), the product with `τ` is `x * τ a` plus the product of the rest.  Applied once per non-zero entry to the
rows of `Kmat`, `Dmat1`, `Cmat`. -/
theorem sum_ite_mul {ι : Type} [Fintype ι] [DecidableEq ι] {a : ι} {x : K} {f τ : ι → K} (hf : f a = 0) :
    ∑ j, (if j = a then x else f j) * τ j = x * τ a + ∑ j, f j * τ j := by
  have key : ∀ j, (if j = a then x else f j) * τ j = (if j = a then x * τ j else 0) + f j * τ j := by
    intro j
    by_cases h : j = a
    · rw [if_pos h, if_pos h, h, hf, zero_mul, add_zero]
    · rw [if_neg h, if_neg h, zero_add]
  simp only [key, Finset.sum_add_distrib, Finset.sum_ite_eq', Finset.mem_univ, if_true]

theorem Kmat_mulVec (n : Nat) (τ : Fin n → K) (i : Fin (n - 2)) :
    (Kmat n *ᵥ τ) i = τ (p0 i) - 2 * τ (p1 i) + τ (p2 i) := by
  have row : ∀ j, Kmat (K := K) n i j = if j = p0 i then 1 else if j = p1 i then -2 else if j = p2 i then 1 else 0 :=
    fun j => by simp only [Fin.ext_iff]; rfl
  have h01 : p0 i ≠ p1 i := Fin.ne_of_val_ne (Nat.lt_succ_self _).ne
  have h02 : p0 i ≠ p2 i := Fin.ne_of_val_ne (Nat.lt_add_of_pos_right Nat.two_pos).ne
  have h12 : p1 i ≠ p2 i := Fin.ne_of_val_ne (Nat.lt_succ_self _).ne
  unfold Matrix.mulVec dotProduct
  simp only [row]
  rw [sum_ite_mul (by rw [if_neg h01, if_neg h02]), sum_ite_mul (by rw [if_neg h12])]
  simp only [ite_mul, zero_mul, Finset.sum_ite_eq', Finset.mem_univ, if_true]
  ring

/-- the smoothness penalty as the sum of squared second differences -/
theorem Kmat_penalty (n : Nat) (τ : Fin n → K) :
    (Kmat n *ᵥ τ) ⬝ᵥ (Kmat n *ᵥ τ) = ∑ i : Fin (n - 2), (τ (p0 i) - 2 * τ (p1 i) + τ (p2 i)) ^ 2 := by
  unfold dotProduct
  refine Finset.sum_congr rfl (fun i _ => ?_)
  rw [Kmat_mulVec]; ring

theorem Kmat_affine (n : Nat) (a b : K) : Kmat n *ᵥ (fun t : Fin n => a + b * (t.val : K)) = 0 := by
  funext i
  rw [Kmat_mulVec]
  simp only [p0, p1, p2, Pi.zero_apply]
  push_cast
  ring

/-- the kernel of `K` consists of affine sequences only -/
theorem Kmat_kernel (n : Nat) (hn : 2 ≤ n) (τ : Fin n → K) (h : Kmat n *ᵥ τ = 0) :
    ∀ k (hk : k < n), τ ⟨k, hk⟩ =
      τ ⟨0, by omega⟩ + (τ ⟨1, by omega⟩ - τ ⟨0, by omega⟩) * (k : K) := by
  intro k
  induction k using Nat.twoStepInduction with
  | zero => intro _; rw [Nat.cast_zero, mul_zero, add_zero]
  | one => intro _; rw [Nat.cast_one, mul_one, add_sub_cancel]
  | more k h0 h1 =>
    intro hk
    have hr := congrFun h ⟨k, by omega⟩
    rw [Kmat_mulVec] at hr
    simp only [p0, p1, p2, Pi.zero_apply] at hr
    push_cast at h1 ⊢
    linear_combination hr + 2 * h1 (by omega) - h0 (by omega)

/-! ### First-difference matrix (lonf order 1) -/

/-- entry `(i, j)` of the first-difference matrix of `_first_order_matrix_setup`: `D[i,i] = 1, D[i,i+1] = -1` -/
def d1EntryK (i j : Nat) : K := if j = i then 1 else if j = i + 1 then -1 else 0

/-- the matrix `D` of `_first_order_matrix_setup` (the model's `HP.lonfD 1`) over any field -/
def Dmat1 (n : Nat) : Matrix (Fin (n - 1)) (Fin n) K := fun i j => d1EntryK i.val j.val

def q0 {n : Nat} (i : Fin (n - 1)) : Fin n := ⟨i.val, by omega⟩
def q1 {n : Nat} (i : Fin (n - 1)) : Fin n := ⟨i.val + 1, by omega⟩

theorem Dmat1_mulVec (n : Nat) (τ : Fin n → K) (i : Fin (n - 1)) :
    (Dmat1 n *ᵥ τ) i = τ (q0 i) - τ (q1 i) := by
  have row : ∀ j, Dmat1 (K := K) n i j = if j = q0 i then 1 else if j = q1 i then -1 else 0 :=
    fun j => by simp only [Fin.ext_iff]; rfl
  have h01 : q0 i ≠ q1 i := Fin.ne_of_val_ne (Nat.lt_succ_self _).ne
  unfold Matrix.mulVec dotProduct
  simp only [row]
  rw [sum_ite_mul (by rw [if_neg h01])]
  simp only [ite_mul, zero_mul, Finset.sum_ite_eq', Finset.mem_univ, if_true]
  ring

variable {n kl kc : Nat}

/-- not `Fin.pred`: no proof of `j ≠ 0` is asked for, `0` stays `0`; the statements apply it to change positions,
which are `≥ 1` -/
def pred (j : Fin n) : Fin n := ⟨j.val - 1, by omega⟩

/-- constraint matrix: row `inl i` is `e_{lw i}` (level), row `inr i` is `e_{cw i} - e_{cw i - 1}` (change) -/
def Cmat (lw : Fin kl → Fin n) (cw : Fin kc → Fin n) : Matrix (Fin kl ⊕ Fin kc) (Fin n) K :=
  fun r j => match r with
    | Sum.inl i => if j = lw i then 1 else 0
    | Sum.inr i => if j = cw i then 1 else if j.val + 1 = (cw i).val then -1 else 0

theorem Cmat_level (lw : Fin kl → Fin n) (cw : Fin kc → Fin n) (τ : Fin n → K) (i : Fin kl) :
    (Cmat lw cw *ᵥ τ) (Sum.inl i) = τ (lw i) := by
  unfold Matrix.mulVec dotProduct Cmat
  simp only [ite_mul, one_mul, zero_mul, Finset.sum_ite_eq', Finset.mem_univ, if_true]

theorem Cmat_change (lw : Fin kl → Fin n) (cw : Fin kc → Fin n) (τ : Fin n → K) (i : Fin kc)
    (hpos : 0 < (cw i).val) :
    (Cmat lw cw *ᵥ τ) (Sum.inr i) = τ (cw i) - τ (pred (cw i)) := by
  have row : ∀ j, Cmat (K := K) lw cw (Sum.inr i) j = if j = cw i then 1 else if j = pred (cw i) then -1 else 0 := by
    intro j
    have e : j.val + 1 = (cw i).val ↔ j = pred (cw i) := by simp only [Fin.ext_iff, pred]; omega
    show (if j = cw i then (1 : K) else if j.val + 1 = (cw i).val then -1 else 0) = _
    simp only [e]
  have h01 : cw i ≠ pred (cw i) := Fin.ne_of_val_ne (Nat.sub_lt hpos Nat.one_pos).ne'
  unfold Matrix.mulVec dotProduct
  simp only [row]
  rw [sum_ite_mul (by rw [if_neg h01])]
  simp only [ite_mul, zero_mul, Finset.sum_ite_eq', Finset.mem_univ, if_true]
  ring

/-- feasibility `C τ = (lv, cv)` spelled out: every level and every change constraint holds -/
theorem Cmat_feasible_iff (lw : Fin kl → Fin n) (cw : Fin kc → Fin n) (hcw : ∀ i, 0 < (cw i).val)
    (lv : Fin kl → K) (cv : Fin kc → K) (τ : Fin n → K) :
    Cmat lw cw *ᵥ τ = Sum.elim lv cv ↔
      ((∀ i, τ (lw i) = lv i) ∧ (∀ i, τ (cw i) - τ (pred (cw i)) = cv i)) := by
  rw [funext_iff, Sum.forall]
  exact and_congr (forall_congr' fun i => by rw [Cmat_level, Sum.elim_inl])
    (forall_congr' fun i => by rw [Cmat_change lw cw τ i (hcw i), Sum.elim_inr])

/-! ### Full row rank of the constraint matrix (independent constraints) -/

/-- total weight `w` puts on the constraints placed at position `j` -/
def weightAt {k : Nat} (pos : Fin k → Fin n) (w : Fin k → K) (j : Nat) : K :=
  ∑ i, if (pos i).val = j then w i else 0

theorem weightAt_eq_zero {k : Nat} (pos : Fin k → Fin n) (w : Fin k → K) (j : Nat) (h : ∀ i, (pos i).val ≠ j) :
    weightAt pos w j = 0 :=
  Finset.sum_eq_zero fun i _ => if_neg (h i)

theorem weightAt_ne_zero {k : Nat} (pos : Fin k → Fin n) (w : Fin k → K) (j : Nat) (h : weightAt pos w j ≠ 0) :
    ∃ i, (pos i).val = j :=
  by_contra fun hne => h (weightAt_eq_zero pos w j fun i hi => hne ⟨i, hi⟩)

theorem weightAt_at {k : Nat} (pos : Fin k → Fin n) (hinj : Function.Injective pos) (w : Fin k → K) (i : Fin k) :
    weightAt pos w (pos i).val = w i := by
  unfold weightAt
  rw [Finset.sum_eq_single i (fun i' _ hne => if_neg fun h => hne (hinj (Fin.ext h)))
    (fun h => absurd (Finset.mem_univ i) h), if_pos rfl]

/-- component `j` of `Cᵀ μ`: levels at `j`, plus changes at `j`, minus changes at `j + 1` -/
theorem Cmat_transpose_mulVec (lw : Fin kl → Fin n) (cw : Fin kc → Fin n) (μ : Fin kl ⊕ Fin kc → K) (j : Fin n) :
    ((Cmat lw cw)ᵀ *ᵥ μ) j =
      weightAt lw (μ ∘ Sum.inl) j.val + weightAt cw (μ ∘ Sum.inr) j.val - weightAt cw (μ ∘ Sum.inr) (j.val + 1) := by
  unfold Matrix.mulVec dotProduct weightAt
  rw [Fintype.sum_sum_type]
  simp only [Matrix.transpose_apply, Cmat, Function.comp]
  rw [add_sub_assoc, ← Finset.sum_sub_distrib]
  congr 1
  · refine Finset.sum_congr rfl (fun i _ => ?_)
    simp only [Fin.ext_iff, eq_comm (a := j.val), ite_mul, one_mul, zero_mul]
  · -- a change row has `1` at its own period and `-1` one period earlier, never both
    refine Finset.sum_congr rfl (fun k _ => ?_)
    simp only [Fin.ext_iff, eq_comm (a := j.val), eq_comm (a := j.val + 1)]
    by_cases h0 : (cw k).val = j.val
    · rw [if_pos h0, if_pos h0, if_neg (by omega), one_mul, sub_zero]
    · rw [if_neg h0, if_neg h0, zero_sub]
      by_cases h1 : (cw k).val = j.val + 1
      · rw [if_pos h1, if_pos h1, neg_one_mul]
      · rw [if_neg h1, if_neg h1, zero_mul, neg_zero]

/-- the combinatorial core of `Cmat_rank_mixed`, where `α j`, `β j` are the weights on the level and on the change
constraints placed at `j`.  Along the time line `α` vanishes below `p` and `β p = 0` (`inv`): were `α p ≠ 0`, the running
sum `β` would stay at `α p` from `p + 1` on (`hrun`), since a later `α j ≠ 0` would by `hnc` put a zero of `β` among
`p+1 … j`; but `β n = 0`. -/
theorem steps_vanish (α β : Nat → K) (n : Nat) (h0 : β 0 = 0) (hn : β n = 0)
    (step : ∀ j, j < n → β (j + 1) = β j + α j)
    (hnc : ∀ p q, α p ≠ 0 → α q ≠ 0 → p < q → ∃ j, p < j ∧ j ≤ q ∧ β j = 0) :
    (∀ j, j < n → α j = 0) ∧ ∀ j, j ≤ n → β j = 0 := by
  have inv : ∀ p, p ≤ n → (∀ j, j < p → α j = 0) ∧ β p = 0 := by
    intro p
    induction p with
    | zero => exact fun _ => ⟨fun j hj => absurd hj (Nat.not_lt_zero j), h0⟩
    | succ p ih =>
      intro hp
      obtain ⟨hmin, hp0⟩ := ih (Nat.le_of_succ_le hp)
      have hαp : α p = 0 := by
        by_contra hne
        have hrun : ∀ j, p < j → j ≤ n → β j = α p := by
          intro j
          induction j using Nat.strong_induction_on with
          | _ j ihj =>
            intro hpj hjn
            cases j with
            | zero => omega
            | succ j =>
              rw [step j hjn]
              rcases (Nat.lt_succ_iff.1 hpj).eq_or_lt with rfl | hlt
              · rw [hp0, zero_add]
              · rw [ihj j j.lt_succ_self hlt (by omega), add_eq_left]
                by_contra hj
                obtain ⟨t, ht1, ht2, ht3⟩ := hnc p j hne hj hlt
                exact hne ((ihj t (by omega) ht1 (by omega)).symm.trans ht3)
        exact hne ((hrun n hp le_rfl).symm.trans hn)
      refine ⟨fun j hj => ?_, by rw [step p hp, hp0, hαp, add_zero]⟩
      rcases (Nat.lt_succ_iff.1 hj).eq_or_lt with rfl | hlt
      · exact hαp
      · exact hmin j hlt
  exact ⟨(inv n le_rfl).1, fun j hj => (inv j hj).2⟩

/-- **full row rank, levels and changes together.**  Distinct level positions, distinct change positions (`≥ 1`), and
no "cycle": between two level positions `p < q` at least one period of `p+1 … q` carries no change constraint
(otherwise the two levels and the changes in between over-determine `τ_q − τ_p`). -/
theorem Cmat_rank_mixed (lw : Fin kl → Fin n) (cw : Fin kc → Fin n)
    (hlinj : Function.Injective lw) (hcinj : Function.Injective cw) (hcw : ∀ k, 0 < (cw k).val)
    (hnc : ∀ i i', (lw i).val < (lw i').val → ∃ j, (lw i).val < j ∧ j ≤ (lw i').val ∧ ∀ k, (cw k).val ≠ j)
    (μ : Fin kl ⊕ Fin kc → K) (h : (Cmat lw cw)ᵀ *ᵥ μ = 0) : μ = 0 := by
  obtain ⟨ha, hb⟩ := steps_vanish (α := weightAt lw (μ ∘ Sum.inl)) (β := weightAt cw (μ ∘ Sum.inr)) (n := n)
    (h0 := weightAt_eq_zero cw _ 0 fun k => (hcw k).ne')
    (hn := weightAt_eq_zero cw _ n fun k => (cw k).isLt.ne)
    (step := fun j hj => by
      -- row `j` of `Cᵀ μ = 0` is the recursion `β (j+1) = β j + α j`
      have := congrFun h ⟨j, hj⟩
      rw [Cmat_transpose_mulVec, Pi.zero_apply] at this
      linear_combination -this)
    (hnc := fun p q hp hq hpq => by
      obtain ⟨i, rfl⟩ := weightAt_ne_zero lw _ p hp
      obtain ⟨i', rfl⟩ := weightAt_ne_zero lw _ q hq
      obtain ⟨j, h1, h2, h3⟩ := hnc i i' hpq
      exact ⟨j, h1, h2, weightAt_eq_zero cw _ j h3⟩)
  funext r
  rcases r with i | k
  · exact (weightAt_at lw hlinj (μ ∘ Sum.inl) i).symm.trans (ha _ (lw i).isLt)
  · exact (weightAt_at cw hcinj (μ ∘ Sum.inr) k).symm.trans (hb _ (cw k).isLt.le)

/-- **full row rank, levels only**: distinct level positions are independent -/
theorem Cmat_rank_levels (lw : Fin kl → Fin n) (hinj : Function.Injective lw) (cw : Fin 0 → Fin n)
    (μ : Fin kl ⊕ Fin 0 → K) (h : (Cmat lw cw)ᵀ *ᵥ μ = 0) : μ = 0 :=
  Cmat_rank_mixed lw cw hinj (fun k => k.elim0) (fun k => k.elim0)
    (fun _ i' hlt => ⟨(lw i').val, hlt, le_rfl, fun k => k.elim0⟩) μ h

/-- **full row rank, changes only**: distinct change positions (each `≥ 1`) are independent -/
theorem Cmat_rank_changes (lw : Fin 0 → Fin n) (cw : Fin kc → Fin n) (hinj : Function.Injective cw)
    (hcw : ∀ k, 0 < (cw k).val) (μ : Fin 0 ⊕ Fin kc → K) (h : (Cmat lw cw)ᵀ *ᵥ μ = 0) : μ = 0 :=
  Cmat_rank_mixed lw cw (fun i => i.elim0) hinj hcw (fun i => i.elim0) μ h

end IrisVerif.HPMatrix
