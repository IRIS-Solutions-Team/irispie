/-
Lemmas about the expansion memo of `Model/C20State.lean`: it is the memo of `Lemmas/Machines.lean`.  The theorems about the
flags of that file are finite tables and stand in `Props/C20.lean`, and so do those about `importVariantJson` and
`substTokens`.
-/
import IrisVerif.Model.C20State
import IrisVerif.Lemmas.Machines

namespace IrisVerif.C20State

theorem expand_eq (s : SolObj) (f : Nat) :
    expand s f = ({ s with memo := Machine.extend (fun k => (s.version, k)) s.memo f },
      (Machine.extend (fun k => (s.version, k)) s.memo f).take f) := rfl

theorem memoInv_iff (s : SolObj) : MemoInv s ↔ Machine.IsPrefix (fun k => (s.version, k)) s.memo := Iff.rfl

/-- ONE request: the answer is the fresh answer, and the memo invariant is kept -/
theorem expand_answer (s : SolObj) (h : MemoInv s) (f : Nat) :
    (expand s f).2 = freshAnswer s.version f ∧ MemoInv (expand s f).1 := by
  rw [memoInv_iff] at h ⊢
  rw [expand_eq]
  exact ⟨Machine.extend_take h f, Machine.extend_isPrefix h f⟩

def AllInv (objs : List SolObj) : Prop := ∀ s, s ∈ objs → MemoInv s

theorem mstep_inv (objs : List SolObj) (op : MOp) (h : AllInv objs) : AllInv (mstep objs op).1 := by
  cases op with
  | expand i f =>
    simp only [mstep]
    cases hi : objs[i]? with
    | none => exact h
    | some s =>
      intro x hx
      rcases List.mem_or_eq_of_mem_set hx with hx | rfl
      · exact h x hx
      · exact (expand_answer s (h s (List.mem_of_getElem? hi)) f).2
  | copy i =>
    simp only [mstep]
    cases hi : objs[i]? with
    | none => exact h
    | some s =>
      intro x hx
      simp only [List.mem_append, List.mem_singleton] at hx
      rcases hx with hx | rfl
      · exact h x hx
      · exact h x (List.mem_of_getElem? hi)
  | resolve i v =>
    simp only [mstep]
    cases hi : objs[i]? with
    | none => exact h
    | some s =>
      intro x hx
      rcases List.mem_or_eq_of_mem_set hx with hx | rfl
      · exact h x hx
      · simp [MemoInv, freshAnswer]

end IrisVerif.C20State
