/-
Objects with state as machines that answer every operation (`step : S → I → S × O`, `run` = the list of answers along a history),
and the expansion memo of a solution object.  `FirstOrder.runRequests` (Props/C01State), `Plans.memoRun` (Props/C07Frames),
`AD.evRun` and `AD.memoRun` (Props/C02) are such runs, each a recursion of its own with the two equations of `IsRun`; that under an
invariant of the state their answers are those of a stateless formula is proved here once, from what one step does.  The memo that
`_get_solution_expansion` keeps is modelled four times (`FirstOrder.extendMemo`, `Plans.memoExpand`, `KalmanObject.extend`,
`C20State.expand`; Props/C01State, C07Frames, KalmanObject and Lemmas/C20State show it); all four are `extend`.  Core Lean only.
-/

namespace IrisVerif.Machine

section run
variable {S I O : Type}

/-- `run s ops` lists the answers of `step` along `ops`, started in `s` -/
structure IsRun (step : S → I → S × O) (run : S → List I → List O) : Prop where
  nil : ∀ s, run s [] = []
  cons : ∀ s i is, run s (i :: is) = (step s i).2 :: run (step s i).1 is

variable {stepA : S → I → S × O} {runA : S → List I → List O}

/-- a machine that keeps an invariant under which every answer is a function of the operation alone is stateless to
the observer -/
theorem IsRun.eq_map (hA : IsRun stepA runA) (Inv : S → Prop) (out : I → O)
    (h : ∀ s i, Inv s → (stepA s i).2 = out i ∧ Inv (stepA s i).1) : ∀ (is : List I) (s : S), Inv s → runA s is = is.map out
  | [], s, _ => hA.nil s
  | i :: is, s, hs => by rw [hA.cons, (h s i hs).1, hA.eq_map Inv out h is _ (h s i hs).2, List.map_cons]

end run

section memo
variable {α : Type} (gen : Nat → α)

/-- the memo holds `gen 0, …, gen (len - 1)`; `C01State.MemoInv`, `C07Frames.MemoOk` and `KalmanObject.CacheOk` are this predicate
under the names of their objects, and are handed to the lemmas below as they are -/
def IsPrefix (memo : List α) : Prop := memo = (List.range memo.length).map gen

/-- `_get_solution_expansion`: keep what is cached, append the entries `len … fwd - 1` -/
def extend (memo : List α) (fwd : Nat) : List α := memo ++ (List.range' memo.length (fwd - memo.length)).map gen

variable {gen} {memo : List α}

theorem extend_eq (h : IsPrefix gen memo) (fwd : Nat) :
    extend gen memo fwd = (List.range (memo.length + (fwd - memo.length))).map gen := by
  unfold extend
  conv => lhs; arg 1; rw [h]
  rw [List.range_add, List.range'_eq_map_range, List.map_append]

theorem extend_isPrefix (h : IsPrefix gen memo) (fwd : Nat) : IsPrefix gen (extend gen memo fwd) := by
  unfold IsPrefix
  rw [extend_eq h, List.length_map, List.length_range]

/-- the first `fwd` entries are `gen 0, …, gen (fwd - 1)`, whatever was cached before -/
theorem extend_take (h : IsPrefix gen memo) (fwd : Nat) : (extend gen memo fwd).take fwd = (List.range fwd).map gen := by
  rw [extend_eq h, ← List.map_take, List.take_range]
  congr 2
  omega

/-- the loop that appends one entry at a time fills the memo the same way -/
theorem foldl_append_eq (l : List Nat) (memo : List α) :
    l.foldl (fun m _ => m ++ [gen m.length]) memo = memo ++ (List.range' memo.length l.length).map gen := by
  induction l generalizing memo with
  | nil => simp
  | cons a l ih => simp [ih, List.range'_succ]

end memo

end IrisVerif.Machine
