/-
Lemmas for the Series model (property C10): the map `abs` read off the cells of padded / cut / assigned blocks, `trim`,
`set_data` as a sequence of elementary map writes (`Map.writeAll`) with its closed forms, `Inv` through every operation of
`step`, reads, and the block operations. The definitions that the statements of Props/C10 use (`Map.*`, `spanList`, `bidx`,
`Normalises`, `windowOf`, `spanCol`, `lagsBefore`) stand each before its first lemmas.
Inside this namespace `Series.f` is either the model function `IrisVerif.Series.f` or the method `IrisVerif.Series.Series.f` of
the structure. Core Lean only.
-/
import IrisVerif.Model.Series
import IrisVerif.Lemmas.Monads
import IrisVerif.Lemmas.Lists

namespace IrisVerif.Series
open IrisVerif.Dates

def Rect (s : Series) : Prop := ∀ r ∈ s.rows, r.length = s.nv

/-- a series without a start has no rows (values without a period cannot exist) -/
def WF (s : Series) : Prop := s.start = none → s.rows = []

/-- the invariant of every reachable series (`C10.reachable_inv`), the standing hypothesis of the `abs` equations -/
def Inv (s : Series) : Prop := Rect s ∧ WF s

/-- no all-missing leading or trailing period; the all-missing series is the empty one, without a start -/
def Trimmed (s : Series) : Prop :=
  (s.start = none ∧ s.rows = []) ∨
  (s.start.isSome = true ∧ ∃ r r', s.rows.head? = some r ∧ s.rows.getLast? = some r' ∧
    allNan r = false ∧ allNan r' = false)

/-- the reported span `[start, start + rows - 1]` -/
def InSpan (s : Series) (t : Int) : Prop :=
  ∃ st, s.start = some st ∧ st ≤ t ∧ t ≤ st + (s.rows.length : Int) - 1

theorem inv_of_rows_nil {s : Series} (h : s.rows = []) : Inv s :=
  ⟨fun _ hr => absurd (h ▸ hr) List.not_mem_nil, fun _ => h⟩

/-! ### cells of padded, cut and assigned blocks, and the map read off them -/

theorem cellAt_none_of_ge {rows : List Row} {i v : Nat} (h : rows.length ≤ i) : cellAt rows i v = none := by
  simp [cellAt, List.getElem?_eq_none h]

theorem allNan_get (r : Row) (v : Nat) (h : allNan r = true) : (r[v]?).getD none = none := by
  cases hv : r[v]? with
  | none => rfl
  | some c => exact Option.isNone_iff_eq_none.mp (List.all_eq_true.mp h c (List.mem_of_getElem? hv))

theorem cellAt_allNan (rows : List Row) (i v : Nat) (r : Row) (h : rows[i]? = some r) (hn : allNan r = true) :
    cellAt rows i v = none := by
  simp [cellAt, h, allNan_get r v hn]

theorem cells_none_of_allNan (rows : List Row) (h : ∀ r ∈ rows, allNan r = true) (i v : Nat) :
    cellAt rows i v = none := by
  cases hi : rows[i]? with
  | none => simp [cellAt, hi]
  | some r => exact cellAt_allNan rows i v r hi (h r (List.mem_of_getElem? hi))

theorem allNan_nanRow (nv : Nat) : allNan (nanRow nv) = true := by
  simp [allNan, nanRow]

theorem cellAt_nanRows (n nv i v : Nat) : cellAt (nanRows n nv) i v = none :=
  cells_none_of_allNan _ (fun r hr => by rw [(List.mem_replicate.mp hr).2]; exact allNan_nanRow nv) i v

theorem cellAt_col (rows : List Row) (k i : Nat) :
    ((rows.map (fun r => (r[k]?).getD none))[i]?).getD none = cellAt rows i k := by
  unfold cellAt
  rw [List.getElem?_map]
  cases rows[i]? <;> rfl

theorem cellAt_append (A B : List Row) (i v : Nat) :
    cellAt (A ++ B) i v = if i < A.length then cellAt A i v else cellAt B (i - A.length) v := by
  unfold cellAt
  rw [List.getElem?_append]
  by_cases h : i < A.length
  · rw [if_pos h, if_pos h]
  · rw [if_neg h, if_neg h]

theorem cellAt_expand (nv : Nat) (rows : List Row) (b a i v : Nat) :
    cellAt (expand nv rows b a) i v = if i < b then none else cellAt rows (i - b) v := by
  have hb : (nanRows b nv).length = b := List.length_replicate
  rw [expand, List.append_assoc, cellAt_append, cellAt_nanRows, hb, cellAt_append, cellAt_nanRows]
  split
  · rfl
  · split
    · rfl
    · exact (cellAt_none_of_ge (by omega)).symm

theorem length_expand (nv : Nat) (rows : List Row) (b a : Nat) :
    (expand nv rows b a).length = b + rows.length + a := by
  simp [expand, nanRows]; omega

theorem mem_expand {nv : Nat} {rows : List Row} {b a : Nat} {r : Row} (hr : r ∈ expand nv rows b a) :
    r = nanRow nv ∨ r ∈ rows := by
  simp only [expand, nanRows, List.mem_append, List.mem_replicate] at hr
  rcases hr with (⟨_, hr⟩ | hr) | ⟨_, hr⟩
  · exact Or.inl hr
  · exact Or.inr hr
  · exact Or.inl hr

theorem rect_expand (nv : Nat) (rows : List Row) (b a : Nat) (h : ∀ r ∈ rows, r.length = nv) :
    ∀ r ∈ expand nv rows b a, r.length = nv := by
  intro r hr
  rcases mem_expand hr with rfl | hr
  · exact List.length_replicate
  · exact h r hr

theorem cellAt_drop_take (rows : List Row) (d k j v : Nat) :
    cellAt ((rows.drop d).take k) j v = if j < k then cellAt rows (d + j) v else none := by
  unfold cellAt
  rw [List.getElem?_take]
  by_cases h : j < k
  · rw [if_pos h, if_pos h, List.getElem?_drop]
  · rw [if_neg h, if_neg h]

theorem row_eq_cells (rows : List Row) (nv : Nat) (hR : ∀ r ∈ rows, r.length = nv) (i : Nat) (row : Row)
    (h : rows[i]? = some row) : row = (List.range nv).map (fun v => cellAt rows i v) := by
  have e := map_getElem?_range row (fun o => o.getD none)
  rw [hR row (List.mem_of_getElem? h)] at e
  simp only [cellAt, h]
  exact (e.trans (List.map_id row)).symm

theorem col_eq_cells (rows : List Row) (v : Nat) :
    rows.map (fun r => (r[v]?).getD none) = (List.range rows.length).map (fun i => cellAt rows i v) := by
  unfold cellAt
  exact (map_getElem?_range rows (fun o => match o with | none => none | some r => (r[v]?).getD none)).symm

theorem abs_of_start {s : Series} {st : Int} (hs : s.start = some st) (t : Int) (v : Nat) :
    s.abs t v = if st ≤ t then cellAt s.rows (t - st).toNat v else none := by
  unfold Series.abs; rw [hs]

theorem abs_of_no_start {s : Series} (hs : s.start = none) (t : Int) (v : Nat) : s.abs t v = none := by
  unfold Series.abs; rw [hs]

theorem abs_eq_none_of_cells (s : Series) (t : Int) (v : Nat) (h : ∀ i, cellAt s.rows i v = none) :
    s.abs t v = none := by
  unfold Series.abs
  cases s.start with
  | none => rfl
  | some st => simp only; split <;> simp [h]

theorem abs_reset (s : Series) (t : Int) (v : Nat) : s.reset.abs t v = none := rfl

theorem abs_new (f : Freq) (nv : Nat) (t : Int) (v : Nat) : (Series.new f nv).abs t v = none := rfl

theorem inSpan_iff (s : Series) (t : Int) : InSpan s t ↔ ∃ st, s.start = some st ∧ st ≤ t ∧ t < st + (s.rows.length : Int) := by
  unfold InSpan
  constructor
  · rintro ⟨st, h1, h2, h3⟩; exact ⟨st, h1, h2, by omega⟩
  · rintro ⟨st, h1, h2, h3⟩; exact ⟨st, h1, h2, by omega⟩

theorem inSpan_index {s : Series} {t : Int} (h : InSpan s t) :
    ∃ (st : Int) (j : Nat), s.start = some st ∧ t = st + (j : Int) ∧ j < s.rows.length := by
  obtain ⟨st, hs, h1, h2⟩ := h
  exact ⟨st, (t - st).toNat, hs, by omega, by omega⟩

theorem inSpan_of_congr {s s' : Series} {t : Int} (hin : InSpan s' t) (h1 : s'.start = s.start)
    (h2 : s'.rows.length = s.rows.length) : InSpan s t := by
  unfold InSpan at hin ⊢; rwa [h1, h2] at hin

theorem abs_at_index {s : Series} {st : Int} (hs : s.start = some st) (j v : Nat) :
    s.abs (st + (j : Int)) v = cellAt s.rows j v := by
  rw [abs_of_start hs, if_pos (by omega), show st + (j : Int) - st = (j : Int) by omega, Int.toNat_natCast]

theorem abs_none_of_not_inSpan (s : Series) (t : Int) (v : Nat) (h : ¬ InSpan s t) : s.abs t v = none := by
  unfold Series.abs
  cases hs : s.start with
  | none => rfl
  | some st =>
    simp only
    split
    · rename_i c
      have : ¬ t ≤ st + (s.rows.length : Int) - 1 := fun h3 => h ⟨st, hs, c, h3⟩
      exact cellAt_none_of_ge (by omega)
    · rfl

theorem abs_none_outside (s : Series) (lo hi : Int) (hlo : ∀ st, s.start = some st → lo ≤ st)
    (hhi : ∀ e, s.endSerial = some e → e ≤ hi) (t : Int) (v : Nat) (h : ¬ (lo ≤ t ∧ t ≤ hi)) : s.abs t v = none := by
  apply abs_none_of_not_inSpan
  rintro ⟨st, hs, h1, h2⟩
  have := hlo st hs
  have := hhi (st + s.rows.length - 1) (by simp [Series.endSerial, hs])
  omega

theorem cellAt_none_of_ge_nv {rows : List Row} {nv : Nat} (hR : ∀ r ∈ rows, r.length = nv) (i v : Nat) (hv : nv ≤ v) :
    cellAt rows i v = none := by
  unfold cellAt
  cases hi : rows[i]? with
  | none => rfl
  | some r =>
    show (r[v]?).getD none = none
    rw [List.getElem?_eq_none (by rw [hR r (List.mem_of_getElem? hi)]; exact hv)]
    rfl

theorem cells_none_of_size_zero (s : Series) (hR : Rect s) (h0 : s.rows.length * s.nv = 0) (i v : Nat) :
    cellAt s.rows i v = none := by
  rcases Nat.mul_eq_zero.mp h0 with h | h
  · exact cellAt_none_of_ge (by omega)
  · exact cellAt_none_of_ge_nv hR i v (by omega)

theorem abs_none_of_isEmpty (s : Series) (hR : Rect s) (h : s.isEmpty = true) (t : Int) (v : Nat) : s.abs t v = none :=
  abs_eq_none_of_cells s t v (cells_none_of_size_zero s hR (by simpa [Series.isEmpty] using h) · v)

theorem abs_none_of_ge_nv (s : Series) (hR : Rect s) (t : Int) (v : Nat) (hv : s.nv ≤ v) : s.abs t v = none :=
  abs_eq_none_of_cells s t v fun i => cellAt_none_of_ge_nv hR i v hv

theorem abs_none_of_no_cell (s : Series) (hR : Rect s) (t : Int) (v : Nat) (h : ¬ (InSpan s t ∧ v < s.nv)) :
    s.abs t v = none := by
  by_cases hin : InSpan s t
  · exact abs_none_of_ge_nv s hR t v (Nat.le_of_not_lt fun hv => h ⟨hin, hv⟩)
  · exact abs_none_of_not_inSpan s t v hin

/-! ### leading and trailing all-NaN rows; `trim` -/

theorem numLeading_eq_findIdx (l : List Row) : numLeading l = l.findIdx (fun r => !allNan r) := by
  induction l with
  | nil => rfl
  | cons r rs ih =>
    rw [numLeading, List.findIdx_cons, ih]
    cases allNan r <;> rfl

theorem numLeading_le (l : List Row) : numLeading l ≤ l.length :=
  numLeading_eq_findIdx l ▸ List.findIdx_le_length

theorem numLeading_spec (l : List Row) (i : Nat) (h : i < numLeading l) :
    ∃ r, l[i]? = some r ∧ allNan r = true := by
  have hi : i < l.length := Nat.lt_of_lt_of_le h (numLeading_le l)
  rw [numLeading_eq_findIdx] at h
  exact ⟨l[i], List.getElem?_eq_getElem hi, by simpa using List.not_of_lt_findIdx h⟩

theorem numLeading_stop (l : List Row) (h : numLeading l < l.length) :
    ∃ r, l[numLeading l]? = some r ∧ allNan r = false := by
  rw [numLeading_eq_findIdx] at h ⊢
  exact ⟨_, List.getElem?_eq_getElem h, by simpa using List.findIdx_getElem (w := h)⟩

theorem numLeading_all (l : List Row) (h : numLeading l = l.length) : ∀ r ∈ l, allNan r = true := by
  rw [numLeading_eq_findIdx, List.findIdx_eq_length] at h
  simpa using h

theorem cellAt_none_of_leading (l : List Row) (i v : Nat) (h : i < numLeading l) : cellAt l i v = none := by
  obtain ⟨r, h1, h2⟩ := numLeading_spec l i h
  exact cellAt_allNan l i v r h1 h2

theorem cellAt_none_of_trailing (l : List Row) (i v : Nat) (h : l.length - numLeading l.reverse ≤ i) :
    cellAt l i v = none := by
  by_cases hi : i < l.length
  · obtain ⟨r, h1, h2⟩ := numLeading_spec l.reverse (l.length - 1 - i) (by omega)
    rw [List.getElem?_reverse (by omega), Nat.sub_sub_self (by omega)] at h1
    exact cellAt_allNan l i v r h1 h2
  · exact cellAt_none_of_ge (by omega)

theorem trailing_stop (l : List Row) (h : numLeading l.reverse < l.length) :
    ∃ r, l[l.length - 1 - numLeading l.reverse]? = some r ∧ allNan r = false := by
  obtain ⟨r, h1, h2⟩ := numLeading_stop l.reverse (by rwa [List.length_reverse])
  rw [List.getElem?_reverse h] at h1
  exact ⟨r, h1, h2⟩

theorem lead_add_trail_lt (l : List Row) (h : numLeading l.reverse < l.length) :
    numLeading l + numLeading l.reverse < l.length := by
  obtain ⟨r, h1, h2⟩ := trailing_stop l h
  apply Nat.lt_of_not_le
  intro hc
  obtain ⟨r', h3, h4⟩ := numLeading_spec l (l.length - 1 - numLeading l.reverse) (by omega)
  rw [h1] at h3
  cases h3
  rw [h2] at h4
  cases h4

theorem trim_cases (s : Series) :
    (s.trim = s.reset ∧ (s.rows.length * s.nv = 0 ∨ ∀ r ∈ s.rows, allNan r = true)) ∨
    (numLeading s.rows + numLeading s.rows.reverse < s.rows.length ∧
      s.trim = { s with
        rows := (s.rows.drop (numLeading s.rows)).take (s.rows.length - numLeading s.rows - numLeading s.rows.reverse),
        start := s.start.map (fun st => st + numLeading s.rows) }) := by
  unfold Series.trim
  by_cases h0 : s.rows.length * s.nv = 0
  · exact Or.inl ⟨if_pos h0, Or.inl h0⟩
  · rw [if_neg h0]
    by_cases h1 : numLeading s.rows.reverse = s.rows.length
    · refine Or.inl ⟨if_pos h1, Or.inr fun r hr => ?_⟩
      exact numLeading_all s.rows.reverse (by simpa using h1) r (List.mem_reverse.mpr hr)
    · have := numLeading_le s.rows.reverse
      rw [List.length_reverse] at this
      exact Or.inr ⟨lead_add_trail_lt s.rows (by omega), if_neg h1⟩

theorem nv_trim (s : Series) : s.trim.nv = s.nv := by
  rcases trim_cases s with ⟨h, _⟩ | ⟨_, h⟩ <;> rw [h] <;> rfl

theorem freq_trim (s : Series) : s.trim.freq = s.freq := by
  rcases trim_cases s with ⟨h, _⟩ | ⟨_, h⟩ <;> rw [h] <;> rfl

theorem abs_trim (s : Series) (hR : Rect s) (t : Int) (v : Nat) : s.trim.abs t v = s.abs t v := by
  rcases trim_cases s with ⟨h, h0⟩ | ⟨hLT, h⟩
  · rw [h, abs_reset, abs_eq_none_of_cells s t v]
    intro i
    rcases h0 with h0 | h0
    · exact cells_none_of_size_zero s hR h0 i v
    · exact cells_none_of_allNan s.rows h0 i v
  · rw [h]
    cases hs : s.start with
    | none => exact (abs_of_no_start hs t v).symm
    | some st =>
      rw [abs_of_start hs, Option.map_some, abs_of_start rfl, cellAt_drop_take]
      by_cases c : st + (numLeading s.rows : Int) ≤ t
      · have e : numLeading s.rows + (t - (st + (numLeading s.rows : Int))).toNat = (t - st).toNat := by omega
        rw [if_pos c, if_pos (show st ≤ t by omega), e]
        split
        · rfl
        · exact (cellAt_none_of_trailing _ _ v (by omega)).symm
      · rw [if_neg c]
        split
        · exact (cellAt_none_of_leading _ _ v (by omega)).symm
        · rfl

theorem rect_trim (s : Series) (hR : Rect s) : Rect s.trim := by
  rcases trim_cases s with ⟨h, _⟩ | ⟨_, h⟩
  · rw [h]; intro r hr; cases hr
  · rw [h]; intro r hr
    exact hR r (List.mem_of_mem_drop (List.mem_of_mem_take hr))

theorem trimmed_trim (s : Series) (hW : WF s) : Trimmed s.trim := by
  rcases trim_cases s with ⟨h, _⟩ | ⟨hLT, h⟩
  · rw [h]; exact Or.inl ⟨rfl, rfl⟩
  · rw [h]
    obtain ⟨r, h3, h4⟩ := numLeading_stop s.rows (by omega)
    obtain ⟨r', h5, h6⟩ := trailing_stop s.rows (by omega)
    refine Or.inr ⟨?_, r, r', ?_, ?_, h4, h6⟩
    · cases hs : s.start with
      | some _ => rfl
      | none => rw [hW hs] at h3; cases h3
    · rw [List.head?_take, if_neg (by omega), List.head?_drop]; exact h3
    · rw [List.getLast?_take, if_neg (by omega), List.getElem?_drop,
        show numLeading s.rows + (s.rows.length - numLeading s.rows - numLeading s.rows.reverse - 1) =
          s.rows.length - 1 - numLeading s.rows.reverse by omega, h5]
      rfl

theorem inv_trim (s : Series) (hI : Inv s) : Inv s.trim := by
  refine ⟨rect_trim s hI.1, fun h => ?_⟩
  rcases trimmed_trim s hI.2 with ⟨_, h2⟩ | ⟨h1, _⟩
  · exact h2
  · rw [h] at h1; cases h1

/-! ### positions (`getDatePositions`); maps and elementary writes, the specification side of `set_data` -/

theorem minOr0_le_le_maxOr0 (l : List Int) (x : Int) (h : x ∈ l) : minOr0 l ≤ x ∧ x ≤ maxOr0 l := by
  cases l with
  | nil => cases h
  | cons y ys =>
    show ys.foldr min y ≤ x ∧ x ≤ ys.foldr max y
    induction ys with
    | nil => rw [List.mem_singleton.mp h]; exact ⟨Int.le_refl y, Int.le_refl y⟩
    | cons z zs ih =>
      rw [List.foldr_cons, List.foldr_cons]
      have h' : x = z ∨ x ∈ y :: zs := by simpa [or_left_comm] using h
      rcases h' with h' | h'
      · omega
      · have := ih h'; omega

/-- every addressed period lands inside the padded block, at its own offset from the new start -/
theorem positions_spec (serials : List Int) (base : Int) (n : Nat) :
    let P := getDatePositions serials base n
    P.pos = serials.map (fun t => (t - (base - (P.addBefore : Int))).toNat) ∧
    ∀ t ∈ serials, base - (P.addBefore : Int) ≤ t ∧ t - (base - (P.addBefore : Int)) < ((P.addBefore + n + P.addAfter : Nat) : Int) := by
  intro P
  refine ⟨?_, ?_⟩
  · simp only [P, getDatePositions, List.map_map]
    apply List.map_congr_left
    intro t _
    simp only [Function.comp]
    congr 1; omega
  · intro t ht
    obtain ⟨h1, h2⟩ := minOr0_le_le_maxOr0 _ _ (List.mem_map.mpr ⟨t, ht, rfl⟩ : t - base ∈ serials.map (fun t => t - base))
    simp only [P, getDatePositions]
    omega

/-- what a series is for its user: a cell for every (serial, variant); the specification side of the writes below -/
abbrev Map := Int → Nat → Cell

def Map.write (m : Map) (t : Int) (v : Nat) (c : Cell) : Map :=
  fun t' v' => if t' = t ∧ v' = v then c else m t' v'

/-- one variant: the listed periods receive the listed values, in order (a repeated period keeps the last) -/
def Map.writeCol (m : Map) (v : Nat) : List (Int × Cell) → Map
  | [] => m
  | (t, c) :: rest => (m.write t v c).writeCol v rest

/-- `set_data(dates, data, variants)` on maps: for the k-th addressed variant the k-th item of
`iter_variants(data)` (exhaust-then-last), broadcast over the dates by numpy's rule; `none` = the code raises -/
def Map.writeAll (m : Map) (nv : Nat) (serials : List Int) (data : DataArg) : List Int → Nat → Option Map
  | [], _ => some m
  | c :: cs, k =>
    match normIdx nv c, (data.variant k).values serials.length with
    | some v, some vals => Map.writeAll (m.writeCol v (serials.zip vals)) nv serials data cs (k + 1)
    | _, _ => none

theorem normIdx_lt (n : Nat) (c : Int) (v : Nat) (h : normIdx n c = some v) : v < n := by
  unfold normIdx at h
  split at h
  · cases h; omega
  · split at h
    · cases h; omega
    · cases h

theorem normIdx_nat (nv v : Nat) (h : v < nv) : normIdx nv (v : Int) = some v := by
  unfold normIdx
  rw [if_pos (by omega)]
  simp

theorem writeCol_other (v : Nat) (l : List (Int × Cell)) (t : Int) (v' : Nat) :
    ∀ (m : Map), (v' ≠ v ∨ ∀ p ∈ l, p.1 ≠ t) → Map.writeCol m v l t v' = m t v' := by
  induction l with
  | nil => intro m _; rfl
  | cons p rest ih =>
    intro m h
    obtain ⟨t0, c⟩ := p
    rw [Map.writeCol, ih _ (h.imp_right fun h p hp => h p (List.mem_cons_of_mem _ hp)), Map.write, if_neg]
    rintro ⟨h1, h2⟩
    rcases h with h | h
    · exact h h2
    · exact h (t0, c) List.mem_cons_self h1.symm

theorem writeAll_frame {nv : Nat} {serials : List Int} {data : DataArg} {vids : List Int} :
    ∀ {m : Map} {k : Nat} {m' : Map}, Map.writeAll m nv serials data vids k = some m' →
    ∀ t v, (t ∉ serials ∨ ∀ c ∈ vids, normIdx nv c ≠ some v) → m' t v = m t v := by
  induction vids with
  | nil => intro m k m' h t v _; cases h; rfl
  | cons c cs ih =>
    intro m k m' h t v hf
    simp only [Map.writeAll] at h
    split at h
    · rename_i v0 vals hn _
      rw [ih h t v (hf.imp_right fun hf c' hc' => hf c' (List.mem_cons_of_mem _ hc'))]
      apply writeCol_other
      rcases hf with hf | hf
      · right
        intro p hp hpt
        exact hf (hpt ▸ (List.of_mem_zip hp).1)
      · left
        intro hv; subst hv
        exact hf c (by simp) hn
    · cases h

/-! ### `set_data`: pad, assign, trim refines `Map.writeAll` -/

theorem cellAt_expand_idx {s : Series} {st : Int} (hs : s.start = some st) (b a j v : Nat) :
    cellAt (expand s.nv s.rows b a) j v = s.abs (st - (b : Int) + (j : Int)) v := by
  rw [cellAt_expand, abs_of_start hs]
  by_cases c : j < b
  · rw [if_pos c, if_neg (by omega)]
  · rw [if_neg c, if_pos (by omega)]
    congr 1; omega

theorem cellAt_expand_getD {s : Series} (hW : WF s) (x : Int) (b a j v : Nat) :
    cellAt (expand s.nv s.rows b a) j v = s.abs (s.start.getD x - (b : Int) + (j : Int)) v := by
  cases hs : s.start with
  | none => rw [abs_of_no_start hs, cellAt_expand, hW hs]; exact ite_self _
  | some st => exact cellAt_expand_idx hs b a j v

theorem abs_expand {s : Series} {st : Int} (hs : s.start = some st) (b a : Nat) (t : Int) (v : Nat) :
    (if st - (b : Int) ≤ t then cellAt (expand s.nv s.rows b a) (t - (st - (b : Int))).toNat v else none) = s.abs t v := by
  split
  · rename_i c
    rw [cellAt_expand_idx hs, Int.toNat_of_nonneg (Int.sub_nonneg.mpr c)]
    congr 1; omega
  · rw [abs_of_start hs, if_neg (by omega)]

theorem cellAt_setCell (rows : List Row) (i v : Nat) (c : Cell) (i' v' : Nat) (r : Row)
    (hr : rows[i]? = some r) (hv : v < r.length) :
    cellAt (setCell rows i v c) i' v' = if i' = i ∧ v' = v then c else cellAt rows i' v' := by
  have hi : i < rows.length := (List.getElem?_eq_some_iff.mp hr).1
  simp only [setCell, cellAt, hr]
  by_cases e1 : i' = i
  · subst e1
    rw [List.getElem?_set_self hi, hr]
    dsimp only
    by_cases e2 : v' = v
    · subst e2; rw [if_pos ⟨rfl, rfl⟩, List.getElem?_set_self hv]; rfl
    · rw [if_neg fun h => e2 h.2, List.getElem?_set_ne (Ne.symm e2)]
  · rw [if_neg fun h => e1 h.1, List.getElem?_set_ne (Ne.symm e1)]

theorem setCell_length (rows : List Row) (i v : Nat) (c : Cell) : (setCell rows i v c).length = rows.length := by
  unfold setCell; split <;> simp

theorem setCell_rect (nv : Nat) (rows : List Row) (i v : Nat) (c : Cell) (h : ∀ r ∈ rows, r.length = nv) :
    ∀ r ∈ setCell rows i v c, r.length = nv := by
  unfold setCell
  split
  · exact h
  · rename_i r0 hr0
    intro r hr
    rcases List.mem_or_eq_of_mem_set hr with h1 | h1
    · exact h r h1
    · rw [h1, List.length_set]; exact h r0 (List.mem_of_getElem? hr0)

/-- the block `rows` (`n` rows of `nv` cells, first period `st`) holds the map `m`: what the assignment loop of `set_data`
keeps, write by write -/
def Holds (st : Int) (nv n : Nat) (rows : List Row) (m : Map) : Prop :=
  rows.length = n ∧ (∀ r ∈ rows, r.length = nv) ∧
    ∀ t v, (if st ≤ t then cellAt rows (t - st).toNat v else none) = m t v

theorem Holds.setCell {st : Int} {nv n : Nat} {rows : List Row} {m : Map} (h : Holds st nv n rows m) (t : Int) (v : Nat)
    (c : Cell) (ht : st ≤ t) (hp : t - st < n) (hv : v < nv) :
    Holds st nv n (setCell rows (t - st).toNat v c) (m.write t v c) := by
  obtain ⟨hl, hR, ha⟩ := h
  obtain ⟨r, hr⟩ : ∃ r, rows[(t - st).toNat]? = some r := ⟨rows[(t - st).toNat]'(by omega), by simp⟩
  refine ⟨by rw [setCell_length, hl], setCell_rect nv rows _ v c hR, fun t' v' => ?_⟩
  unfold Map.write
  rw [← ha t' v']
  by_cases c1 : st ≤ t'
  · have e : (t' - st).toNat = (t - st).toNat ↔ t' = t := ⟨fun h => by omega, fun h => h ▸ rfl⟩
    rw [if_pos c1, if_pos c1, cellAt_setCell rows _ v c _ _ r hr (by rw [hR r (List.mem_of_getElem? hr)]; exact hv)]
    simp only [e]
  · rw [if_neg c1, if_neg c1, if_neg fun h : t' = t ∧ v' = v => c1 (h.1 ▸ ht)]

theorem Holds.assignCells {st : Int} {nv n : Nat} (v : Nat) (hv : v < nv) : ∀ (tcs : List (Int × Cell)) {rows : List Row} {m : Map},
    Holds st nv n rows m → (∀ tc ∈ tcs, st ≤ tc.1 ∧ tc.1 - st < n) →
    Holds st nv n (assignCells rows v (tcs.map (Prod.map (fun t => (t - st).toNat) id))) (m.writeCol v tcs)
  | [], _, _, h, _ => h
  | (t, c) :: rest, _, _, h, hp =>
    Holds.assignCells v hv rest (h.setCell t v c (hp _ List.mem_cons_self).1 (hp _ List.mem_cons_self).2 hv)
      fun tc htc => hp tc (List.mem_cons_of_mem _ htc)

theorem Holds.assignAll {st : Int} {nv n : Nat} (serials : List Int) (data : DataArg) (vids : List Int) :
    ∀ (k : Nat) {rows : List Row} {m0 : Map} (rows' : List Row), Holds st nv n rows m0 →
    (∀ t ∈ serials, st ≤ t ∧ t - st < n) →
    assignAll nv rows (serials.map (fun t => (t - st).toNat)) data vids k = .ok rows' →
    ∃ m, Map.writeAll m0 nv serials data vids k = some m ∧ Holds st nv n rows' m := by
  induction vids with
  | nil =>
    intro k rows m0 rows' hH _ h
    cases h
    exact ⟨m0, rfl, hH⟩
  | cons c cs ih =>
    intro k rows m0 rows' hH hs h
    rw [Series.assignAll, List.length_map] at h
    rw [Map.writeAll]
    split at h
    · rename_i v vals hn hvals
      rw [hn, hvals]
      rw [List.zip_map_left] at h
      exact ih (k + 1) rows' (hH.assignCells v (normIdx_lt nv c v hn) (serials.zip vals)
        fun tc htc => hs tc.1 (List.of_mem_zip htc).1) hs h
    · cases h

theorem assignAll_nil_pos {nv : Nat} {data : DataArg} {vids : List Int} :
    ∀ {rows : List Row} {k : Nat} {rows' : List Row}, assignAll nv rows [] data vids k = .ok rows' → rows' = rows := by
  induction vids with
  | nil => intro rows k rows' h; cases h; rfl
  | cons c cs ih =>
    intro rows k rows' h
    simp only [assignAll] at h
    split at h
    · exact ih h
    · cases h

theorem assignAll_error_of_writeAll_none (nv : Nat) (serials : List Int) (pos : List Nat) (hl : pos.length = serials.length)
    (data : DataArg) : ∀ (vids : List Int) (m : Map) (rows : List Row) (k : Nat),
    Map.writeAll m nv serials data vids k = none → assignAll nv rows pos data vids k = .error .badInput := by
  intro vids
  induction vids with
  | nil => intro m rows k h; cases h
  | cons c cs ih =>
    intro m rows k h
    rw [Map.writeAll] at h
    rw [assignAll, hl]
    split
    · rename_i v vals hn hv
      simp only [hn, hv] at h
      exact ih _ _ _ h
    · rfl

theorem trim_of_allNan (s : Series) (h : ∀ r ∈ s.rows, allNan r = true) : s.trim = s.reset := by
  rcases trim_cases s with ⟨e, _⟩ | ⟨hLT, _⟩
  · exact e
  · obtain ⟨r, h3, h4⟩ := numLeading_stop s.rows (by omega)
    rw [h r (List.mem_of_getElem? h3)] at h4; cases h4

theorem inv_reset (s : Series) : Inv s.reset := inv_of_rows_nil rfl

/-- the write path of `set_data` once the series has a start (pad, assign, trim): the one step of `setData_spec` -/
theorem setData_core (s1 : Series) (st : Int) (hst : s1.start = some st) (hR : Rect s1)
    (serials : List Int) (data : DataArg) (vids : List Int) (rows' : List Row)
    (hA : assignAll s1.nv
      (expand s1.nv s1.rows (getDatePositions serials st s1.rows.length).addBefore (getDatePositions serials st s1.rows.length).addAfter)
      (getDatePositions serials st s1.rows.length).pos data vids 0 = .ok rows') :
    let s0 : Series := { s1 with start := some (st - ((getDatePositions serials st s1.rows.length).addBefore : Int)), rows := rows' }
    let s' := s0.trim
    Inv s' ∧ Trimmed s' ∧ s'.nv = s1.nv ∧ s'.freq = s1.freq ∧
      ∃ m, Map.writeAll s1.abs s1.nv serials data vids 0 = some m ∧ ∀ t v, s'.abs t v = m t v := by
  intro s0 s'
  obtain ⟨hpos, hb⟩ := positions_spec serials st s1.rows.length
  rw [hpos] at hA
  -- the second clause of `Holds` for the assigned block is `Rect` of the series before `trim`
  obtain ⟨m, h3, _, (hRpre : Rect s0), h4⟩ := Holds.assignAll serials data vids 0 rows'
    ⟨length_expand s1.nv s1.rows _ _, rect_expand s1.nv s1.rows _ _ hR, abs_expand hst _ _⟩ hb hA
  refine ⟨inv_trim s0 ⟨hRpre, fun h => nomatch h⟩, trimmed_trim s0 (fun h => nomatch h), nv_trim s0, freq_trim s0, m, h3, fun t v => ?_⟩
  show s0.trim.abs t v = m t v
  rw [abs_trim s0 hRpre]
  exact h4 t v

/-- `set_data` refines the sequence of elementary map writes (`Map.writeAll`), keeps the invariant and trims. Without dates
nothing is trimmed: "no dates, no data" returns the receiver as it is, and that need not be trimmed (`clip` leaves a start on
zero rows) -/
theorem setData_spec {s : Series} {serials : List Int} {data : DataArg} {vids : List Int} {s' : Series}
    (hI : Inv s) (h : s.setData serials data vids = .ok s') :
    Inv s' ∧ s'.nv = s.nv ∧ s'.freq = s.freq ∧
    ((serials = [] ∧ ∀ t v, s'.abs t v = s.abs t v) ∨
     (serials ≠ [] ∧ Trimmed s' ∧
       ∃ m, Map.writeAll s.abs s.nv serials data vids 0 = some m ∧ ∀ t v, s'.abs t v = m t v)) := by
  unfold Series.setData at h
  by_cases c1 : serials.isEmpty = true ∧ data.isEmptyData = true
  · rw [if_pos c1] at h
    cases h
    exact ⟨hI, rfl, rfl, Or.inl ⟨List.isEmpty_iff.mp c1.1, fun _ _ => rfl⟩⟩
  · rw [if_neg c1] at h
    by_cases c2 : data.isEmptyData = true ∧ data ≠ .pyNone
    · rw [if_pos c2] at h; cases h
    · rw [if_neg c2] at h
      cases hs : s.start with
      | some st =>
        simp only [hs, Option.getD_some, Option.map_some] at h
        split at h
        · cases h
        · rename_i rows' hA
          obtain ⟨i1, i2, i3, i4, m, i5, i6⟩ := setData_core s st hs hI.1 serials data vids rows' hA
          cases h
          refine ⟨i1, i3, i4, ?_⟩
          by_cases hn : serials = []
          · left
            refine ⟨hn, fun t v => ?_⟩
            subst hn
            rw [i6 t v]
            exact writeAll_frame i5 t v (Or.inl List.not_mem_nil)
          · right; exact ⟨hn, i2, m, i5, i6⟩
      | none =>
        -- the first write: the series takes the first date as its start and one all-missing row
        cases hser : serials with
        | nil =>
          simp only [hs, hser, List.head?_nil, Option.getD_none, Option.map_none] at h
          split at h
          · cases h
          · rename_i rows' hA
            have hall : ∀ r ∈ rows', allNan r = true := by
              intro r hr
              rw [assignAll_nil_pos hA] at hr
              rcases mem_expand hr with rfl | hr
              · exact allNan_nanRow _
              · rw [List.mem_singleton.mp hr]; exact allNan_nanRow _
            rw [trim_of_allNan _ hall] at h
            cases h
            exact ⟨inv_reset _, rfl, rfl, Or.inl ⟨rfl, fun t v => by rw [abs_reset, abs_of_no_start hs]⟩⟩
        | cons t0 ts =>
          simp only [hs, hser, List.head?_cons, Option.getD_some, Option.map_some] at h
          split at h
          · cases h
          · rename_i rows' hA
            have hR1 : Rect ({ s with start := some t0, rows := [nanRow s.nv] } : Series) := by
              intro r hr
              rw [List.mem_singleton.mp hr]; simp [nanRow]
            obtain ⟨i1, i2, i3, i4, m, i5, i6⟩ := setData_core ({ s with start := some t0, rows := [nanRow s.nv] } : Series) t0 rfl hR1
              (t0 :: ts) data vids rows' hA
            cases h
            refine ⟨i1, i3, i4, Or.inr ⟨by simp, i2, m, ?_, i6⟩⟩
            rw [← i5]
            congr 1
            funext t v
            rw [abs_of_no_start hs]
            exact (abs_eq_none_of_cells _ t v fun i => cellAt_nanRows 1 s.nv i v).symm

/-! ### closed forms of `Map.writeAll`: scalar, per-variant columns over distinct periods -/

theorem writeCol_scalar (v : Nat) (c : Cell) (serials : List Int) (t : Int) (v' : Nat) :
    ∀ (m : Map), Map.writeCol m v (serials.zip (List.replicate serials.length c)) t v' =
      if t ∈ serials ∧ v' = v then c else m t v' := by
  induction serials with
  | nil => intro m; simp [Map.writeCol]
  | cons t0 ts ih =>
    intro m
    simp only [List.length_cons, List.replicate_succ, List.zip_cons_cons, Map.writeCol]
    rw [ih]
    unfold Map.write
    -- every write of the column stores the same `c`, so it does not matter which of them is the last one at `t`
    by_cases h1 : v' = v
    · by_cases h2 : t ∈ ts
      · simp [h1, h2]
      · by_cases h3 : t = t0
        · simp [h1, h3]
        · simp [h1, h2, h3]
    · simp [h1]

theorem writeAll_scalar {nv : Nat} {serials : List Int} {c : Cell} {vids : List Int} :
    ∀ {m : Map} {k : Nat} {m' : Map}, Map.writeAll m nv serials (.scalar c) vids k = some m' →
    ∀ t v, m' t v = if t ∈ serials ∧ ∃ c' ∈ vids, normIdx nv c' = some v then c else m t v := by
  induction vids with
  | nil => intro m k m' h t v; cases h; simp
  | cons c0 cs ih =>
    intro m k m' h t v
    simp only [Map.writeAll, DataArg.variant, Col.values] at h
    split at h
    · rename_i v0 vals hn hv
      cases hv
      -- the later variants are written after this one: a cell they address keeps `c`, else it is `c` iff this write addresses it
      rw [ih h t v, writeCol_scalar]
      by_cases h1 : t ∈ serials ∧ ∃ c' ∈ cs, normIdx nv c' = some v
      · rw [if_pos h1, if_pos ⟨h1.1, h1.2.imp fun c' hc' => ⟨List.mem_cons_of_mem _ hc'.1, hc'.2⟩⟩]
      · rw [if_neg h1]
        by_cases h3 : t ∈ serials ∧ v = v0
        · rw [if_pos h3, if_pos ⟨h3.1, c0, List.mem_cons_self, h3.2 ▸ hn⟩]
        · rw [if_neg h3, if_neg]
          rintro ⟨ht, c', hc', h'⟩
          rcases List.mem_cons.mp hc' with rfl | hc'
          · rw [hn] at h'; cases h'; exact h3 ⟨ht, rfl⟩
          · exact h1 ⟨ht, c', hc', h'⟩
    · cases h

theorem writeCol_nodup (v : Nat) : ∀ (serials : List Int) (vals : List Cell) (m : Map),
    serials.Nodup → vals.length = serials.length →
    ∀ (i : Nat) (t : Int), serials[i]? = some t → Map.writeCol m v (serials.zip vals) t v = (vals[i]?).getD none := by
  intro serials
  induction serials with
  | nil => intro vals m _ _ i t h; cases h
  | cons t0 ts ih =>
    intro vals m hnd hl i t h
    cases vals with
    | nil => cases hl
    | cons c cs =>
      rw [List.zip_cons_cons, Map.writeCol]
      cases i with
      | zero =>
        cases h
        have hts : ∀ p ∈ ts.zip cs, p.1 ≠ t0 := fun p hp hpt => (List.nodup_cons.mp hnd).1 (hpt ▸ (List.of_mem_zip hp).1)
        rw [writeCol_other v (ts.zip cs) t0 v _ (Or.inr hts), Map.write, if_pos ⟨rfl, rfl⟩]
        rfl
      | succ i => exact ih cs _ (List.nodup_cons.mp hnd).2 (Nat.succ.inj hl) i t h

theorem Col.length_values {n : Nat} {c : Col} {vals : List Cell} (h : c.values n = some vals) : vals.length = n := by
  cases c with
  | scalar x => cases h; exact List.length_replicate
  | column cs =>
    simp only [Col.values] at h
    split at h
    · cases h; assumption
    · split at h
      · cases h; exact List.length_replicate
      · cases h

theorem normIdx_range' (nv k j : Nat) (hk : k + j = nv) (v : Nat) (hv : ¬ (k ≤ v ∧ v < nv)) :
    ∀ c ∈ (List.range' k j).map (fun (i : Nat) => (i : Int)), normIdx nv c ≠ some v := by
  intro c hc
  obtain ⟨i, hi, e⟩ := List.mem_map.mp hc
  have := List.mem_range'_1.mp hi
  rw [← e, normIdx_nat nv i (by omega)]
  intro h; cases h; omega

/-- `Map.writeAll` of per-variant columns `colf` over distinct periods, variants `k … nv-1`: the `i`-th period reads the `i`-th value -/
theorem writeAll_nodup (nv : Nat) (serials : List Int) (hnd : serials.Nodup) (data : DataArg) (colf : Nat → List Cell)
    (hcol : ∀ k, k < nv → (data.variant k).values serials.length = some (colf k))
    (j k : Nat) (m : Map) (hk : k + j = nv) :
      ∃ m', Map.writeAll m nv serials data ((List.range' k j).map (fun (i : Nat) => (i : Int))) k = some m' ∧
        (∀ (i : Nat) (t : Int) (v : Nat), serials[i]? = some t → k ≤ v → v < nv → m' t v = ((colf v)[i]?).getD none) ∧
        (∀ t v, (t ∉ serials ∨ ¬ (k ≤ v ∧ v < nv)) → m' t v = m t v) := by
  suffices h : ∃ m', Map.writeAll m nv serials data ((List.range' k j).map (fun (i : Nat) => (i : Int))) k = some m' ∧
      ∀ (i : Nat) (t : Int) (v : Nat), serials[i]? = some t → k ≤ v → v < nv → m' t v = ((colf v)[i]?).getD none by
    obtain ⟨m', h1, h2⟩ := h
    exact ⟨m', h1, h2, fun t v hc => writeAll_frame h1 t v (hc.imp_right (normIdx_range' nv k j hk v))⟩
  induction j generalizing k m with
  | zero => exact ⟨m, rfl, fun i t v _ h1 h2 => by omega⟩
  | succ j ih =>
    have hv := hcol k (by omega)
    simp only [List.range'_succ, List.map_cons, Map.writeAll, normIdx_nat nv k (by omega), hv]
    obtain ⟨m', h1, h2⟩ := ih (k + 1) (m.writeCol k (serials.zip (colf k))) (by omega)
    refine ⟨m', h1, fun i t v hi q1 q2 => ?_⟩
    by_cases c : k + 1 ≤ v
    · exact h2 i t v hi c q2
    · -- the later variants leave variant `k` as this write made it
      have e : v = k := by omega
      subst e
      rw [writeAll_frame h1 t v (Or.inr (normIdx_range' nv (v + 1) j (by omega) v (by omega)))]
      exact writeCol_nodup v serials (colf v) m hnd (Col.length_values hv) i t hi

theorem allVids_eq (s : Series) : allVids s = (List.range' 0 s.nv).map (fun (i : Nat) => (i : Int)) := by
  simp [allVids, resolveVariants, List.range_eq_range']

/-- **`set_data` of per-variant columns** `colf` over distinct periods and all variants: the `i`-th period reads the `i`-th
value of its variant's column, no other cell changes. Overlay, hstack, fill_missing, extrapolate and a Series on the
right-hand side all write this way. -/
theorem setData_columns {s r : Series} {serials : List Int} (hnd : serials.Nodup) (hI : Inv s)
    {data : DataArg} (colf : Nat → List Cell)
    (hcol : ∀ k, k < s.nv → (data.variant k).values serials.length = some (colf k))
    (h : s.setData serials data (allVids s) = .ok r) :
    (∀ t v, t ∉ serials → r.abs t v = s.abs t v) ∧
      ∀ (i : Nat) (t : Int) (v : Nat), serials[i]? = some t → v < s.nv → r.abs t v = ((colf v)[i]?).getD none := by
  obtain ⟨_, _, _, h4⟩ := setData_spec hI h
  rcases h4 with ⟨rfl, h5⟩ | ⟨_, _, m, h6, h7⟩
  · exact ⟨fun t v _ => h5 t v, fun i t v hi => nomatch hi⟩
  · obtain ⟨m', h8, h9, h10⟩ := writeAll_nodup s.nv serials hnd data colf hcol s.nv 0 s.abs (by omega)
    rw [allVids_eq, h8] at h6
    cases h6
    exact ⟨fun t v ht => by rw [h7, h10 t v (Or.inl ht)], fun i t v hi hv => by rw [h7, h9 i t v hi (by omega) hv]⟩

theorem variants_variant_values {l : List Col} {k n : Nat} {col : List Cell} (h : l[k]? = some (.column col))
    (hl : col.length = n) : ((DataArg.variants l).variant k).values n = some col := by
  simp [DataArg.variant, exhaustThenLast, h, Col.values, hl]

theorem array_variant_values {cols : List (List Cell)} {k n : Nat} {col : List Cell} (h : cols[k]? = some col)
    (hl : col.length = n) : ((DataArg.array cols).variant k).values n = some col :=
  variants_variant_values (l := cols.map Col.column) (by rw [List.getElem?_map, h]; rfl) hl

theorem array_variant_values_last {cols : List (List Cell)} {k n : Nat} {col : List Cell} (hk : cols.length ≤ k)
    (h : cols[cols.length - 1]? = some col) (hl : col.length = n) :
    ((DataArg.array cols).variant k).values n = some col := by
  simp [DataArg.variant, exhaustThenLast, List.getElem?_eq_none hk, List.getLast?_eq_getElem?, h, Col.values, hl]

theorem transpose_get (nv : Nat) (rows : List Row) (k : Nat) (hk : k < nv) :
    (transpose nv rows)[k]? = some (rows.map (fun r => (r[k]?).getD none)) := by
  simp [transpose, List.getElem?_range hk]

theorem transpose_read (nv : Nat) (serials : List Int) (g : Int → Nat → Cell) (k : Nat) (hk : k < nv) :
    (transpose nv (serials.map (fun t => (List.range nv).map (fun v => g t v))))[k]? = some (serials.map (fun u => g u k)) := by
  rw [transpose_get nv _ k hk, List.map_map]
  congr 1
  apply List.map_congr_left
  intro u _
  simp [List.getElem?_range hk]

/-! ### contiguous spans as lists of distinct serials -/

/-- the model writes this expression out in `Series.spanSerials` and in `hstack`; `spanSerials_eq` and
`C10.hstack_pointwise` identify the two by unfolding -/
def spanList (st : Int) (n : Nat) : List Int := (List.range n).map (fun (i : Nat) => st + (i : Int))

theorem spanList_succ (st : Int) (n : Nat) : spanList st (n + 1) = st :: spanList (st + 1) n := by
  unfold spanList
  rw [List.range_succ_eq_map, List.map_cons, List.map_map, Int.natCast_zero, Int.add_zero]
  congr 1
  refine List.map_congr_left fun i _ => ?_
  show st + ((i + 1 : Nat) : Int) = st + 1 + i
  omega

theorem length_spanList (st : Int) (n : Nat) : (spanList st n).length = n := by simp [spanList]

theorem spanList_get (a : Int) (n i : Nat) (h : i < n) : (spanList a n)[i]? = some (a + (i : Int)) := by
  simp [spanList, List.getElem?_map, List.getElem?_range h]

theorem mem_spanList (a : Int) (n : Nat) (t : Int) : t ∈ spanList a n ↔ a ≤ t ∧ t < a + (n : Int) := by
  simp only [spanList, List.mem_map, List.mem_range]
  constructor
  · rintro ⟨i, hi, rfl⟩; omega
  · intro h; exact ⟨(t - a).toNat, by omega, by omega⟩

theorem spanList_nodup (a : Int) (n : Nat) : (spanList a n).Nodup :=
  List.pairwise_map.mpr (List.nodup_range.imp fun h e => h (by omega))

theorem spanList_ne_nil (a : Int) (n : Nat) (hn : 1 ≤ n) : spanList a n ≠ [] :=
  List.ne_nil_of_length_pos (by rw [length_spanList]; exact hn)

theorem spanSerials_eq (s : Series) (st : Int) (h : s.start = some st) : s.spanSerials = spanList st s.rows.length := by
  simp [Series.spanSerials, h, spanList]

theorem spanSerials_nil (s : Series) (h : s.start = none) : s.spanSerials = [] := by
  simp [Series.spanSerials, h]

theorem not_mem_spanSerials (s : Series) (t : Int) (h : ¬ InSpan s t) : t ∉ s.spanSerials := by
  intro hm
  cases hs : s.start with
  | none => rw [spanSerials_nil s hs] at hm; cases hm
  | some st =>
    rw [spanSerials_eq s st hs, mem_spanList] at hm
    exact h ((inSpan_iff s t).mpr ⟨st, hs, hm⟩)

/-! ### `Inv` through every operation of `step`; what row-wise operations, broadcasting, `_binop` and overlay do to `abs` -/

theorem inv_new (f : Freq) (nv : Nat) : Inv (Series.new f nv) := inv_of_rows_nil rfl

theorem inv_empty (s : Series) : Inv s.empty := inv_of_rows_nil rfl

theorem inv_shift (s : Series) (k : Int) (h : Inv s) : Inv (s.shift k) :=
  ⟨h.1, fun hs => h.2 (Option.map_eq_none_iff.mp hs)⟩

/-- an in-place row-by-row operation (`φ` on every row, `n'` variants afterwards): at a period of the span the new row is `φ`
of the old one, the span is unchanged. `apply`, `replace_where`, the row statistics and `_broadcast_variants` are of this kind -/
theorem rowMap_spec (s : Series) (hI : Inv s) (φ : Row → Row) (n' : Nat) (hφ : ∀ r ∈ s.rows, (φ r).length = n') :
    Inv ({ s with nv := n', rows := s.rows.map φ } : Series) ∧
    ∀ t v, (InSpan s t → ({ s with nv := n', rows := s.rows.map φ } : Series).abs t v =
        ((φ ((List.range s.nv).map (fun v => s.abs t v)))[v]?).getD none) ∧
      (¬ InSpan s t → ({ s with nv := n', rows := s.rows.map φ } : Series).abs t v = none) := by
  refine ⟨⟨fun r hr => ?_, fun hs => ?_⟩, fun t v => ⟨fun hin => ?_, fun hn => ?_⟩⟩
  · obtain ⟨r0, h0, e⟩ := List.mem_map.mp hr
    rw [← e]; exact hφ r0 h0
  · show s.rows.map φ = []
    rw [hI.2 hs]
    rfl
  · obtain ⟨st, j, hst, rfl, hj⟩ := inSpan_index hin
    have e : (List.range s.nv).map (fun v => s.abs (st + j) v) = s.rows[j] := by
      rw [row_eq_cells s.rows s.nv hI.1 j _ (List.getElem?_eq_getElem hj)]
      exact List.map_congr_left fun v _ => abs_at_index hst j v
    rw [e, abs_at_index (s := { s with nv := n', rows := s.rows.map φ }) hst]
    simp [cellAt, hj]
  · exact abs_none_of_not_inSpan _ t v fun h => hn (inSpan_of_congr h rfl (List.length_map φ))

theorem inv_mapCells (g : Cell → Cell) (s : Series) (h : Inv s) : Inv (mapCells g s) :=
  (rowMap_spec s h (fun r => r.map g) s.nv (fun r hr => by rw [List.length_map]; exact h.1 r hr)).1

theorem inv_apply (g : Cell → Cell) (s : Series) (h : Inv s) : Inv (s.apply g) :=
  inv_trim _ (inv_mapCells g s h)

/-- `apply(func)` for any element-wise `func`, NaN-preserving or not: inside the span and below the number of variants every
cell `x` becomes `func x`, nothing appears elsewhere, and the result is trimmed -/
theorem abs_apply (g : Cell → Cell) (s : Series) (hI : Inv s) (t : Int) (v : Nat) :
    (InSpan s t → v < s.nv → (s.apply g).abs t v = g (s.abs t v)) ∧
    (¬ (InSpan s t ∧ v < s.nv) → (s.apply g).abs t v = none) ∧ Trimmed (s.apply g) := by
  obtain ⟨hIx, hx⟩ := rowMap_spec s hI (fun r => r.map g) s.nv (fun r hr => by rw [List.length_map]; exact hI.1 r hr)
  refine ⟨fun hin hv => ?_, fun hn => ?_, trimmed_trim _ hIx.2⟩
  · refine ((abs_trim _ hIx.1 t v).trans ((hx t v).1 hin)).trans ?_
    simp [List.getElem?_range hv]
  · refine (abs_trim _ hIx.1 t v).trans ?_
    by_cases hin : InSpan s t
    · rw [(hx t v).1 hin, List.getElem?_eq_none (by simpa using Nat.le_of_not_lt fun hv => hn ⟨hin, hv⟩)]; rfl
    · exact (hx t v).2 hin

theorem inv_replaceWhere (t : TestFn) (new : Cell) (s : Series) (hI : Inv s) : Inv (s.replaceWhere t new) :=
  inv_apply _ s hI

theorem inv_setDataP (s : Series) (ps : List Period) (data : DataArg) (vars : VarArg) (s' : Series)
    (hI : Inv s) (h : s.setDataP ps data vars = .ok s') : Inv s' := by
  unfold Series.setDataP at h
  split at h
  · cases h; exact hI
  · simp only [Except.bind_eq_ok] at h
    obtain ⟨serials, _, h2⟩ := h
    exact (setData_spec (s := { s with freq := s.freqFor ps }) hI h2).1

theorem inv_recreateP (s : Series) (ps : List Period) (vars : VarArg) (s' : Series)
    (h : s.recreateP ps vars = .ok s') : Inv s' := by
  unfold Series.recreateP at h
  simp only [Except.bind_eq_ok] at h
  obtain ⟨data, _, h2⟩ := h
  split at h2
  · cases h2; exact inv_new _ _
  · exact inv_setDataP _ ps _ .all s' (inv_new _ _) h2

theorem inv_fillMissingP (s : Series) (m : FillMethod) (ps : List Period) (r : Series) (hI : Inv s)
    (h : s.fillMissingP m ps = .ok r) : Inv r := by
  unfold Series.fillMissingP at h
  simp only [Except.bind_eq_ok] at h
  obtain ⟨d, _, h2⟩ := h
  exact inv_setDataP s ps _ .all r hI h2

/-- the variant of an operand that numpy broadcasting pairs with variant `v` of the result -/
def bidx (nv v : Nat) : Nat := if nv = 1 then 0 else v

theorem bidx_of_lt (nv v : Nat) (hv : v < nv) : bidx nv v = v := by
  unfold bidx; split <;> omega

/-- `_broadcast_variants(n)`: a no-op on `n` variants; a single variant is repeated `n` times, every variant reads it,
the span is unchanged -/
theorem broadcastVariants_spec (s s' : Series) (n : Nat) (hI : Inv s) (h : s.broadcastVariants n = .ok s') :
    Inv s' ∧ s'.nv = n ∧ (s.nv = n ∨ s.nv = 1) ∧ (∀ t, InSpan s' t ↔ InSpan s t) ∧
      ∀ t v, v < n → s'.abs t v = s.abs t (bidx s.nv v) := by
  unfold Series.broadcastVariants at h
  by_cases c : s.nv = n
  · rw [if_pos c] at h
    cases h
    exact ⟨hI, c, Or.inl c, fun _ => Iff.rfl, fun t v hv => by rw [bidx_of_lt _ _ (by omega)]⟩
  · rw [if_neg c] at h
    split at h
    · rename_i h1
      cases h
      obtain ⟨hIx, hx⟩ := rowMap_spec s hI (fun r => List.replicate n ((r[0]?).getD none)) n (fun _ _ => List.length_replicate)
      refine ⟨hIx, rfl, Or.inr h1, fun t => by unfold InSpan; simp, fun t v hv => ?_⟩
      by_cases hin : InSpan s t
      · rw [(hx t v).1 hin]; simp [hv, h1, bidx]
      · rw [(hx t v).2 hin, abs_none_of_not_inSpan s _ _ hin]
    · cases h

theorem broadcastVariants_self (s : Series) : s.broadcastVariants s.nv = .ok s := if_pos rfl

theorem broadcastPair_eq {a b : Series} (h : a.nv = b.nv) : broadcastPair a b = .ok (a, b) := by
  unfold broadcastPair
  rw [if_pos h]; rfl

theorem broadcastPair_ok (a b a' b' : Series) (h : broadcastPair a b = .ok (a', b')) :
    ∃ n, bcastNv a.nv b.nv = some n ∧ a.broadcastVariants n = .ok a' ∧ b.broadcastVariants n = .ok b' := by
  unfold broadcastPair at h
  unfold bcastNv
  by_cases c1 : a.nv = b.nv
  · rw [if_pos c1] at h ⊢
    cases h
    exact ⟨a.nv, rfl, broadcastVariants_self a, by rw [c1]; exact broadcastVariants_self b⟩
  · rw [if_neg c1] at h ⊢
    by_cases c2 : a.nv = 1
    · rw [if_pos c2] at h ⊢
      obtain ⟨x, hx, h⟩ := Except.bind_eq_ok.mp h
      cases h
      exact ⟨b.nv, rfl, hx, broadcastVariants_self b⟩
    · rw [if_neg c2] at h ⊢
      by_cases c3 : b.nv = 1
      · rw [if_pos c3] at h ⊢
        obtain ⟨x, hx, h⟩ := Except.bind_eq_ok.mp h
        cases h
        exact ⟨a.nv, rfl, broadcastVariants_self a, hx⟩
      · rw [if_neg c3] at h; cases h

/-- `_broadcast_variants_if_needed` (`self` is broadcast in place, `other` as a copy): both sides end up with the broadcast
number of variants, the same spans, and variant `v` of a side reads its variant `bidx nv v` -/
theorem broadcastPair_spec (a b a' b' : Series) (ha : Inv a) (hb : Inv b) (h : broadcastPair a b = .ok (a', b')) :
    Inv a' ∧ Inv b' ∧ bcastNv a.nv b.nv = some a'.nv ∧ b'.nv = a'.nv ∧
    (∀ t, InSpan a' t ↔ InSpan a t) ∧ (∀ t, InSpan b' t ↔ InSpan b t) ∧
    (∀ t v, v < a'.nv → a'.abs t v = a.abs t (bidx a.nv v)) ∧ (∀ t v, v < a'.nv → b'.abs t v = b.abs t (bidx b.nv v)) := by
  obtain ⟨n, hn, h1, h2⟩ := broadcastPair_ok a b a' b' h
  obtain ⟨i1, i2, _, i3, i4⟩ := broadcastVariants_spec a a' n ha h1
  obtain ⟨j1, j2, _, j3, j4⟩ := broadcastVariants_spec b b' n hb h2
  subst i2
  exact ⟨i1, j1, hn, j2, i3, j3, i4, j4⟩

theorem optMin_le (x y : Option Int) (lo : Int) (h : optMin x y = some lo) :
    (∀ a, x = some a → lo ≤ a) ∧ (∀ b, y = some b → lo ≤ b) := by
  cases x <;> cases y <;> cases h <;> exact ⟨fun _ e => by cases e <;> omega, fun _ e => by cases e <;> omega⟩

theorem le_optMax (x y : Option Int) (hi : Int) (h : optMax x y = some hi) :
    (∀ a, x = some a → a ≤ hi) ∧ (∀ b, y = some b → b ≤ hi) := by
  cases x <;> cases y <;> cases h <;> exact ⟨fun _ e => by cases e <;> omega, fun _ e => by cases e <;> omega⟩

theorem abs_none_outside_window (a b : Series) (lo hi : Int) (hlo : optMin a.start b.start = some lo)
    (hhi : optMax a.endSerial b.endSerial = some hi) (t : Int) (h : ¬ (lo ≤ t ∧ t ≤ hi)) :
    (∀ v, a.abs t v = none) ∧ ∀ v, b.abs t v = none := by
  obtain ⟨m1, m2⟩ := optMin_le _ _ lo hlo
  obtain ⟨x1, x2⟩ := le_optMax _ _ hi hhi
  exact ⟨fun v => abs_none_outside a lo hi m1 x1 t v h, fun v => abs_none_outside b lo hi m2 x2 t v h⟩

theorem optMin_none (x y : Option Int) (h : optMin x y = none) : x = none ∧ y = none := by
  cases x <;> cases y <;> cases h <;> exact ⟨rfl, rfl⟩

theorem optMax_none (x y : Option Int) (h : optMax x y = none) : x = none ∧ y = none := by
  cases x <;> cases y <;> cases h <;> exact ⟨rfl, rfl⟩

theorem rect_zipWith (f : Cell → Cell → Cell) (nv : Nat) (da db : List Row) :
    ∀ r ∈ List.zipWith (zipRow f nv) da db, r.length = nv := by
  intro r hr
  obtain ⟨i, hi⟩ := List.mem_iff_getElem?.mp hr
  rw [List.getElem?_zipWith] at hi
  split at hi
  · cases hi; simp [zipRow]
  · cases hi

theorem cellAt_zipWith_bcast (f : Cell → Cell → Cell) (hf : ∀ x, f none x = none ∧ f x none = none) {na nb nv : Nat}
    {da db : List Row} (hda : ∀ r ∈ da, r.length = na) (hdb : ∀ r ∈ db, r.length = nb) {i v : Nat} (hv : v < nv) :
    cellAt (List.zipWith (zipRow f nv) da db) i v = f (cellAt da i (bidx na v)) (cellAt db i (bidx nb v)) := by
  unfold cellAt
  rw [List.getElem?_zipWith]
  cases h1 : da[i]? with
  | none => simp [(hf _).1]
  | some ra =>
    cases h2 : db[i]? with
    | none => simp [(hf _).2]
    | some rb =>
      have la := hda ra (List.mem_of_getElem? h1)
      have lb := hdb rb (List.mem_of_getElem? h2)
      -- `zipRow` tests the length of each row for 1; by `la`, `lb` that is the test of `bidx`
      simp only [zipRow, List.getElem?_map, List.getElem?_range hv, Option.map_some, Option.getD_some, la, lb, bidx]

/-- a successful `_binop`: the empty series when neither operand has a start, otherwise the trimmed row-wise combination of
the two slices over the encompassing window `[lo, hi]` -/
theorem binop_ok (f : Cell → Cell → Cell) (a b r : Series) (h : a.binop f b = .ok r) :
    ∃ nv, bcastNv a.nv b.nv = some nv ∧
      ((a.start = none ∧ b.start = none ∧ r = Series.new a.freq nv) ∨
       ∃ lo hi, optMin a.start b.start = some lo ∧ optMax a.endSerial b.endSerial = some hi ∧
         r = ({ freq := if a.start.isSome then a.freq else b.freq, start := some lo, nv := nv,
                rows := List.zipWith (zipRow f nv) (a.sliceFromUntil lo hi) (b.sliceFromUntil lo hi) } : Series).trim) := by
  unfold Series.binop at h
  cases hbc : bcastNv a.nv b.nv with
  | none => rw [hbc] at h; cases h
  | some nv =>
    rw [hbc] at h
    refine ⟨nv, rfl, ?_⟩
    cases hlo : optMin a.start b.start with
    | none =>
      obtain ⟨h1, h2⟩ := optMin_none _ _ hlo
      simp only [hlo] at h
      cases h
      exact Or.inl ⟨h1, h2, rfl⟩
    | some lo =>
      cases hhi : optMax a.endSerial b.endSerial with
      | none =>
        -- no end means no start, on both sides
        obtain ⟨h1, h2⟩ := optMax_none _ _ hhi
        rw [Option.map_eq_none_iff.mp h1, Option.map_eq_none_iff.mp h2] at hlo
        cases hlo
      | some hi =>
        simp only [hlo, hhi] at h
        cases h
        exact Or.inr ⟨lo, hi, rfl, rfl, rfl⟩

theorem inv_trimmed_binop (f : Cell → Cell → Cell) (a b r : Series) (h : a.binop f b = .ok r) : Inv r ∧ Trimmed r := by
  obtain ⟨nv, _, ⟨_, _, rfl⟩ | ⟨lo, hi, _, _, rfl⟩⟩ := binop_ok f a b r h
  · exact ⟨inv_new _ _, Or.inl ⟨rfl, rfl⟩⟩
  · exact ⟨inv_trim _ ⟨rect_zipWith _ _ _ _, fun h => nomatch h⟩, trimmed_trim _ (fun h => nomatch h)⟩

theorem inv_binopS (f : Cell → Cell → Cell) (a b r : Series) (h : a.binopS f b = .ok r) : Inv r := by
  unfold Series.binopS at h
  split at h
  · exact (inv_trimmed_binop f a b r h).1
  · cases h

theorem overlayCore_frame (self other r : Series) (hI : Inv self) (h : self.overlayCore other = .ok r) :
    Inv r ∧ Trimmed r ∧ ∀ t v, t ∉ other.spanSerials → r.abs t v = self.abs t v := by
  unfold Series.overlayCore at h
  simp only [Except.bind_eq_ok] at h
  obtain ⟨x, hx, h⟩ := h
  cases h
  obtain ⟨hIx, _, _, h4⟩ := setData_spec hI hx
  refine ⟨inv_trim _ hIx, trimmed_trim _ hIx.2, ?_⟩
  intro t v ht
  rw [abs_trim _ hIx.1]
  rcases h4 with ⟨_, h5⟩ | ⟨_, _, m, h6, h7⟩
  · exact h5 t v
  · rw [h7 t v]; exact writeAll_frame h6 t v (Or.inl ht)

/-- overlay for equal numbers of variants: inside `other`'s span the result is `other`, outside it `self` -/
theorem abs_overlayCore (self other r : Series) (hI : Inv self) (hnv : self.nv = other.nv)
    (h : self.overlayCore other = .ok r) (t : Int) (v : Nat) :
    (InSpan other t → v < other.nv → r.abs t v = other.abs t v) ∧ (¬ InSpan other t → r.abs t v = self.abs t v) := by
  refine ⟨?_, fun hn => (overlayCore_frame self other r hI h).2.2 t v (not_mem_spanSerials other t hn)⟩
  intro hin hv
  obtain ⟨so, j, hso, rfl, hj⟩ := inSpan_index hin
  unfold Series.overlayCore at h
  simp only [Except.bind_eq_ok] at h
  obtain ⟨x, hx, h⟩ := h
  cases h
  rw [spanSerials_eq other so hso] at hx
  have hl := length_spanList so other.rows.length
  obtain ⟨_, h9⟩ := setData_columns (spanList_nodup _ _) hI (fun k => other.rows.map (fun r => (r[k]?).getD none))
    (fun k hk => array_variant_values (transpose_get _ _ k (hnv ▸ hk)) (by rw [List.length_map, hl])) hx
  rw [abs_trim _ (setData_spec hI hx).1.1, h9 j _ v (spanList_get so _ j hj) (hnv ▸ hv), cellAt_col, abs_at_index hso]

theorem inv_overlayS (a b r : Series) (ha : Inv a) (hb : Inv b) (h : a.overlayS b = .ok r) : Inv r := by
  unfold Series.overlayS at h
  simp only [Except.bind_eq_ok] at h
  obtain ⟨⟨s, o⟩, hp, h2⟩ := h
  have hs : Inv s := (broadcastPair_spec a b s o ha hb hp).1
  simp only at h2
  split at h2
  · exact (overlayCore_frame s o r hs h2).1
  · split at h2
    · cases h2
    · exact (overlayCore_frame { s with freq := o.freq } o r hs h2).1

theorem inv_underlayS (a b r : Series) (ha : Inv a) (hb : Inv b) (h : a.underlayS b = .ok r) : Inv r := by
  unfold Series.underlayS at h
  simp only [Except.bind_eq_ok] at h
  obtain ⟨⟨s, o⟩, hp, h2⟩ := h
  obtain ⟨hs, ho, _⟩ := broadcastPair_spec a b s o ha hb hp
  exact inv_overlayS o s r ho hs h2

theorem rect_slice (s : Series) (a b : Int) (hR : Rect s) : ∀ r ∈ s.sliceFromUntil a b, r.length = s.nv := by
  intro r hr
  unfold Series.sliceFromUntil at hr
  exact rect_expand s.nv s.rows _ _ hR r (List.mem_of_mem_drop (List.mem_of_mem_take hr))

theorem inv_clip (s : Series) (a b : Option Int) (s' : Series) (hI : Inv s) (h : s.clip a b = .ok s') : Inv s' := by
  unfold Series.clip at h
  split at h
  · split at h
    · cases h; exact hI
    · cases h
  · simp only at h
    split at h
    · cases h; exact hI
    · cases h
      exact ⟨rect_slice s _ _ hI.1, fun hs => nomatch hs⟩

theorem inv_clipP (a b : Option Period) (s s' : Series) (hI : Inv s) (h : s.clipP a b = .ok s') : Inv s' := by
  unfold Series.clipP at h
  simp only [Except.bind_eq_ok] at h
  obtain ⟨a', _, b', _, h2⟩ := h
  exact inv_clip s a' b' s' hI h2

theorem inv_hstack (f : Freq) (l : List Series) (r : Series) (h : hstack f l = .ok r) : Inv r := by
  unfold hstack at h
  simp only at h
  split at h
  · cases h; exact inv_new _ _
  · split at h
    · exact (setData_spec (inv_new _ _) h).1
    · cases h

theorem inv_hstackS (l : List Series) (r : Series) (hl : ∀ s ∈ l, Inv s) (h : hstackS l = .ok r) : Inv r := by
  unfold hstackS at h
  split at h
  · cases h
  · cases h; exact hl _ (by simp)
  · split at h
    · exact inv_hstack _ _ r h
    · split at h
      · exact inv_hstack _ _ r h
      · cases h

theorem getData_rows (s : Series) (serials : List Int) (vids : List Int) (d : List Row)
    (h : s.getData serials vids = .ok d) : (∀ r ∈ d, r.length = vids.length) ∧ (serials = [] → d = []) := by
  unfold Series.getData at h
  split at h
  · simp only [Except.bind_eq_ok] at h
    obtain ⟨_, _, h⟩ := h
    cases h
    exact ⟨fun _ hr => (nomatch hr), fun _ => rfl⟩
  · rename_i hne
    refine ⟨?_, fun h0 => absurd (by simp [h0]) hne⟩
    intro r hr
    obtain ⟨p, _, hp⟩ := mapM_ok_mem h hr
    exact mapM_ok_length hp

theorem getDataP_all_rows (s : Series) (ps : List Period) (d : List Row) (h : s.getDataP ps .all = .ok d) :
    (∀ r ∈ d, r.length = s.nv) ∧ (ps = [] → d = []) := by
  unfold Series.getDataP at h
  simp only [Except.bind_eq_ok] at h
  obtain ⟨serials, h1, h2⟩ := h
  obtain ⟨h3, h4⟩ := getData_rows s serials _ d h2
  refine ⟨fun r hr => by rw [h3 r hr]; simp [resolveVariants], fun h0 => h4 ?_⟩
  have := mapM_ok_length h1
  rw [h0] at this
  exact List.eq_nil_of_length_eq_zero this

theorem inv_shiftBy (b : ShiftBy) (s s' : Series) (hI : Inv s) (h : s.shiftBy b = .ok s') : Inv s' := by
  -- `soy` / `eopy`: the rows read at the keyword periods of the own span (none when there is no start), trimmed
  have key : ∀ (g : Int → R Period) (ps : List Period) (d : List Row), s.spanSerials.mapM g = .ok ps →
      s.getDataP ps .all = .ok d → Inv ({ s with rows := d } : Series).trim := by
    intro g ps d h1 h2
    obtain ⟨h3, h4⟩ := getDataP_all_rows s ps d h2
    refine inv_trim _ ⟨h3, fun hs => h4 ?_⟩
    rw [spanSerials_nil s hs] at h1
    cases h1; rfl
  cases b with
  | by_ k => cases h; exact inv_shift s k hI
  | yoy => cases h; exact inv_shift s _ hI
  | soy | eopy =>
    simp only [Series.shiftBy, Except.bind_eq_ok] at h
    obtain ⟨ps, h1, d, h2, h⟩ := h
    cases h
    exact key _ ps d h1 h2
  | tty =>
    simp only [Series.shiftBy, Except.bind_eq_ok] at h
    obtain ⟨_, _, d, _, s1, h3, h4⟩ := h
    exact inv_setDataP s1 _ _ _ s' (inv_setDataP s _ _ _ s1 hI h3) h4

theorem inv_rowStat (f : StatFn) (s r : Series) (hI : Inv s) (h : s.rowStat f = .ok r) : Inv r := by
  unfold Series.rowStat at h
  split at h
  · cases h
  · cases h
    exact inv_trim _ (rowMap_spec s hI (fun r => [f.eval r]) 1 (fun _ _ => rfl)).1

theorem length_movRows (f : MovFn) (wl nv : Nat) (rows : List Row) : (movRows f wl nv rows).length = rows.length := by
  simp [movRows]

theorem rect_movRows (f : MovFn) (wl nv : Nat) (rows : List Row) : ∀ r ∈ movRows f wl nv rows, r.length = nv := by
  intro r hr
  obtain ⟨i, _, e⟩ := List.mem_map.mp hr
  rw [← e]; simp

theorem cellAt_movRows (f : MovFn) (wl nv : Nat) (rows : List Row) (i v : Nat) (hi : i < rows.length) (hv : v < nv) :
    cellAt (movRows f wl nv rows) i v =
      f.eval ((List.range wl).map (fun k => cellAt (expand nv rows (wl - 1) 0) (i + k) v)) := by
  simp only [movRows, cellAt, List.getElem?_map, List.getElem?_range hi, List.getElem?_range hv, Option.map_some,
    Option.getD_some]

theorem inv_movWindow (f : MovFn) (w : Option Int) (s r : Series) (hI : Inv s) (h : s.movWindow f w = .ok r) : Inv r := by
  unfold Series.movWindow at h
  simp only at h
  split at h
  · cases h
  · cases h
    exact inv_trim _ ⟨rect_movRows _ _ _ _, fun hs => by rw [hI.2 hs]; rfl⟩

theorem inv_extrapolate (s : Series) (coeffs : List Rat) (c : Rat) (serials : List Int) (r : Series) (hI : Inv s)
    (h : s.extrapolate coeffs c serials = .ok r) : Inv r := by
  unfold Series.extrapolate at h
  split at h
  · cases h; exact hI
  · cases h; exact hI
  · split at h
    · cases h
    · exact (setData_spec hI h).1

theorem inv_extrapolateP (s : Series) (coeffs : List Rat) (c : Rat) (ps : List Period) (r : Series) (hI : Inv s)
    (h : s.extrapolateP coeffs c ps = .ok r) : Inv r := by
  unfold Series.extrapolateP at h
  split at h
  · cases h; exact hI
  · simp only [Except.bind_eq_ok] at h
    obtain ⟨serials, _, h2⟩ := h
    exact inv_extrapolate s coeffs c serials r hI h2

/-! ### element-wise functions, slices, reads -/

theorem cellAt_map (g : Cell → Cell) (hg : g none = none) (rows : List Row) (i v : Nat) :
    cellAt (rows.map (fun r => r.map g)) i v = g (cellAt rows i v) := by
  unfold cellAt
  rw [List.getElem?_map]
  cases rows[i]? with
  | none => exact hg.symm
  | some r =>
    simp only [Option.map_some, List.getElem?_map]
    cases r[v]? with
    | none => exact hg.symm
    | some c => rfl

theorem abs_mapCells (g : Cell → Cell) (hg : g none = none) (s : Series) (t : Int) (v : Nat) :
    (mapCells g s).abs t v = g (s.abs t v) := by
  unfold Series.abs mapCells
  cases s.start with
  | none => exact hg.symm
  | some st =>
    simp only
    split
    · exact cellAt_map g hg _ _ _
    · exact hg.symm

/-- the positions of the two ends of a slice `[a, b]` in the padded block, as naturals (so that `omega` meets no `toNat`) -/
theorem slice_positions (a b base : Int) (n : Nat) :
    ∃ pa pb : Nat, a - base + ((getDatePositions [a, b] base n).addBefore : Int) = pa ∧
      b - base + ((getDatePositions [a, b] base n).addBefore : Int) = pb ∧
      pb < (getDatePositions [a, b] base n).addBefore + n + (getDatePositions [a, b] base n).addAfter := by
  obtain ⟨_, hp⟩ := positions_spec [a, b] base n
  have ha := hp a List.mem_cons_self
  have hb := hp b (List.mem_cons_of_mem _ List.mem_cons_self)
  exact ⟨_, _, (Int.toNat_of_nonneg (by omega)).symm, (Int.toNat_of_nonneg (by omega)).symm, by omega⟩

theorem cellAt_slice (s : Series) (hW : WF s) (a b : Int) (i v : Nat) :
    cellAt (s.sliceFromUntil a b) i v = if (i : Int) < b - a + 1 then s.abs (a + i) v else none := by
  unfold Series.sliceFromUntil
  simp only
  obtain ⟨pa, pb, ea, eb, _⟩ := slice_positions a b (s.start.getD (min a b)) s.rows.length
  rw [cellAt_drop_take, ea, eb, Int.toNat_natCast, Int.toNat_natCast, cellAt_expand_getD hW (min a b)]
  by_cases c : (i : Int) < b - a + 1
  · rw [if_pos c, if_pos (by omega)]
    congr 1; omega
  · rw [if_neg c, if_neg (by omega)]

theorem length_sliceFromUntil (s : Series) (a b : Int) : (s.sliceFromUntil a b).length = (b - a + 1).toNat := by
  unfold Series.sliceFromUntil
  simp only
  obtain ⟨pa, pb, ea, eb, hb⟩ := slice_positions a b (s.start.getD (min a b)) s.rows.length
  rw [List.length_take, List.length_drop, length_expand, ea, eb, Int.toNat_natCast, Int.toNat_natCast,
    Nat.min_eq_left (Nat.sub_le_sub_right hb pa), show b - a + 1 = ((pb + 1 : Nat) : Int) - pa by omega, Int.toNat_sub]

theorem slice_col (s : Series) (hW : WF s) (a b : Int) (v : Nat) :
    (s.sliceFromUntil a b).map (fun r => (r[v]?).getD none) =
      (List.range (b - a + 1).toNat).map (fun (i : Nat) => s.abs (a + (i : Int)) v) := by
  rw [col_eq_cells, length_sliceFromUntil]
  refine List.map_congr_left fun i hi => ?_
  rw [cellAt_slice s hW, if_pos (by have := List.mem_range.mp hi; omega)]

/-- `vs` are the indices numpy normalises the request `vids` to (negative ones count from the back) -/
def Normalises (nv : Nat) (vids : List Int) (vs : List Nat) : Prop :=
  vids.length = vs.length ∧ ∀ (i : Nat) (c : Int) (v : Nat), vids[i]? = some c → vs[i]? = some v → normIdx nv c = some v

theorem normalises_nat (nv : Nat) (vs : List Nat) (hv : ∀ v ∈ vs, v < nv) :
    Normalises nv (vs.map (fun (v : Nat) => (v : Int))) vs := by
  refine ⟨List.length_map _, fun i c v h1 h2 => ?_⟩
  rw [List.getElem?_map, h2] at h1
  cases h1
  exact normIdx_nat nv v (hv v (List.mem_of_getElem? h2))

theorem normalises_of_map {nv : Nat} {vids : List Int} {vs : List Nat} (h : vids.map (normIdx nv) = vs.map some) :
    Normalises nv vids vs := by
  refine ⟨by simpa using congrArg List.length h, fun i c v h1 h2 => ?_⟩
  have e := congrArg (·[i]?) h
  simpa only [List.getElem?_map, h1, h2, Option.map_some, Option.some.injEq] using e

theorem pickRow_normalises {nv : Nat} {row : Row} {vids : List Int} {vs : List Nat} (h : Normalises nv vids vs) :
    pickRow nv row vids = .ok (vs.map (fun v => (row[v]?).getD none)) := by
  refine mapM_eq_ok_iff.2 (List.ext_getElem? fun i => ?_)
  rw [List.getElem?_map, List.getElem?_map, List.getElem?_map]
  cases hv : vs[i]? with
  | none => rw [List.getElem?_eq_none (h.1 ▸ List.getElem?_eq_none_iff.mp hv)]; rfl
  | some v =>
    obtain ⟨c, hc⟩ : ∃ c, vids[i]? = some c := ⟨vids[i]'(h.1 ▸ (List.getElem?_eq_some_iff.mp hv).1), by simp⟩
    simp only [hc, Option.map_some, h.2 i c v hc hv]
    rfl

theorem pickRow_rejects {nv : Nat} {row : Row} {vids : List Int} (h : ∃ c ∈ vids, normIdx nv c = none) :
    pickRow nv row vids = .error .badInput := by
  obtain ⟨c, hc, hn⟩ := h
  refine mapM_error_of_mem ⟨c, hc, by rw [hn]; rfl⟩ fun x _ e' hx => ?_
  split at hx
  · cases hx
  · cases hx; rfl

theorem getD_nanRow_eq_cellAt (nv : Nat) (data : List Row) (p v : Nat) :
    (((data[p]?).getD (nanRow nv))[v]?).getD none = cellAt data p v := by
  unfold cellAt
  cases data[p]? with
  | none => exact allNan_get _ _ (allNan_nanRow nv)
  | some r => rfl

theorem getData_eq_abs_general (s : Series) (hW : WF s) (serials : List Int) (vids : List Int) (vs : List Nat)
    (h : Normalises s.nv vids vs) :
    s.getData serials vids = .ok (serials.map (fun t => vs.map (fun v => s.abs t v))) := by
  unfold Series.getData
  by_cases he : serials.isEmpty = true
  · rw [if_pos he, pickRow_normalises h, List.isEmpty_iff.mp he]
    rfl
  · rw [if_neg he]
    simp only
    obtain ⟨hpos, hb⟩ := positions_spec serials (s.start.getD (minOr0 serials)) s.rows.length
    rw [mapM_ok_of_forall (fun p _ => pickRow_normalises h)]
    congr 1
    rw [hpos, List.map_map]
    apply List.map_congr_left
    intro t ht
    apply List.map_congr_left
    intro v _
    rw [getD_nanRow_eq_cellAt, cellAt_expand_getD hW (minOr0 serials), Int.toNat_of_nonneg (Int.sub_nonneg.mpr (hb t ht).1)]
    congr 1; omega

theorem getData_all (s : Series) (hW : WF s) (serials : List Int) :
    s.getData serials (allVids s) = .ok (serials.map (fun t => (List.range s.nv).map (fun v => s.abs t v))) :=
  getData_eq_abs_general s hW serials _ _ (normalises_nat s.nv _ (fun _ hv => List.mem_range.mp hv))

/-! ### period-level wrappers on periods of the series' own frequency -/

theorem serialsOf_same (f : Freq) (l : List Int) : serialsOf f (l.map (fun x => (⟨f, x⟩ : Period))) = .ok l :=
  mapM_eq_ok_iff.2 (by rw [List.map_map]; exact List.map_congr_left fun x _ => if_pos rfl)

theorem withFreq_self (s : Series) : ({ s with freq := s.freq } : Series) = s := by cases s; rfl

theorem freqFor_own (s : Series) (serials : List Int) :
    s.freqFor (serials.map (fun x => (⟨s.freq, x⟩ : Period))) = s.freq := by
  unfold Series.freqFor
  cases s.start <;> cases serials <;> rfl

theorem getDataP_own (s : Series) (serials : List Int) (vars : VarArg) :
    s.getDataP (serials.map (fun x => (⟨s.freq, x⟩ : Period))) vars = s.getData serials (resolveVariants s.nv vars) := by
  unfold Series.getDataP
  rw [freqFor_own]
  dsimp only
  rw [serialsOf_same]
  rfl

theorem setDataP_own (s : Series) (serials : List Int) (hne : serials ≠ []) (data : DataArg) (vars : VarArg) :
    s.setDataP (serials.map (fun x => (⟨s.freq, x⟩ : Period))) data vars =
      s.setData serials data (resolveVariants s.nv vars) := by
  unfold Series.setDataP
  rw [if_neg (fun hh => hne (List.map_eq_nil_iff.mp (List.isEmpty_iff.mp hh.1))), freqFor_own]
  dsimp only
  rw [serialsOf_same]
  rfl

theorem mapM_serialsOf_error (f : Freq) : ∀ (ps : List Period), (∃ p ∈ ps, p.freq ≠ f) → serialsOf f ps = .error .mixedFreq := by
  rintro ps ⟨p, hp, hne⟩
  refine mapM_error_of_mem ⟨p, hp, if_neg hne⟩ fun x _ e' hx => ?_
  split at hx
  · cases hx
  · cases hx; rfl

/-! ### windows, statistics, `fill_missing` on one column, the `extrapolate` recursion, `hstack` rows -/

theorem strictVals_none_of_mem (l : List Cell) (h : none ∈ l) : strictVals l = none := by
  induction l with
  | nil => cases h
  | cons c cs ih =>
    cases c with
    | none => rfl
    | some x =>
      simp only [strictVals]
      rw [ih (by simpa using h)]; rfl

/-- the window ending at `t`, oldest value first -/
def windowOf (s : Series) (wl : Nat) (t : Int) (v : Nat) : List Cell :=
  (List.range wl).map (fun (k : Nat) => s.abs (t - ((wl : Int) - 1) + (k : Int)) v)

theorem window_none (f : MovFn) (s : Series) (wl : Nat) (hwl : 1 ≤ wl) (t : Int) (v : Nat) (h : s.abs t v = none) :
    f.eval (windowOf s wl t v) = none := by
  -- the last cell of the window is the missing one, and every `MovFn` goes through `strictVals`
  have hm : none ∈ windowOf s wl t v := by
    unfold windowOf
    rw [List.mem_map]
    refine ⟨wl - 1, List.mem_range.mpr (by omega), ?_⟩
    rw [← h]
    congr 1
    omega
  cases f <;> simp [MovFn.eval, strictVals_none_of_mem _ hm]

theorem obsVals_nil_of_all_none (r : List Cell) (h : ∀ c ∈ r, c = none) : obsVals r = [] :=
  List.filterMap_eq_nil_iff.mpr h

theorem fillColumn_length (m : FillMethod) (col : List Cell) : (fillColumn m col).length = col.length := by
  simp [fillColumn]

theorem fillColumn_obs (m : FillMethod) (col : List Cell) (i : Nat) (x : Num) (h : colAt col i = some x) :
    colAt (fillColumn m col) i = some x := by
  have hi : i < col.length := by
    apply Nat.lt_of_not_le
    intro hge
    simp [colAt, List.getElem?_eq_none hge] at h
  simp only [colAt] at h
  simp only [colAt, fillColumn, List.getElem?_map, List.getElem?_range hi, Option.map_some, Option.getD_some]
  rw [h]

theorem fillColumn_missing (m : FillMethod) (col : List Cell) (i : Nat) (hi : i < col.length) (h : colAt col i = none) :
    colAt (fillColumn m col) i = fillAt m col i := by
  simp only [colAt] at h
  simp only [colAt, fillColumn, List.getElem?_map, List.getElem?_range hi, Option.map_some, Option.getD_some]
  rw [h]

theorem nextObs_spec (col : List Cell) (i j : Nat) (h : nextObs col i = some j) :
    j < col.length ∧ i ≤ j ∧ colAt col j ≠ none ∧ ∀ j', i ≤ j' → j' < j → colAt col j' = none := by
  unfold nextObs at h
  obtain ⟨h1, h2, h3⟩ := head_filter_range _ _ _ h
  simp only [decide_eq_true_eq] at h2
  refine ⟨h1, h2.1, h2.2, fun j' hj1 hj2 => ?_⟩
  have := h3 j' hj2
  simp only [decide_eq_false_iff_not, not_and, ne_eq, Decidable.not_not] at this
  exact this hj1

theorem prevObs_spec (col : List Cell) (i j : Nat) (h : prevObs col i = some j) :
    j < col.length ∧ j ≤ i ∧ colAt col j ≠ none ∧ ∀ j', j < j' → j' ≤ i → j' < col.length → colAt col j' = none := by
  unfold prevObs at h
  obtain ⟨h1, h2, h3⟩ := last_filter_range _ _ _ h
  simp only [decide_eq_true_eq] at h2
  refine ⟨h1, h2.1, h2.2, fun j' hj1 hj2 hj3 => ?_⟩
  have := h3 j' hj1 hj3
  simp only [decide_eq_false_iff_not, not_and, ne_eq, Decidable.not_not] at this
  exact this hj2

theorem nextObs_none (col : List Cell) (i : Nat) (h : nextObs col i = none) :
    ∀ j, i ≤ j → j < col.length → colAt col j = none := by
  unfold nextObs at h
  rw [List.head?_eq_none_iff, List.filter_eq_nil_iff] at h
  intro j h1 h2
  have := h j (List.mem_range.mpr h2)
  simp only [decide_eq_true_eq, not_and, ne_eq, Decidable.not_not] at this
  exact this h1

theorem prevObs_none (col : List Cell) (i : Nat) (h : prevObs col i = none) :
    ∀ j, j ≤ i → j < col.length → colAt col j = none := by
  unfold prevObs at h
  rw [List.getLast?_eq_none_iff, List.filter_eq_nil_iff] at h
  intro j h1 h2
  have := h j (List.mem_range.mpr h2)
  simp only [decide_eq_true_eq, not_and, ne_eq, Decidable.not_not] at this
  exact this h1

/-- the column of variant `v` over the span `a, …, a+n-1`, as the fill functions see it -/
def spanCol (s : Series) (a : Int) (n v : Nat) : List Cell := (spanList a n).map (fun u => s.abs u v)

theorem colAt_spanCol (s : Series) (a : Int) (n v j : Nat) (h : j < n) : colAt (spanCol s a n v) j = s.abs (a + (j : Int)) v := by
  simp [colAt, spanCol, List.getElem?_map, spanList_get a n j h]

theorem length_spanCol (s : Series) (a : Int) (n v : Nat) : (spanCol s a n v).length = n := by simp [spanCol, spanList]

/-- every output of the recursion is one step from the outputs before it (most recent first) followed by the initial lags -/
theorem arRun_get (coeffs : List Rat) (c : Rat) : ∀ (n : Nat) (hist : List Cell) (k : Nat), k < n →
    (arRun coeffs c n hist)[k]? = some (arStep coeffs c (((arRun coeffs c n hist).take k).reverse ++ hist)) := by
  intro n
  induction n with
  | zero => intro hist k hk; omega
  | succ n ih =>
    intro hist k hk
    cases k with
    | zero => simp [arRun]
    | succ k =>
      simp only [arRun, List.getElem?_cons_succ, List.take_succ_cons, List.reverse_cons, List.append_assoc,
        List.singleton_append]
      exact ih _ k (by omega)

theorem length_arRun (coeffs : List Rat) (c : Rat) : ∀ (n : Nat) (hist : List Cell), (arRun coeffs c n hist).length = n := by
  intro n
  induction n with
  | zero => intro _; rfl
  | succ n ih => intro hist; simp [arRun, ih]

/-- the observed lags before period `a`, most recent first: `abs s (a-1) v, …, abs s (a-p) v` -/
def lagsBefore (s : Series) (a : Int) (p : Nat) (v : Nat) : List Cell :=
  ((List.range p).map (fun (i : Nat) => s.abs (a - (p : Int) + (i : Int)) v)).reverse

theorem cellAt_hstack {A B : List Row} {na : Nat} (hA : ∀ r ∈ A, r.length = na) {n i v : Nat} (hi : i < n)
    (hlA : A.length = n) :
    cellAt ((List.range n).map (fun i => [(A[i]?).getD [], (B[i]?).getD []].flatten)) i v =
      if v < na then cellAt A i v else cellAt B i (v - na) := by
  obtain ⟨ra, hra⟩ : ∃ ra, A[i]? = some ra := ⟨A[i]'(by omega), by simp⟩
  have lra := hA ra (List.mem_of_getElem? hra)
  unfold cellAt
  simp only [List.getElem?_map, List.getElem?_range hi, Option.map_some, hra, Option.getD_some, List.flatten_cons,
    List.flatten_nil, List.append_nil]
  split
  · rw [List.getElem?_append_left (by omega)]
  · rw [List.getElem?_append_right (by omega), lra]
    cases B[i]? <;> simp

end IrisVerif.Series
