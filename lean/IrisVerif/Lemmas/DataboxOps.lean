/-
Helper lemmas for property C19: look-ups in the dictionary primitives of IrisVerif/Model/Databox.lean and the closed forms of
the databox operations -- `lay` / `clip` as a map on the values, `popAll` / `assignAll` / `renamePairs` on distinct existing
names, `removeNames` as `popAll`, one step of `mergeOne`, `copy` on pairs of existing sources (what the operations make of
the names they select); a sequence of operations split in two.  Core Lean only, like the model.
-/
import IrisVerif.Model.Databox
import IrisVerif.Lemmas.Monads
import IrisVerif.Lemmas.Assoc

namespace IrisVerif.Databox
open IrisVerif.Dates (Err R)

/-- the databox's look-up is the shared one of `Lemmas/Assoc.lean` -/
theorem lookup_eq_get? {α : Type} (db : List (String × α)) (k : String) : lookup db k = Assoc.get? db k := by
  induction db with
  | nil => rfl
  | cons p rest ih =>
    obtain ⟨k', v⟩ := p
    rw [lookup, Assoc.get?_cons, ih]
    by_cases h : k' = k <;> simp [h]

theorem mem_keys_of_mem {α : Type} {db : List (String × α)} {p : String × α} (h : p ∈ db) : p.1 ∈ keys db :=
  List.mem_map_of_mem h

theorem lookup_some_mem {α : Type} {db : List (String × α)} {k : String} {v : α} (h : lookup db k = some v) :
    (k, v) ∈ db := Assoc.get?_eq_some_mem (lookup_eq_get? db k ▸ h)

theorem lookup_of_mem {α : Type} {db : List (String × α)} (hnd : (keys db).Nodup) {k : String} {v : α} (h : (k, v) ∈ db) :
    lookup db k = some v :=
  (lookup_eq_get? db k).trans (Assoc.get?_of_mem hnd h)

theorem lookup_eq_none {α : Type} {db : List (String × α)} {n : String} : lookup db n = none ↔ n ∉ keys db := by
  rw [lookup_eq_get?]
  exact Assoc.get?_eq_none_iff

theorem lookup_of_mem_keys {α : Type} (db : List (String × α)) (n : String) (h : n ∈ keys db) : ∃ v, lookup db n = some v :=
  Option.ne_none_iff_exists'.1 fun e => lookup_eq_none.1 e h

theorem lookup_map_val {α : Type} (h : String → α → α) (db : List (String × α)) (n : String) :
    lookup (db.map (fun p => (p.1, h p.1 p.2))) n = (lookup db n).map (h n) := by
  rw [lookup_eq_get?, lookup_eq_get?, Assoc.get?_map_val]

theorem lookup_filter_key {α : Type} (q : String → Bool) (db : List (String × α)) (n : String) :
    lookup (db.filter (fun p => q p.1)) n = if q n then lookup db n else none := by
  rw [lookup_eq_get?, lookup_eq_get?, Assoc.get?_filter_key]

theorem lookup_append {α : Type} (a b : List (String × α)) (n : String) :
    lookup (a ++ b) n = (lookup a n).or (lookup b n) := by
  rw [lookup_eq_get?, lookup_eq_get?, lookup_eq_get?, Assoc.get?_append]

theorem lookup_setKey {α : Type} (db : List (String × α)) (k n : String) (v : α) :
    lookup (setKey db k v) n = if k = n then some v else lookup db n := by
  induction db with
  | nil => rfl
  | cons p rest ih =>
    obtain ⟨k', v'⟩ := p
    rw [setKey]
    by_cases h : k' = k
    · subst h
      by_cases h2 : k' = n <;> simp [lookup, h2]
    · rw [if_neg h, lookup, lookup, ih]
      by_cases h2 : k' = n
      · subst h2; simp [Ne.symm h]
      · simp [h2]

theorem lookup_delKey {α : Type} (db : List (String × α)) (k n : String) :
    lookup (delKey db k) n = if n = k then none else lookup db n := by
  rw [delKey, lookup_filter_key (fun x => decide (x ≠ k))]
  by_cases h : n = k <;> simp [h]

theorem keys_delKey {α : Type} (db : List (String × α)) (k : String) : keys (delKey db k) = (keys db).filter (fun x => x ≠ k) := by
  simp only [keys, delKey, List.filter_map]
  rfl

theorem filter_delKey {α : Type} (T : List String) (db : List (String × α)) (k : String) :
    (delKey db k).filter (fun q => !T.contains q.1) = db.filter (fun q => !(k :: T).contains q.1) := by
  rw [delKey, List.filter_filter]
  refine List.filter_congr fun p _ => ?_
  by_cases h : p.1 = k <;> simp [h]

theorem setKey_of_not_mem {α : Type} (db : List (String × α)) (k : String) (v : α) (h : k ∉ keys db) :
    setKey db k v = db ++ [(k, v)] := by
  induction db with
  | nil => rfl
  | cons p rest ih =>
    obtain ⟨k', v'⟩ := p
    simp only [keys, List.map_cons, List.mem_cons, not_or] at h
    rw [setKey, if_neg (fun e => h.1 e.symm), ih h.2]
    rfl

theorem foldl_setKey_fresh {α : Type} (db l : List (String × α)) (hnd : (keys l).Nodup) (hf : ∀ p ∈ l, p.1 ∉ keys db) :
    l.foldl (fun acc p => setKey acc p.1 p.2) db = db ++ l := by
  induction l generalizing db with
  | nil => simp
  | cons p rest ih =>
    simp only [keys, List.map_cons, List.nodup_cons] at hnd
    rw [List.foldl_cons, setKey_of_not_mem db p.1 p.2 (hf p (by simp)), ih _ hnd.2]
    · simp
    · intro q hq hm
      simp only [keys, List.map_append, List.map_cons, List.map_nil, List.mem_append, List.mem_singleton] at hm
      rcases hm with hm | hm
      · exact hf q (List.mem_cons_of_mem _ hq) hm
      · exact hnd.1 (hm ▸ mem_keys_of_mem hq)

theorem dictOfList_nodup {α : Type} (l : List (String × α)) (h : (keys l).Nodup) : dictOfList l = l :=
  foldl_setKey_fresh [] l h (fun _ _ => by simp [keys])

theorem filterMap_congr_mem {α β : Type} (f g : α → Option β) (l : List α) (h : ∀ x ∈ l, f x = g x) :
    l.filterMap f = l.filterMap g := by
  induction l with
  | nil => rfl
  | cons a l ih =>
    simp only [List.filterMap_cons, h a (by simp), ih (fun x hx => h x (List.mem_cons_of_mem _ hx))]

section
variable {S V : Type}

/-! The right-hand sides of `lay_every_name`, `clip_every_name` and `merge_every_name` (Props/C19.lean). -/

/-- the item `_lay` leaves under a name -/
def layItem (o : SOps S) (f : S → S → S) (db other : Box S V) (ns : List String) (k : String) (v : Item S V) : Item S V :=
  if ns.contains k && layAct o db other k = .apply then
    match v, lookup other k with
    | .ser s, some (.ser t) => .ser (f s t)
    | _, _ => v
  else v

/-- the item `clip` leaves under a name -/
def clipItem (o : SOps S) (f : BFreq) (lo hi : Option Int) (v : Item S V) : Item S V :=
  match v with
  | .ser s => if o.freq s = f then .ser (o.clip s lo hi) else v
  | _ => v

/-- what `merge` binds a name to, given the old binding and the incoming one -/
def mergeSpec (o : SOps S) (st : Strategy) (old : Option (Item S V)) (new : Option (Item S V)) : Option (Item S V) :=
  match new, old with
  | none, x => x
  | some v, none => some v
  | some v, some w => mergeExisting o st w v

theorem lay_ok {o : SOps S} {f : S → S → S} {db other db' : Box S V} {names : Option (List String)} {strict : Bool}
    (h : lay o f db other names strict = .ok db') :
    db' = db.map fun p => (p.1, layItem o f db other (layNames db other names strict) p.1 p.2) := by
  dsimp only [lay] at h
  split at h
  · cases h
  · cases h
    refine List.map_congr_left fun ⟨k, v⟩ _ => ?_
    unfold layItem
    split
    · cases v with
      | ser s =>
        cases lookup other k with
        | none => rfl
        | some w => cases w <;> rfl
      | _ => rfl
    · rfl

theorem clip_eq (o : SOps S) (db : Box S V) (f : BFreq) {lo hi : Option Int} (hne : lo ≠ none ∨ hi ≠ none) :
    clip o db f lo hi = db.map fun p => (p.1, clipItem o f lo hi p.2) := by
  unfold clip
  split
  · simp at hne
  · refine List.map_congr_left fun ⟨k, v⟩ _ => ?_
    cases v with
    | ser s => simp only [clipItem]; split <;> rfl
    | _ => rfl

theorem popAll_eq (db : Box S V) (ns : List String) :
    popAll db ns = if ns.Nodup ∧ ∀ n ∈ ns, n ∈ keys db
      then .ok (db.filter (fun q => !ns.contains q.1), ns.filterMap (lookup db)) else .error .badInput := by
  induction ns generalizing db with
  | nil =>
    rw [popAll, if_pos ⟨List.nodup_nil, fun _ h => nomatch h⟩]
    exact congrArg (fun d => Except.ok (d, [])) (List.filter_eq_self.2 fun _ _ => rfl).symm
  | cons n rest ih =>
    rw [popAll]
    cases hv : lookup db n with
    | none => rw [if_neg fun h => lookup_eq_none.1 hv (h.2 n List.mem_cons_self)]; rfl
    | some v =>
      have hn : n ∈ keys db := mem_keys_of_mem (lookup_some_mem hv)
      have hc : (rest.Nodup ∧ ∀ m ∈ rest, m ∈ keys (delKey db n)) ↔ (n :: rest).Nodup ∧ ∀ m ∈ n :: rest, m ∈ keys db := by
        simp only [List.nodup_cons, keys_delKey, List.mem_filter, decide_eq_true_eq, List.forall_mem_cons, hn, true_and]
        constructor
        · intro h
          exact ⟨⟨fun hm => (h.2 n hm).2 rfl, h.1⟩, fun m hm => (h.2 m hm).1⟩
        · intro h
          exact ⟨h.1.2, fun m hm => ⟨h.2 m hm, fun e => h.1.1 (e ▸ hm)⟩⟩
      simp only [ih, hc]
      split
      · rename_i h
        have hl : ∀ m ∈ rest, lookup (delKey db n) m = lookup db m := fun m hm => by
          rw [lookup_delKey, if_neg fun e : m = n => (List.nodup_cons.1 h.1).1 (e ▸ hm)]
        rw [filter_delKey, List.filterMap_cons, hv, filterMap_congr_mem _ _ rest hl]
        rfl
      · rfl

theorem popAll_missing (db : Box S V) (ns : List String) (h : ∃ n ∈ ns, n ∉ keys db) : popAll db ns = .error .badInput := by
  obtain ⟨n, hn, hk⟩ := h
  rw [popAll_eq, if_neg fun hg => hk (hg.2 n hn)]

/-- `remove` deletes what `rename` pops, and raises when it raises -/
theorem removeNames_eq_popAll (db : Box S V) (ns : List String) : removeNames db ns = (popAll db ns).map (·.1) := by
  induction ns generalizing db with
  | nil => rfl
  | cons n rest ih =>
    unfold removeNames popAll
    by_cases hc : n ∈ keys db
    · obtain ⟨v, hv⟩ := lookup_of_mem_keys db n hc
      simp only [List.contains_eq_mem, hc, decide_true, if_true, hv, ih]
      cases popAll (delKey db n) rest <;> rfl
    · simp only [List.contains_eq_mem, hc, decide_false, lookup_eq_none.2 hc]
      rfl

theorem lookup_assignAll (db : Box S V) {l : List (String × Item S V)} (hnd : (keys l).Nodup) (k : String) :
    lookup (assignAll db l) k = (lookup l k).or (lookup db k) := by
  induction l generalizing db with
  | nil => rfl
  | cons p rest ih =>
    obtain ⟨k', v⟩ := p
    rw [keys, List.map_cons, List.nodup_cons] at hnd
    rw [assignAll, List.foldl_cons]
    refine (ih _ hnd.2).trans ?_
    rw [lookup_setKey, lookup]
    by_cases h : k' = k
    · subst h; simp [lookup_eq_none.2 hnd.1]
    · simp [h]

theorem zip_values (db : Box S V) (pairs : List (String × String)) (hin : ∀ p ∈ pairs, p.1 ∈ keys db) :
    (pairs.map (·.2)).zip ((pairs.map (·.1)).filterMap (lookup db))
      = pairs.filterMap (fun st => (lookup db st.1).map (fun v => (st.2, v))) := by
  induction pairs with
  | nil => rfl
  | cons p rest ih =>
    obtain ⟨v, hv⟩ := lookup_of_mem_keys db p.1 (hin p (by simp))
    simp only [List.map_cons, List.filterMap_cons, hv, Option.map_some, List.zip_cons_cons]
    rw [ih (fun q hq => hin q (List.mem_cons_of_mem _ hq))]

theorem keys_zip_values (db : Box S V) (pairs : List (String × String)) (hin : ∀ p ∈ pairs, p.1 ∈ keys db) :
    keys (pairs.filterMap (fun st => (lookup db st.1).map (fun v => (st.2, v)))) = pairs.map (·.2) := by
  induction pairs with
  | nil => rfl
  | cons p rest ih =>
    obtain ⟨v, hv⟩ := lookup_of_mem_keys db p.1 (hin p (by simp))
    simp only [List.filterMap_cons, hv, Option.map_some, keys, List.map_cons]
    have := ih (fun q hq => hin q (List.mem_cons_of_mem _ hq))
    simp only [keys] at this
    rw [this]

theorem renamePairs_eq (db : Box S V) (pairs : List (String × String))
    (hs : (pairs.map (·.1)).Nodup) (hin : ∀ p ∈ pairs, p.1 ∈ keys db) :
    renamePairs db pairs = .ok (assignAll (db.filter (fun q => !(pairs.map (·.1)).contains q.1))
      (pairs.filterMap (fun st => (lookup db st.1).map (fun v => (st.2, v))))) := by
  rw [renamePairs, popAll_eq, if_pos ⟨hs, List.forall_mem_map.2 hin⟩, ← zip_values db pairs hin]
  rfl

theorem renamePairs_fresh (db : Box S V) (pairs : List (String × String))
    (hs : (pairs.map (·.1)).Nodup) (hin : ∀ p ∈ pairs, p.1 ∈ keys db)
    (ht : (pairs.map (·.2)).Nodup) (hfresh : ∀ p ∈ pairs, p.2 ∉ keys db) :
    renamePairs db pairs = .ok (db.filter (fun q => !(pairs.map (·.1)).contains q.1)
      ++ pairs.filterMap (fun st => (lookup db st.1).map (fun v => (st.2, v)))) := by
  have hk := keys_zip_values db pairs hin
  rw [renamePairs_eq db pairs hs hin, assignAll, foldl_setKey_fresh _ _ (hk ▸ ht)]
  intro p hp hm
  have hp2 : p.1 ∈ pairs.map (·.2) := hk ▸ mem_keys_of_mem hp
  obtain ⟨q, hq, hqe⟩ := List.mem_map.1 hp2
  obtain ⟨x, hx, hxe⟩ := List.mem_map.1 hm
  have : p.1 ∈ keys db := hxe ▸ mem_keys_of_mem (List.mem_filter.1 hx).1
  exact hfresh q hq (hqe ▸ this)

theorem renamePairs_simultaneous (db : Box S V) (pairs : List (String × String))
    (hs : (pairs.map (·.1)).Nodup) (hin : ∀ p ∈ pairs, p.1 ∈ keys db) (ht : (pairs.map (·.2)).Nodup) :
    ∃ r, renamePairs db pairs = .ok r
      ∧ (∀ p ∈ pairs, lookup r p.2 = lookup db p.1)
      ∧ (∀ n, n ∉ pairs.map (·.2) → lookup r n = if n ∈ pairs.map (·.1) then none else lookup db n) := by
  have hk := keys_zip_values db pairs hin
  have hnd : (keys (pairs.filterMap fun st => (lookup db st.1).map fun v => (st.2, v))).Nodup := hk ▸ ht
  refine ⟨_, renamePairs_eq db pairs hs hin, fun p hp => ?_, fun n hn => ?_⟩
  · obtain ⟨v, hv⟩ := lookup_of_mem_keys db p.1 (hin p hp)
    rw [lookup_assignAll _ hnd, hv, lookup_of_mem hnd (List.mem_filterMap.2 ⟨p, hp, by rw [hv]; rfl⟩)]
    rfl
  · rw [lookup_assignAll _ hnd, lookup_eq_none.2 (hk ▸ hn), lookup_filter_key (fun k => !(pairs.map (·.1)).contains k)]
    by_cases hm : n ∈ pairs.map (·.1) <;> simp [hm]

theorem mergeOne_cons {o : SOps S} {st : Strategy} {db r : Box S V} {k : String} {v : Item S V} {rest : Box S V} {dup : Bool}
    (h : mergeOne o st db ((k, v) :: rest) = .ok (r, dup)) :
    ∃ w dup', mergeSpec o st (lookup db k) (some v) = some w ∧ mergeOne o st (setKey db k w) rest = .ok (r, dup') := by
  rw [mergeOne] at h
  cases hl : lookup db k with
  | none =>
    simp only [hl] at h
    exact ⟨v, dup, rfl, by rwa [setKey_of_not_mem db k v (lookup_eq_none.1 hl)]⟩
  | some old =>
    simp only [hl] at h
    cases hm : mergeExisting o st old v with
    | none => simp only [hm] at h; cases h
    | some w =>
      simp only [hm] at h
      obtain ⟨⟨r', d'⟩, hr, e⟩ := Except.bind_eq_ok.1 h
      cases e
      exact ⟨w, d', hm, hr⟩

theorem lookup_keep_names (db : Box S V) (l : List String) (n : String) :
    lookup (keep db (some (.names l)) false) n = if n ∈ l then lookup db n else none := by
  refine (lookup_filter_key (fun k => (resolveSources (keys db) (.names l) false).contains k) db n).trans ?_
  by_cases hk : n ∈ keys db
  · simp [resolveSources, Sel.resolve, hk]
  · simp [resolveSources, Sel.resolve, hk, lookup_eq_none.2 hk]

theorem copy_pairs {db : Box S V} {ps : List (String × String)} (hs : (ps.map (·.1)).Nodup) (hin : ∀ p ∈ ps, p.1 ∈ keys db)
    (ht : (ps.map (·.2)).Nodup) :
    ∃ r, (do let db1 ← rename db (Sel.names (ps.map (·.1))) (Tgt.names (ps.map (·.2))) false
             pure (keep db1 (some (Sel.names (ps.map (·.2)))) false) : R (Box S V)) = .ok r
      ∧ (∀ p ∈ ps, lookup r p.2 = lookup db p.1) ∧ ∀ n, n ∉ ps.map (·.2) → lookup r n = none := by
  -- re-resolving the already resolved tuples gives the same pairs
  have hps : resolvePairs (keys db) (.names (ps.map (·.1))) (.names (ps.map (·.2))) false = ps := by
    show List.filter _ (List.zip (List.map _ _) (List.map _ _)) = _
    rw [← List.zip_of_prod rfl rfl]
    exact List.filter_eq_self.2 fun p hp => List.contains_iff_mem.2 (hin p hp)
  obtain ⟨r, h, h1, -⟩ := renamePairs_simultaneous db ps hs hin ht
  refine ⟨_, by rw [rename, hps, h]; rfl, fun p hp => ?_, fun n hn => ?_⟩
  · rw [lookup_keep_names, if_pos (List.mem_map_of_mem hp), h1 p hp]
  · rw [lookup_keep_names, if_neg hn]

theorem applyOps_append (o : SOps S) (db : Box S V) (ops1 ops2 : List (Op S V)) :
    applyOps o db (ops1 ++ ops2) = (applyOps o db ops1 >>= fun d => applyOps o d ops2) := by
  induction ops1 generalizing db with
  | nil => rfl
  | cons op rest ih =>
    simp only [List.cons_append, applyOps]
    cases h : applyOp o db op with
    | error e => rfl
    | ok d1 => exact ih d1

end

end IrisVerif.Databox
