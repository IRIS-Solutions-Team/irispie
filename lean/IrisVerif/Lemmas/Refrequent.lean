/-
Regular periods (yearly, half-yearly, quarterly, monthly). A year has `f.value` segments of `12 / f.value` months each,
and the period with serial `s` is segment `s % f.value + 1` of year `s / f.value`. This file says in closed form what
`to_year_segment`, `from_year_segment`, `to_ymd`, `from_ymd` and the generated month/day tables compute on them; the
tables themselves are opened in `mdAt_spec` only.
-/
import IrisVerif.Lemmas.Calendar

namespace IrisVerif.Dates
open IrisVerif.Gen.Dates

theorem isRegular_cases {f : Freq} (hf : f.isRegular = true) : f = .Y ∨ f = .H ∨ f = .Q ∨ f = .M := by
  cases f <;> simp [Freq.isRegular] at hf ⊢

/-- With `f` abstract, `simp only [h, Int.reduceDiv]` over these four cases turns `f.value` and the months per segment
`12 / f.value` into numerals, after which the segment arithmetic is linear. -/
theorem regular_value {f : Freq} (hf : f.isRegular = true) :
    f.value = 1 ∨ f.value = 2 ∨ f.value = 4 ∨ f.value = 12 := by
  rcases isRegular_cases hf with rfl | rfl | rfl | rfl <;> decide

theorem segment_range {f : Freq} (hf : f.isRegular = true) (s : Int) :
    1 ≤ s % f.value + 1 ∧ s % f.value + 1 ≤ f.value := by
  rcases regular_value hf with h | h | h | h <;> rw [h] <;> omega

/-- Segment `s % f.value + 1` is the months `s % f.value * c + 1 … (s % f.value + 1) * c` of the year, `c = 12 / f.value`. -/
theorem segment_months {f : Freq} (hf : f.isRegular = true) (s : Int) :
    0 ≤ s % f.value * (12 / f.value) ∧ s % f.value * (12 / f.value) < (s % f.value + 1) * (12 / f.value) ∧
      (s % f.value + 1) * (12 / f.value) ≤ 12 := by
  rcases regular_value hf with h | h | h | h <;> simp only [h, Int.reduceDiv] <;> omega

theorem segment_last_month {f : Freq} (hf : f.isRegular = true) (s : Int) :
    (s % f.value + 1 < f.value → (s % f.value + 1) * (12 / f.value) ≤ 11) ∧
      (s % f.value + 1 = f.value → (s % f.value + 1) * (12 / f.value) = 12) := by
  rcases regular_value hf with h | h | h | h <;> simp only [h, Int.reduceDiv] <;> omega

theorem regular_value_pos {f : Freq} (hf : f.isRegular = true) : 0 < f.value := by
  rcases regular_value hf with h | h | h | h <;> rw [h] <;> decide

theorem regular_months {f : Freq} (hf : f.isRegular = true) : f.value * (12 / f.value) = 12 := by
  rcases regular_value hf with h | h | h | h <;> rw [h] <;> decide

theorem ratio_pos {f f' : Freq} (hf : f.isRegular = true) (hf' : f'.isRegular = true) {r : Int}
    (hr : f'.value = r * f.value) : 0 < r :=
  Int.pos_of_mul_pos_left (hr ▸ regular_value_pos hf') (regular_value_pos hf)

theorem succ_serial {f : Freq} (hf : f.isRegular = true) (s : Int) :
    s % f.value + 1 < f.value ∧ (s + 1) / f.value = s / f.value ∧ (s + 1) % f.value = s % f.value + 1 ∨
    s % f.value + 1 = f.value ∧ (s + 1) / f.value = s / f.value + 1 ∧ (s + 1) % f.value = 0 := by
  rcases regular_value hf with h | h | h | h <;> simp only [h] <;> omega

theorem toYearSegment_regular {f : Freq} (hf : f.isRegular = true) (s : Int) :
    toYearSegment ⟨f, s⟩ = .ok (s / f.value, s % f.value + 1) := by
  have hk := Int.le_of_lt (regular_value_pos hf)
  rw [← Int.fdiv_eq_ediv_of_nonneg s hk, ← Int.fmod_eq_emod_of_nonneg s hk]
  rcases isRegular_cases hf with rfl | rfl | rfl | rfl <;> rfl

theorem fromYearSegment_regular {f : Freq} (hf : f.isRegular = true) (y seg : Int) :
    fromYearSegment f y seg = ⟨f, y * f.value + seg - 1⟩ := by
  rcases isRegular_cases hf with rfl | rfl | rfl | rfl <;> rfl

theorem fromYearSegment_div_mod {f : Freq} (hf : f.isRegular = true) (s : Int) :
    fromYearSegment f (s / f.value) (s % f.value + 1) = ⟨f, s⟩ := by
  rw [fromYearSegment_regular hf, ← Int.add_assoc, Int.add_sub_cancel, Int.ediv_mul_add_emod]

theorem serial_of_segment {f : Freq} (hf : f.isRegular = true) (y : Int) {seg : Int} (h1 : 1 ≤ seg) (h2 : seg ≤ f.value) :
    (y * f.value + seg - 1) / f.value = y ∧ (y * f.value + seg - 1) % f.value + 1 = seg := by
  rcases regular_value hf with h | h | h | h <;> simp only [h] at h2 ⊢ <;> omega

theorem fromYmd_regular {f : Freq} (hf : f.isRegular = true) (y m d : Int) :
    fromYmd f y m d = .ok ⟨f, y * f.value + monthToSegment f m - 1⟩ := by
  rw [← fromYearSegment_regular hf]
  rcases isRegular_cases hf with rfl | rfl | rfl | rfl <;> rfl

theorem monthToSegment_eq {f : Freq} (hf : f.isRegular = true) {m : Int} (h1 : 1 ≤ m) (h2 : m ≤ 12) :
    monthToSegment f m = (m - 1) / (12 / f.value) + 1 := by
  have e (n : Int) (hn : 0 ≤ n) : (m - 1).fdiv n = (m - 1) / n := Int.fdiv_eq_ediv_of_nonneg _ hn
  rcases isRegular_cases hf with rfl | rfl | rfl | rfl <;>
    simp only [monthToSegment, monthToSegmentY, monthToSegmentH, monthToSegmentQ, monthToSegmentM, Freq.value,
      freqYearly, freqHalfyearly, freqQuarterly, freqMonthly, e 6 (by decide), e 3 (by decide), Int.reduceDiv] <;> omega

theorem month_in_segment {f : Freq} (hf : f.isRegular = true) {m r : Int} (h1 : 1 ≤ m) (h2 : m ≤ 12) :
    monthToSegment f m = r + 1 ↔ r * (12 / f.value) < m ∧ m ≤ (r + 1) * (12 / f.value) := by
  rw [monthToSegment_eq hf h1 h2]
  rcases regular_value hf with k | k | k | k <;> simp only [k, Int.reduceDiv] <;> omega

theorem monthToSegment_range {f : Freq} (hf : f.isRegular = true) {m : Int} (h1 : 1 ≤ m) (h2 : m ≤ 12) :
    1 ≤ monthToSegment f m ∧ monthToSegment f m ≤ f.value := by
  rw [monthToSegment_eq hf h1 h2]
  rcases regular_value hf with h | h | h | h <;> simp only [h, Int.reduceDiv] <;> omega

/-- (month, day?) of a segment at a position, from the generated tables -/
def mdAt (f : Freq) (pos : Pos) (seg : Int) : Option (Int × Option Int) := lookupSeg (mdrTable f pos) seg

/-- The rows of an in-range segment: it starts on the 1st of its first month, ends on the last day of its last month,
and its middle is a valid day of one of its months. `y` is the year whose month lengths bound the middle day and stand in
for an end day that the table leaves open. -/
theorem mdAt_spec {f : Freq} (hf : f.isRegular = true) {seg : Int} (h1 : 1 ≤ seg) (h2 : seg ≤ f.value) (y : Int) :
    mdAt f .start seg = some ((seg - 1) * (12 / f.value) + 1, some 1) ∧
    (∃ m d, mdAt f .middle seg = some (m, some d) ∧ (seg - 1) * (12 / f.value) < m ∧ m ≤ seg * (12 / f.value) ∧
      1 ≤ d ∧ d ≤ daysInMonth y m) ∧
    (∃ od, mdAt f .end_ seg = some (seg * (12 / f.value), od) ∧
      od.getD (daysInMonth y (seg * (12 / f.value))) = daysInMonth y (seg * (12 / f.value))) := by
  rcases isRegular_cases hf with rfl | rfl | rfl | rfl <;>
    simp only [Freq.value, freqYearly, freqHalfyearly, freqQuarterly, freqMonthly] at h2 ⊢
  -- for each segment the `rfl`s read its three rows off the generated tables; what is left compares their days with
  -- the month table
  · obtain rfl : seg = 1 := by omega
    refine ⟨rfl, ⟨_, _, rfl, ?_⟩, ⟨_, rfl, ?_⟩⟩ <;> simp [daysInMonth]
  · obtain rfl | rfl : seg = 1 ∨ seg = 2 := by omega
    all_goals refine ⟨rfl, ⟨_, _, rfl, ?_⟩, ⟨_, rfl, ?_⟩⟩ <;> simp [daysInMonth]
  · obtain rfl | rfl | rfl | rfl : seg = 1 ∨ seg = 2 ∨ seg = 3 ∨ seg = 4 := by omega
    all_goals refine ⟨rfl, ⟨_, _, rfl, ?_⟩, ⟨_, rfl, ?_⟩⟩ <;> simp [daysInMonth]
    -- left over: the 15th is a day of February, leap year or not
    split <;> omega
  · obtain rfl | rfl | rfl | rfl | rfl | rfl | rfl | rfl | rfl | rfl | rfl | rfl :
        seg = 1 ∨ seg = 2 ∨ seg = 3 ∨ seg = 4 ∨ seg = 5 ∨ seg = 6 ∨ seg = 7 ∨ seg = 8 ∨ seg = 9 ∨ seg = 10 ∨
          seg = 11 ∨ seg = 12 := by omega
    all_goals refine ⟨rfl, ⟨_, _, rfl, ?_⟩, ⟨_, rfl, ?_⟩⟩ <;> simp [daysInMonth]
    -- left over: the 15th is a day of February, leap year or not
    split <;> omega

def MdOk (f : Freq) (pos : Pos) (seg y : Int) : Prop :=
  match mdAt f pos seg with
  | some (m, od) => 1 ≤ m ∧ m ≤ 12 ∧ monthToSegment f m = seg ∧ ValidYmd y m (od.getD (daysInMonth y m))
  | none => False

theorem MdOk.exists {f : Freq} {pos : Pos} {seg y : Int} (h : MdOk f pos seg y) :
    ∃ m od, mdAt f pos seg = some (m, od) ∧ 1 ≤ m ∧ m ≤ 12 ∧ monthToSegment f m = seg ∧
      ValidYmd y m (od.getD (daysInMonth y m)) := by
  unfold MdOk at h
  split at h
  · rename_i m od heq; exact ⟨m, od, heq, h⟩
  · exact h.elim

theorem toYmd_regular {f : Freq} (hf : f.isRegular = true) (s : Int) (pos : Pos) {m : Int} {od : Option Int}
    (h : mdAt f pos (s % f.value + 1) = some (m, od)) :
    toYmd ⟨f, s⟩ pos = .ok (s / f.value, m, od.getD (daysInMonth (s / f.value) m)) := by
  have hys := toYearSegment_regular hf s
  unfold mdAt at h
  rcases isRegular_cases hf with rfl | rfl | rfl | rfl <;>
    simp only [toYmd, hys, h, bind, Except.bind] <;> cases od <;> rfl

theorem toYmd_start {f : Freq} (hf : f.isRegular = true) (s : Int) :
    toYmd ⟨f, s⟩ .start = .ok (s / f.value, s % f.value * (12 / f.value) + 1, 1) := by
  obtain ⟨h1, h2⟩ := segment_range hf s
  rw [toYmd_regular hf s .start (mdAt_spec hf h1 h2 0).1, Int.add_sub_cancel]; rfl

theorem toYmd_end {f : Freq} (hf : f.isRegular = true) (s : Int) :
    toYmd ⟨f, s⟩ .end_ = .ok (s / f.value, (s % f.value + 1) * (12 / f.value),
      daysInMonth (s / f.value) ((s % f.value + 1) * (12 / f.value))) := by
  obtain ⟨h1, h2⟩ := segment_range hf s
  obtain ⟨od, hod, hd⟩ := (mdAt_spec hf h1 h2 (s / f.value)).2.2
  rw [toYmd_regular hf s .end_ hod, hd]

theorem toYmd_middle {f : Freq} (hf : f.isRegular = true) (s : Int) :
    ∃ m d, toYmd ⟨f, s⟩ .middle = .ok (s / f.value, m, d) ∧ s % f.value * (12 / f.value) < m ∧
      m ≤ (s % f.value + 1) * (12 / f.value) ∧ 1 ≤ d ∧ d ≤ daysInMonth (s / f.value) m := by
  obtain ⟨h1, h2⟩ := segment_range hf s
  obtain ⟨m, d, hmd, lo, hi, d1, d2⟩ := (mdAt_spec hf h1 h2 (s / f.value)).2.1
  rw [Int.add_sub_cancel] at lo
  exact ⟨m, d, toYmd_regular hf s .middle hmd, lo, hi, d1, d2⟩

/-- `to_ymd` at any position: a valid date of the period's own year, in one of the months of its segment. -/
theorem toYmd_spec {f : Freq} (hf : f.isRegular = true) (s : Int) (pos : Pos) :
    ∃ m d, toYmd ⟨f, s⟩ pos = .ok (s / f.value, m, d) ∧ ValidYmd (s / f.value) m d ∧
      s % f.value * (12 / f.value) < m ∧ m ≤ (s % f.value + 1) * (12 / f.value) ∧
      monthToSegment f m = s % f.value + 1 := by
  obtain ⟨c0, c1, c12⟩ := segment_months hf s
  obtain ⟨m, d, hymd, lo, hi, d1, d2⟩ : ∃ m d, toYmd ⟨f, s⟩ pos = .ok (s / f.value, m, d) ∧
      s % f.value * (12 / f.value) < m ∧ m ≤ (s % f.value + 1) * (12 / f.value) ∧ 1 ≤ d ∧
      d ≤ daysInMonth (s / f.value) m := by
    cases pos
    · have := daysInMonth_pos (s / f.value) (s % f.value * (12 / f.value) + 1)
      exact ⟨_, _, toYmd_start hf s, by omega, by omega, by omega, by omega⟩
    · exact toYmd_middle hf s
    · have := daysInMonth_pos (s / f.value) ((s % f.value + 1) * (12 / f.value))
      exact ⟨_, _, toYmd_end hf s, by omega, by omega, by omega, by omega⟩
  have m1 : 1 ≤ m := by omega
  have m12 : m ≤ 12 := by omega
  exact ⟨m, d, hymd, ⟨m1, m12, d1, d2⟩, lo, hi, (month_in_segment hf m1 m12).2 ⟨lo, hi⟩⟩

/-- `f'` is at least as fine as `f` (regular frequencies): its value is a multiple -/
def FinerOrEq (f f' : Freq) : Prop := f.value ∣ f'.value

/-! ### The outcomes of `Period.shift` (every frequency with a year/segment decomposition) -/

theorem toYearSegment_ok (f : Freq) (hf : f ≠ .I) (t : Int) : ∃ ys, toYearSegment ⟨f, t⟩ = .ok ys := by
  cases f with
  | I => exact absurd rfl hf
  | _ => exact ⟨_, rfl⟩

theorem shift_noPeriod (p : Period) (by_ : ShiftBy) (h : p.shift by_ = .error .noPeriod) : by_ = .tty := by
  obtain ⟨f, t⟩ := p
  cases by_ with
  | tty => rfl
  | by_ k => cases h
  | yoy => cases h
  | soy => cases f <;> cases h
  | eopy => cases f <;> cases h

theorem shift_ok_or_noPeriod (f : Freq) (hf : f ≠ .I) (t : Int) (by_ : ShiftBy) :
    (∃ q, Period.shift ⟨f, t⟩ by_ = .ok q) ∨ Period.shift ⟨f, t⟩ by_ = .error .noPeriod := by
  obtain ⟨ys, hys⟩ := toYearSegment_ok f hf t
  cases by_ with
  | by_ k => exact .inl ⟨_, rfl⟩
  | yoy => exact .inl ⟨_, rfl⟩
  | soy =>
    rw [Period.shift, createSoy, hys]
    exact .inl ⟨_, rfl⟩
  | eopy =>
    rw [Period.shift, createEopy, hys]
    cases f <;> exact .inl ⟨_, rfl⟩
  | tty =>
    rw [Period.shift, createTty, hys]
    by_cases hs : ys.2 > 1
    · exact .inl ⟨_, if_pos hs⟩
    · exact .inr (if_neg hs)

end IrisVerif.Dates
