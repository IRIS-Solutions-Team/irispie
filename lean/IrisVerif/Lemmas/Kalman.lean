/-
The Kalman recursion of `IrisVerif/Model/Kalman.lean` (= `fords/kalmans.py`) written over Mathlib matrices, any
commutative ring `K` in which 2 is invertible, with the set of observed measurement rows depending on the period
(`p t` is the index type of the rows observed in period `t`: any missing-data pattern).  Same operation structure as the
executable model: the same `symmetrize` calls, `G = Q0 (Zᵀ Fi)`, `Q1 = symm (Q0 - G Z Q0)`, `L = T - T G Z`, backward
recursion for `r`.  The inverse `Fi t` is an input, as in the executable model where `QMat.inverse` re-checks
`F * Fi = 1` exactly; theorems that need it take `F t * Fi t = 1` as a hypothesis.
Vectors are matrices with an arbitrary column index type `k` (`k = Unit` for one data set).
The `None` branches of `one_step_back` (no `r` yet) coincide with `r = 0` in the formulas below, and its guard `active`
(`t ≤` last period with observations) is the sample length `N` of `r N`, `Nm N`: from `N` on both are 0 (`r_of_ge`, `Nm_of_ge`),
so `a2 = a0`, `u2 = u0` there, as in the inactive branch.
The symmetry facts and one step of `one_step_back` (`backward_step_*`, `predicted_step_transition`) stand before `symm`, without
`⅟2` and for arbitrary matrices: Props/C07.lean calls them over a ring in which 2 need not be invertible.  The definitions
(`symm`, `Inputs`, `state`, `r`, `Nm`, `a2 u2 w2 Q2`, `sim`) are what Props/C03.lean and Props/C08.lean are about; the lemmas after them
say what the definitions compute under `Inputs.Regular` and how one backward step acts on a row block.
-/
import Mathlib.Data.Matrix.Mul
import Mathlib.Algebra.Group.Invertible.Defs
import Mathlib.Tactic.Abel

open Matrix

set_option linter.unusedSectionVars false

namespace IrisVerif.KalmanAbs

variable {n q w k : Type} [Fintype n] [Fintype q] [Fintype w] [Fintype k] [DecidableEq n] [DecidableEq q] [DecidableEq w]
variable {K : Type} [CommRing K]

theorem transpose_pushforward {a b c : Type} [Fintype b] [Fintype c] (A : Matrix a b K) (X : Matrix b b K)
    (B : Matrix a c K) (Y : Matrix c c K) (hX : Xᵀ = X) (hY : Yᵀ = Y) :
    (A * X * Aᵀ + B * Y * Bᵀ)ᵀ = A * X * Aᵀ + B * Y * Bᵀ := by
  simp only [Matrix.transpose_add, Matrix.transpose_mul, Matrix.transpose_transpose, hX, hY, Matrix.mul_assoc]

theorem mul_transpose_L {a b c : Type} [Fintype a] [Fintype b] (T : Matrix a a K) (G : Matrix a b K) (Z : Matrix b a K)
    (X : Matrix c a K) : X * (T - T * G * Z)ᵀ = (X - X * (Zᵀ * Gᵀ)) * Tᵀ := by
  rw [Matrix.transpose_sub, Matrix.transpose_mul, Matrix.transpose_mul, Matrix.mul_sub, Matrix.sub_mul]
  simp only [Matrix.mul_assoc]

theorem gain_transpose {a b : Type} [Fintype a] [Fintype b] (Q0 : Matrix a a K) (Z : Matrix b a K) (Fi : Matrix b b K)
    (hQ : Q0ᵀ = Q0) (hFi : Fiᵀ = Fi) : (Q0 * (Zᵀ * Fi))ᵀ = Fi * Z * Q0 := by
  rw [Matrix.transpose_mul, Matrix.transpose_mul, Matrix.transpose_transpose, hQ, hFi]

theorem updated_mse_symm {a b : Type} [Fintype a] [Fintype b] (Q0 : Matrix a a K) (Z : Matrix b a K) (Fi : Matrix b b K)
    (hQ : Q0ᵀ = Q0) (hFi : Fiᵀ = Fi) : (Q0 - Q0 * (Zᵀ * Fi) * Z * Q0)ᵀ = Q0 - Q0 * (Zᵀ * Fi) * Z * Q0 := by
  simp only [Matrix.transpose_sub, Matrix.transpose_mul, Matrix.transpose_transpose, hQ, hFi, Matrix.mul_assoc]

theorem inverse_symm {a : Type} [Fintype a] [DecidableEq a] (F Fi : Matrix a a K) (hF : Fᵀ = F) (h1 : F * Fi = 1) : Fiᵀ = Fi :=
  left_inv_eq_right_inv (by rw [← Matrix.transpose_one, ← h1, Matrix.transpose_mul, hF]) h1

/-! One step of `one_step_back`, for arbitrary matrices: `G` is the gain, `rn` whatever the later periods hand back, and of the
symmetry of `Q0`, `Fi` only `Gᵀ = Fi Z Q0` is used. -/
section backwardStep
variable {a b c d e : Type} [Fintype a] [Fintype b] [Fintype c] [Fintype d] [DecidableEq b]

section measurement
variable (T : Matrix a a K) (Z : Matrix b a K) (H : Matrix b c K) (Q0 : Matrix a a K) (Sw : Matrix c c K)
  (F Fi : Matrix b b K) (G : Matrix a b K) (a0 rn : Matrix a e K) (w0 : Matrix c e K) (y D pe : Matrix b e K)

/-- what the smoothed state and measurement shocks give on the observed rows, for ANY matrix `G` in `L = T - T G Z`: the data, plus
what `rn` leaves (nothing when `rn = 0`, the branch `r is None`) -/
theorem backward_step_observed (hS : Swᵀ = Sw) (hF : F = Z * Q0 * Zᵀ + H * Sw * Hᵀ) (hFi : F * Fi = 1)
    (hpe : pe = y - (Z * a0 + D + H * w0)) :
    Z * (a0 + Q0 * (Zᵀ * Fi * pe + (T - T * G * Z)ᵀ * rn)) + H * (w0 + (H * Sw)ᵀ * (Fi * pe - (T * G)ᵀ * rn)) + D
      = y + (Z * Q0 * (T - T * G * Z)ᵀ - H * Sw * Hᵀ * Gᵀ * Tᵀ) * rn := by
  have hFpe : (Z * Q0 * Zᵀ + H * Sw * Hᵀ) * (Fi * pe) = pe := by
    rw [← hF, ← Matrix.mul_assoc, hFi, Matrix.one_mul]
  calc _ = (Z * a0 + D + H * w0) + (Z * Q0 * Zᵀ + H * Sw * Hᵀ) * (Fi * pe)
        + (Z * Q0 * (T - T * G * Z)ᵀ - H * Sw * Hᵀ * Gᵀ * Tᵀ) * rn := by
        simp only [Matrix.mul_add, Matrix.mul_sub, Matrix.add_mul, Matrix.sub_mul, Matrix.transpose_mul, hS, Matrix.mul_assoc]
        abel
    _ = _ := by rw [hFpe, hpe, add_sub_cancel]

/-- the smoothed state and measurement shocks reproduce the observed rows: with the gain for `G`, `F Fi = 1` makes the `rn`-terms
cancel -/
theorem backward_step_measurement (hS : Swᵀ = Sw) (hF : F = Z * Q0 * Zᵀ + H * Sw * Hᵀ) (hFi : F * Fi = 1) (hGT : Gᵀ = Fi * Z * Q0)
    (hpe : pe = y - (Z * a0 + D + H * w0)) :
    Z * (a0 + Q0 * (Zᵀ * Fi * pe + (T - T * G * Z)ᵀ * rn)) + H * (w0 + (H * Sw)ᵀ * (Fi * pe - (T * G)ᵀ * rn)) + D = y := by
  -- `F Fi = 1` applied to `Z Q₀`: what `Z Q₀ Lᵀ` leaves is carried by the measurement shocks
  have h1 : Z * Q0 - Z * Q0 * Zᵀ * Gᵀ = H * Sw * Hᵀ * Gᵀ := by
    rw [sub_eq_iff_eq_add, ← Matrix.add_mul, add_comm, ← hF, hGT, Matrix.mul_assoc Fi, ← Matrix.mul_assoc F, hFi,
      Matrix.one_mul]
  have hL : Z * Q0 * (T - T * G * Z)ᵀ = H * Sw * Hᵀ * Gᵀ * Tᵀ := by
    rw [mul_transpose_L, ← Matrix.mul_assoc, h1]
  rw [backward_step_observed T Z H Q0 Sw F Fi G a0 rn w0 y D pe hS hF hFi hpe, hL, sub_self, Matrix.zero_mul, add_zero]

end measurement

omit [DecidableEq b] [Fintype b] [Fintype c] in
/-- the prediction half of the transition identity: from ANY pair `(a, Q)` handed over, the predicted moments corrected by `r` are
the transition equation applied to `a + Q Tᵀ r` and the smoothed shocks -/
theorem predicted_step_transition (T : Matrix a a K) (P : Matrix a d K) (S : Matrix d d K) (Kc a1 : Matrix a e K)
    (u0 : Matrix d e K) (Q : Matrix a a K) (r : Matrix a e K) (hS : Sᵀ = S) :
    T * a1 + Kc + P * u0 + (T * Q * Tᵀ + P * S * Pᵀ) * r = T * (a1 + Q * Tᵀ * r) + Kc + P * (u0 + (P * S)ᵀ * r) := by
  simp only [Matrix.transpose_mul, hS, Matrix.mul_add, Matrix.add_mul, Matrix.mul_assoc]
  abel

omit [DecidableEq b] in
/-- the smoothed states and transition shocks of consecutive periods satisfy the transition equation (no inverse is used): with
`Q1 = Q0 - G Z Q0`, next-period `Q0' = T Q1 Tᵀ + P Σ Pᵀ` and `a0' = T (a0 + G pe) + K + P u0'` -/
theorem backward_step_transition (T : Matrix a a K) (P : Matrix a d K) (Kc a0 a0' : Matrix a e K) (Q0 Q0' Q1 : Matrix a a K)
    (Z : Matrix b a K) (Fi : Matrix b b K) (G : Matrix a b K) (Su' : Matrix d d K) (pe : Matrix b e K)
    (u0' : Matrix d e K) (r' : Matrix a e K)
    (hG : G = Q0 * (Zᵀ * Fi)) (hGT : Gᵀ = Fi * Z * Q0) (hQ1 : Q1 = Q0 - G * Z * Q0)
    (hQ0' : Q0' = T * Q1 * Tᵀ + P * Su' * Pᵀ) (ha0' : a0' = T * (a0 + G * pe) + Kc + P * u0') (hSu : Su'ᵀ = Su') :
    a0' + Q0' * r' = T * (a0 + Q0 * (Zᵀ * Fi * pe + (T - T * G * Z)ᵀ * r')) + Kc + P * (u0' + (P * Su')ᵀ * r') := by
  have e1 : Q0 * (Zᵀ * Fi * pe) = G * pe := by
    rw [hG, Matrix.mul_assoc Q0]
  have e2 : Q0 * ((T - T * G * Z)ᵀ * r') = Q1 * Tᵀ * r' := by
    rw [← Matrix.mul_assoc, mul_transpose_L, hGT, hQ1, hG]
    simp only [Matrix.mul_assoc]
  rw [Matrix.mul_add Q0, e1, e2, ← add_assoc, ha0', hQ0']
  exact predicted_step_transition T P Su' Kc _ u0' Q1 r' hSu

end backwardStep

variable [Invertible (2 : K)]

/-- `covariances.symmetrize` -/
def symm {m : Type} (X : Matrix m m K) : Matrix m m K := (⅟ (2 : K)) • (X + Xᵀ)

theorem symm_transpose {m : Type} (X : Matrix m m K) : (symm X)ᵀ = symm X := by
  unfold symm
  rw [Matrix.transpose_smul, Matrix.transpose_add, Matrix.transpose_transpose, add_comm]

theorem symm_of_symmetric {m : Type} (X : Matrix m m K) (h : Xᵀ = X) : symm X = X := by
  rw [symm, h, ← two_smul K X, smul_smul, invOf_mul_self, one_smul]

/-- inputs of a filter run; `p t` = rows observed in period `t` -/
structure Inputs (n q w k : Type) (p : ℕ → Type) (K : Type) where
  T : Matrix n n K
  P : Matrix n q K
  Kc : Matrix n k K
  Z : ∀ t, Matrix (p t) n K
  H : ∀ t, Matrix (p t) w K
  D : ∀ t, Matrix (p t) k K
  y : ∀ t, Matrix (p t) k K
  Su : ℕ → Matrix q q K
  Sw : ℕ → Matrix w w K
  u0 : ℕ → Matrix q k K
  w0 : ℕ → Matrix w k K
  Fi : ∀ t, Matrix (p t) (p t) K
  aInit : Matrix n k K
  QInit : Matrix n n K

variable {p : ℕ → Type} [∀ t, Fintype (p t)] [∀ t, DecidableEq (p t)]

namespace Inputs
variable (I : Inputs n q w k p K)

/-! one period, as functions of the moments `(a, Q)` handed over from the previous period -/
def Q0f (t : ℕ) (Q : Matrix n n K) : Matrix n n K := symm (I.T * Q * I.Tᵀ + I.P * I.Su t * I.Pᵀ)
def Ff (t : ℕ) (Q : Matrix n n K) : Matrix (p t) (p t) K :=
  symm (I.Z t * I.Q0f t Q * (I.Z t)ᵀ + I.H t * I.Sw t * (I.H t)ᵀ)
def a0f (t : ℕ) (a : Matrix n k K) : Matrix n k K := I.T * a + I.Kc + I.P * I.u0 t
def y0f (t : ℕ) (a : Matrix n k K) : Matrix (p t) k K := I.Z t * I.a0f t a + I.D t + I.H t * I.w0 t
def ZtFi (t : ℕ) : Matrix n (p t) K := (I.Z t)ᵀ * I.Fi t
def Gf (t : ℕ) (Q : Matrix n n K) : Matrix n (p t) K := I.Q0f t Q * I.ZtFi t
def Q1f (t : ℕ) (Q : Matrix n n K) : Matrix n n K := symm (I.Q0f t Q - I.Gf t Q * I.Z t * I.Q0f t Q)
def pef (t : ℕ) (a : Matrix n k K) : Matrix (p t) k K := I.y t - I.y0f t a
def a1f (t : ℕ) (a : Matrix n k K) (Q : Matrix n n K) : Matrix n k K := I.a0f t a + I.Gf t Q * I.pef t a

/-- `state t` = the moments handed to period `t`: the initial ones for `t = 0`, the updated ones of period `t-1` after -/
def state : ℕ → Matrix n k K × Matrix n n K
  | 0 => (I.aInit, I.QInit)
  | t + 1 => (I.a1f t (state t).1 (state t).2, I.Q1f t (state t).2)

def a0 (t : ℕ) := I.a0f t (I.state t).1
def Q0 (t : ℕ) := I.Q0f t (I.state t).2
def F (t : ℕ) := I.Ff t (I.state t).2
def y0 (t : ℕ) := I.y0f t (I.state t).1
def G (t : ℕ) := I.Gf t (I.state t).2
def pe (t : ℕ) := I.pef t (I.state t).1
def a1 (t : ℕ) := (I.state (t + 1)).1
def Q1 (t : ℕ) := (I.state (t + 1)).2
def L (t : ℕ) : Matrix n n K := I.T - I.T * I.G t * I.Z t

/-- backward recursion of `one_step_back` over periods `0 … N-1`: `r_t = Zᵀ Fi pe + Lᵀ r_{t+1}`, nothing (= 0) from `N` on -/
def r (N : ℕ) (t : ℕ) : Matrix n k K :=
  if t < N then I.ZtFi t * I.pe t + (I.L t)ᵀ * r N (t + 1) else 0
termination_by N - t
decreasing_by omega

theorem r_of_lt {N t : ℕ} (h : t < N) : I.r N t = I.ZtFi t * I.pe t + (I.L t)ᵀ * I.r N (t + 1) := by
  rw [r, if_pos h]

theorem r_of_ge {N t : ℕ} (h : N ≤ t) : I.r N t = 0 := by
  rw [r, if_neg (by omega)]

/-- smoothed state, transition shocks, measurement shocks (`ak`, `uk`, `wk` of `one_step_back`) -/
def a2 (N t : ℕ) : Matrix n k K := I.a0 t + I.Q0 t * I.r N t
def u2 (N t : ℕ) : Matrix q k K := I.u0 t + (I.P * I.Su t)ᵀ * I.r N t
def w2 (N t : ℕ) : Matrix w k K :=
  I.w0 t + (I.H t * I.Sw t)ᵀ * (I.Fi t * I.pe t - (I.T * I.G t)ᵀ * I.r N (t + 1))

/-- backward recursion of `one_step_back` for the MSE: `N_t = Zᵀ Fi Z + Lᵀ N_{t+1} L`, nothing (= 0) from `N` on -/
def Nm (N : ℕ) (t : ℕ) : Matrix n n K :=
  if t < N then I.ZtFi t * I.Z t + (I.L t)ᵀ * Nm N (t + 1) * I.L t else 0
termination_by N - t
decreasing_by omega

theorem Nm_of_lt {N t : ℕ} (h : t < N) : I.Nm N t = I.ZtFi t * I.Z t + (I.L t)ᵀ * I.Nm N (t + 1) * I.L t := by
  rw [Nm, if_pos h]

theorem Nm_of_ge {N t : ℕ} (h : N ≤ t) : I.Nm N t = 0 := by
  rw [Nm, if_neg (by omega)]

/-- smoothed MSE of the state (`Qk` of `one_step_back`) -/
def Q2 (N t : ℕ) : Matrix n n K := symm (I.Q0 t - I.Q0 t * I.Nm N t * I.Q0 t)

/-- first-order simulation `x_{j+1} = T x_j + K + P u_{j+1}` started at `x0`, driven by `u (s+1), u (s+2), …` -/
def sim (x0 : Matrix n k K) (u : ℕ → Matrix q k K) (s : ℕ) : ℕ → Matrix n k K
  | 0 => x0
  | j + 1 => I.T * sim x0 u s j + I.Kc + I.P * u (s + j + 1)

end Inputs

/-- hypotheses under which the code runs: symmetric initial MSE and shock covariances, symmetric `Fi` -/
structure Inputs.Regular (I : Inputs n q w k p K) : Prop where
  QInit_symm : I.QInitᵀ = I.QInit
  Su_symm : ∀ t, (I.Su t)ᵀ = I.Su t
  Sw_symm : ∀ t, (I.Sw t)ᵀ = I.Sw t
  Fi_symm : ∀ t, (I.Fi t)ᵀ = I.Fi t

namespace Inputs
variable (I : Inputs n q w k p K)

theorem a0f_add (t : ℕ) (a s : Matrix n k K) : I.a0f t (a + s) = I.a0f t a + I.T * s := by
  rw [a0f, a0f, Matrix.mul_add]
  abel

/-! the handed-over mean `a` enters a period only through `a0f t a` -/
section shift
variable {t : ℕ} {a a' s : Matrix n k K} (h : I.a0f t a' = I.a0f t a + s)
include h

theorem y0f_shift : I.y0f t a' = I.y0f t a + I.Z t * s := by
  rw [y0f, y0f, h, Matrix.mul_add]
  abel

theorem pef_shift : I.pef t a' = I.pef t a - I.Z t * s := by
  rw [pef, pef, I.y0f_shift h, sub_add_eq_sub_sub]

theorem a1f_shift (Q : Matrix n n K) : I.a1f t a' Q = I.a1f t a Q + (s - I.Gf t Q * (I.Z t * s)) := by
  rw [a1f, a1f, h, I.pef_shift h, Matrix.mul_sub]
  abel

end shift

theorem G_eq (t : ℕ) : I.G t = I.Q0 t * ((I.Z t)ᵀ * I.Fi t) := rfl

theorem a1_eq (t : ℕ) : I.a1 t = I.a0 t + I.G t * I.pe t := rfl

theorem Q0_symm (t : ℕ) : (I.Q0 t)ᵀ = I.Q0 t := symm_transpose _

theorem state_Q_symm (hI : I.Regular) (t : ℕ) : ((I.state t).2)ᵀ = (I.state t).2 := by
  cases t with
  | zero => exact hI.QInit_symm
  | succ t => exact symm_transpose _

/-- with symmetric inputs the `symmetrize` calls are the identity: `Q0 = T Q Tᵀ + P Σ Pᵀ` -/
theorem Q0_eq (hI : I.Regular) (t : ℕ) :
    I.Q0 t = I.T * (I.state t).2 * I.Tᵀ + I.P * I.Su t * I.Pᵀ :=
  symm_of_symmetric _ (transpose_pushforward _ _ _ _ (I.state_Q_symm hI t) (hI.Su_symm t))

theorem F_eq (hI : I.Regular) (t : ℕ) :
    I.F t = I.Z t * I.Q0 t * (I.Z t)ᵀ + I.H t * I.Sw t * (I.H t)ᵀ :=
  symm_of_symmetric _ (transpose_pushforward _ _ _ _ (I.Q0_symm t) (hI.Sw_symm t))

theorem G_transpose (hI : I.Regular) (t : ℕ) : (I.G t)ᵀ = I.Fi t * I.Z t * I.Q0 t :=
  gain_transpose _ _ _ (I.Q0_symm t) (hI.Fi_symm t)

theorem Q1_eq (hI : I.Regular) (t : ℕ) : I.Q1 t = I.Q0 t - I.G t * I.Z t * I.Q0 t :=
  symm_of_symmetric _ (updated_mse_symm _ _ _ (I.Q0_symm t) (hI.Fi_symm t))

/-- `X Lᵀ = (X − X Zᵀ Fi Z Q₀) Tᵀ`: how any row block is carried one period back by the smoother -/
theorem mul_L_transpose (hI : I.Regular) (t : ℕ) {c : Type} (X : Matrix c n K) :
    X * (I.L t)ᵀ = (X - X * ((I.Z t)ᵀ * I.Fi t * (I.Z t * I.Q0 t))) * I.Tᵀ := by
  rw [L, mul_transpose_L, I.G_transpose hI]
  simp only [Matrix.mul_assoc]

theorem Nm_symm (hI : I.Regular) (N t : ℕ) : (I.Nm N t)ᵀ = I.Nm N t := by
  induction t using Nm.induct N with
  | case1 t ht ih =>
    rw [I.Nm_of_lt ht, ZtFi]
    simp only [Matrix.transpose_add, Matrix.transpose_mul, Matrix.transpose_transpose, hI.Fi_symm, ih, Matrix.mul_assoc]
  | case2 t ht => rw [I.Nm_of_ge (not_lt.mp ht), Matrix.transpose_zero]

theorem Q2_eq (hI : I.Regular) (N t : ℕ) : I.Q2 N t = I.Q0 t - I.Q0 t * I.Nm N t * I.Q0 t := by
  refine symm_of_symmetric _ ?_
  simp only [Matrix.transpose_sub, Matrix.transpose_mul, I.Q0_symm, I.Nm_symm hI, Matrix.mul_assoc]

/-! One backward step of `r` and `N`, seen from a row block `X`: with `U = X − X Zᵀ Fi Z Q₀` (the block after the update of
period `t`), `X r_t = X Zᵀ Fi pe + U Tᵀ r_{t+1}` and `X N_t Xᵀ = X Zᵀ Fi Z Xᵀ + U Tᵀ N_{t+1} T Uᵀ`.  The products are
associated as in `C03.fpsFrom`, whose steps these are with `X = M Tᵀ`. -/

theorem mul_r (hI : I.Regular) {N t : ℕ} (ht : t < N) {c : Type} (X : Matrix c n K) :
    X * I.r N t = X * ((I.Z t)ᵀ * I.Fi t * I.pe t)
      + (X - X * ((I.Z t)ᵀ * I.Fi t * (I.Z t * I.Q0 t))) * I.Tᵀ * I.r N (t + 1) := by
  rw [I.r_of_lt ht, Matrix.mul_add, ← Matrix.mul_assoc X (I.L t)ᵀ, I.mul_L_transpose hI, ZtFi]

theorem mul_Nm_mul (hI : I.Regular) {N t : ℕ} (ht : t < N) {c : Type} [Fintype c] (X : Matrix c n K) :
    X * I.Nm N t * Xᵀ = X * ((I.Z t)ᵀ * I.Fi t * (I.Z t * Xᵀ))
      + (X - X * ((I.Z t)ᵀ * I.Fi t * (I.Z t * I.Q0 t))) * I.Tᵀ * I.Nm N (t + 1)
        * (I.T * (X - X * ((I.Z t)ᵀ * I.Fi t * (I.Z t * I.Q0 t)))ᵀ) := by
  have hU := I.mul_L_transpose hI t X
  have hUT : I.L t * Xᵀ = I.T * (X - X * ((I.Z t)ᵀ * I.Fi t * (I.Z t * I.Q0 t)))ᵀ := by
    rw [← Matrix.transpose_transpose (I.L t), ← Matrix.transpose_mul, hU, Matrix.transpose_mul, Matrix.transpose_transpose]
  rw [← hUT, ← hU, I.Nm_of_lt ht, ZtFi]
  simp only [Matrix.mul_add, Matrix.add_mul, Matrix.mul_assoc]

/-! Each smoothed quantity as `z₀ + M₀ Tᵀ r_{t+1}` (the MSE: `P₀ − M₀ Tᵀ N_{t+1} T M₀ᵀ`): `z₀`, `P₀` its value and MSE given the rows
up to period `t`, `M₀` its cross-covariance with the updated state of period `t` — the form `C03.tracked_is_conditioning` takes.
In `w2_eq_updated`, `0 - …` is `C03.condCross 0 …`: `w_t` is uncorrelated with the predicted state. -/

theorem a2_eq_updated (hI : I.Regular) {N t : ℕ} (ht : t < N) :
    I.a2 N t = I.a1 t + I.Q1 t * I.Tᵀ * I.r N (t + 1) := by
  rw [a2, I.mul_r hI ht, ← add_assoc, I.a1_eq, I.Q1_eq hI, G_eq]
  simp only [Matrix.mul_assoc]

theorem Q2_eq_updated (hI : I.Regular) {N t : ℕ} (ht : t < N) :
    I.Q2 N t = I.Q1 t - I.Q1 t * I.Tᵀ * I.Nm N (t + 1) * (I.T * (I.Q1 t)ᵀ) := by
  have h := I.mul_Nm_mul hI ht (I.Q0 t)
  rw [I.Q0_symm] at h
  rw [I.Q2_eq hI, h, ← sub_sub, I.Q1_eq hI, G_eq]
  simp only [Matrix.mul_assoc]

theorem u2_eq_updated (hI : I.Regular) {N t : ℕ} (ht : t < N) :
    I.u2 N t = I.u0 t + I.Su t * I.Pᵀ * (I.Z t)ᵀ * I.Fi t * I.pe t
      + (I.Su t * I.Pᵀ - I.Su t * I.Pᵀ * (I.Z t)ᵀ * I.Fi t * (I.Z t * I.Q0 t)) * I.Tᵀ * I.r N (t + 1) := by
  rw [u2, Matrix.transpose_mul, hI.Su_symm, I.mul_r hI ht, ← add_assoc]
  simp only [Matrix.mul_assoc]

theorem w2_eq_updated (hI : I.Regular) (N t : ℕ) :
    I.w2 N t = I.w0 t + I.Sw t * (I.H t)ᵀ * I.Fi t * I.pe t
      + (0 - I.Sw t * (I.H t)ᵀ * I.Fi t * (I.Z t * I.Q0 t)) * I.Tᵀ * I.r N (t + 1) := by
  rw [w2, add_assoc]
  simp only [Matrix.transpose_mul, hI.Sw_symm, I.G_transpose hI, sub_eq_add_neg, zero_add, Matrix.mul_add, Matrix.mul_neg,
    Matrix.neg_mul, Matrix.mul_assoc]

end Inputs

end IrisVerif.KalmanAbs
