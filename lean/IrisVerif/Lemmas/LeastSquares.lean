/-
Least squares over a linearly ordered field: the normal equations characterise the minimiser of the
sum of squared residuals.  The vector form is the ordinary-least-squares case of `Lemmas/QuadMin.lean`; here it is
read equation by equation for the multi-equation matrix form used by the VAR estimator.
-/
import IrisVerif.Lemmas.QuadMin

open Matrix

namespace IrisVerif.LeastSquares

variable {m n : Type} [Fintype m] [Fintype n]
variable {K : Type} [Field K]

section MultiEq
set_option linter.unusedSectionVars false
variable {v k T : Type} [Fintype v] [Fintype k] [Fintype T]

/-- the normal equations in the form `ordinary_least_squares` solves them: `Mx βᵀ = My` with
`Mx = X Xᵀ`, `My = X Yᵀ` (`Y`: one row per equation, `X`: one row per regressor, one column per
fitted period or dummy observation) -/
def NormalEq (Y : Matrix v T K) (X : Matrix k T K) (β : Matrix v k K) : Prop :=
  (X * Xᵀ) * βᵀ = X * Yᵀ

/-- sum of squared residuals over all equations and all fitted columns -/
def ssr (Y : Matrix v T K) (X : Matrix k T K) (β : Matrix v k K) : K :=
  ∑ i, ∑ t, (Y - β * X) i t * (Y - β * X) i t

theorem normalEq_iff (Y : Matrix v T K) (X : Matrix k T K) (β : Matrix v k K) :
    NormalEq Y X β ↔ X * (Y - β * X)ᵀ = 0 := by
  unfold NormalEq
  rw [Matrix.transpose_sub, Matrix.transpose_mul, Matrix.mul_sub, sub_eq_zero, Matrix.mul_assoc]
  exact eq_comm

/-- equation `i` of the system is the vector regression of `Y i` on `Xᵀ` with coefficients `β i` -/
theorem row_resid (Y : Matrix v T K) (X : Matrix k T K) (β : Matrix v k K) (i : v) :
    (fun t => (Y - β * X) i t) = Y i - Xᵀ *ᵥ β i := by
  rw [Matrix.mulVec_transpose, ← Matrix.mul_apply_eq_vecMul]
  rfl

/-- stated with `Xᵀᵀ` so that it is literally the hypothesis of `QuadMin.ls_min`/`ls_unique` for the design `Xᵀ` -/
theorem orth_row (Y : Matrix v T K) (X : Matrix k T K) (β : Matrix v k K)
    (h : NormalEq Y X β) (i : v) : Xᵀᵀ *ᵥ (Y i - Xᵀ *ᵥ β i) = 0 := by
  rw [← row_resid]
  funext j
  exact congrFun (congrFun ((normalEq_iff Y X β).1 h) j) i

theorem ssr_eq_rows (Y : Matrix v T K) (X : Matrix k T K) (β : Matrix v k K) :
    ssr Y X β = ∑ i, (Y i - Xᵀ *ᵥ β i) ⬝ᵥ (Y i - Xᵀ *ᵥ β i) := by
  unfold ssr
  refine Finset.sum_congr rfl (fun i _ => ?_)
  rw [← row_resid]
  rfl

end MultiEq

section Vector
variable [LinearOrder K] [IsStrictOrderedRing K]

theorem dot_self_nonneg' (v : m → K) : 0 ≤ v ⬝ᵥ v := QuadMin.dot_self_nonneg v

theorem ls_min (X : Matrix m n K) (y : m → K) (b : n → K)
    (h : Xᵀ *ᵥ (y - X *ᵥ b) = 0) (b' : n → K) :
    (y - X *ᵥ b) ⬝ᵥ (y - X *ᵥ b) ≤ (y - X *ᵥ b') ⬝ᵥ (y - X *ᵥ b') :=
  QuadMin.ls_min X y b h b'

end Vector

end IrisVerif.LeastSquares
