/-
The period operations of a dataslate as data (`SlateOp`, `applySlateOps`, `aliveAfter`) and its cells at absolute periods
(`Slate.cellAt`), the vocabulary of the dataslate theorems of property C19, with the lemmas about them.  Before them, what
`toDatabox` / `toDataboxBase` need: look-up in a dictionary built position by position over the names, a map on the values pulled out of
`dictOfList`, and the base-span output as a slice of the full one (`restrictSer`, `rowsOf_restrict`).
-/
import IrisVerif.Model.Dataslate
import IrisVerif.Lemmas.DataboxOps
namespace IrisVerif.Dataslate
open IrisVerif.Databox

/-- `to_databox`'s loop `for qid …: target_db[names[qid]] = …` over distinct names: a name is bound to what its own position gives -/
theorem lookup_dict_zip_range {β : Type} (names : List String) (hnd : names.Nodup) (G : Nat → β) (n : String) (hn : n ∈ names) :
    ∃ k, names[k]? = some n ∧
      lookup (dictOfList (((List.range names.length).zip names).map (fun (qn : Nat × String) => (qn.2, G qn.1)))) n = some (G k) := by
  have hkeys : keys (((List.range names.length).zip names).map (fun (qn : Nat × String) => (qn.2, G qn.1))) = names := by
    simp only [keys, List.map_map]
    exact List.map_snd_zip (l₁ := List.range names.length) (l₂ := names) (by simp)
  obtain ⟨k, hk⟩ := List.getElem?_of_mem hn
  have hlt : k < names.length := (List.getElem?_eq_some_iff.1 hk).1
  rw [dictOfList_nodup _ (hkeys.symm ▸ hnd)]
  have hmem : (n, G k) ∈ ((List.range names.length).zip names).map (fun (qn : Nat × String) => (qn.2, G qn.1)) :=
    List.mem_map.2 ⟨(k, n), List.mem_iff_getElem?.2 ⟨k, List.getElem?_zip_eq_some.2 ⟨List.getElem?_range hlt, hk⟩⟩, rfl⟩
  exact ⟨k, hk, lookup_of_mem (hkeys.symm ▸ hnd) hmem⟩

theorem setKey_map_val {α : Type} (g : α → α) (acc : List (String × α)) (k : String) (v : α) :
    setKey (acc.map (fun p => (p.1, g p.2))) k (g v) = (setKey acc k v).map (fun p => (p.1, g p.2)) := by
  induction acc with
  | nil => rfl
  | cons p rest ih =>
    simp only [List.map_cons, setKey]
    split
    · rfl
    · rw [ih]
      rfl

theorem dictOfList_map_val {α : Type} (g : α → α) (l : List (String × α)) :
    dictOfList (l.map (fun p => (p.1, g p.2))) = (dictOfList l).map (fun p => (p.1, g p.2)) := by
  unfold dictOfList
  rw [List.foldl_map]
  refine List.foldl_hom (init := []) (List.map fun p : String × α => (p.1, g p.2)) fun acc p => ?_
  exact setKey_map_val g acc p.1 p.2

section
variable {V : Type}

/-- a series cut to the base columns `b0 … b1` -/
def restrictSer (b0 b1 : Nat) (s : Ser V) : Ser V :=
  ⟨s.freq, s.start + (b0 : Int), s.nv, (s.rows.drop b0).take (b1 + 1 - b0), s.desc⟩

theorem rowsOf_restrict (len b0 m : Nat) (h : b0 + m ≤ len) (cols : List (List (Option V))) :
    rowsOf m (cols.map (fun c => (c.drop b0).take m)) = ((rowsOf len cols).drop b0).take m := by
  unfold rowsOf
  -- on the right the positions `range len`, dropped and taken, are `(range m).map (b0 + ·)`
  rw [← List.map_drop, ← List.map_take, List.range_eq_range' (n := len), List.drop_range',
    List.take_range'_of_length_ge (by omega), Nat.zero_add, Nat.mul_one, List.range'_eq_map_range, List.map_map]
  refine List.map_congr_left fun i hi => ?_
  rw [List.map_map]
  refine List.map_congr_left fun c _ => ?_
  simp only [Function.comp, List.getElem?_take, if_pos (List.mem_range.mp hi), List.getElem?_drop]

/-- the record (name index `k`) of variant `v` -/
def Slate.record (sl : Slate V) (v k : Nat) : List (Option V) := ((sl.variants[v]?).bind (·[k]?)).getD []

/-- the cell of a dataslate at an absolute period: NaN outside its periods -/
def Slate.cellAt (sl : Slate V) (v k : Nat) (t : Int) : Option V :=
  if sl.start ≤ t ∧ t < sl.start + (sl.len : Int) then ((sl.record v k)[(t - sl.start).toNat]?).getD none else none

/-- variant `v` has a record for name index `k`, one cell per period of the dataslate (numpy keeps the arrays rectangular) -/
def Slate.hasRecord (sl : Slate V) (v k : Nat) : Prop :=
  ∃ w r, sl.variants[v]? = some w ∧ w[k]? = some r ∧ r.length = sl.len

/-- `Dataslate.remove_periods_from_start(n)`, `remove_periods_from_end(n)`, `add_periods_to_end(n)` -/
inductive SlateOp where
  | removeStart (n : Nat) | removeEnd (n : Nat) | addEnd (n : Nat)

def SlateOp.apply (sl : Slate V) : SlateOp → Slate V
  | .removeStart n => sl.removeFromStart n
  | .removeEnd n => sl.removeFromEnd n
  | .addEnd n => sl.addToEnd n

/-- the periods an operation keeps -/
def SlateOp.keeps (sl : Slate V) : SlateOp → Int → Bool
  | .removeStart n, t => decide (sl.start + (n : Int) ≤ t)
  | .removeEnd n, t => decide (t < sl.start + ((sl.len - n : Nat) : Int))
  | .addEnd _, _ => true

/-- a sequence of period operations, applied from left to right -/
def applySlateOps (sl : Slate V) : List SlateOp → Slate V
  | [] => sl
  | op :: rest => applySlateOps (op.apply sl) rest

/-- a period is alive after a sequence iff no operation of the sequence removed it (periods added at the end are new) -/
def aliveAfter (sl : Slate V) : List SlateOp → Int → Bool
  | [], _ => true
  | op :: rest, t => op.keeps sl t && aliveAfter (op.apply sl) rest t

theorem cellAt_start_add (sl : Slate V) (v k i : Nat) (hi : i < sl.len) :
    sl.cellAt v k (sl.start + (i : Int)) = ((sl.record v k)[i]?).getD none := by
  rw [Slate.cellAt, if_pos ⟨by omega, by omega⟩, Int.add_comm sl.start, Int.add_sub_cancel, Int.toNat_natCast]

theorem hasRecord_map {sl sl' : Slate V} {v k : Nat} (g : List (Option V) → List (Option V))
    (hv : sl'.variants = sl.variants.map (fun w => w.map g)) (hg : ∀ r, r.length = sl.len → (g r).length = sl'.len)
    (hw : sl.hasRecord v k) : sl'.hasRecord v k ∧ sl'.record v k = g (sl.record v k) := by
  obtain ⟨w, r, h1, h2, hlen⟩ := hw
  have h1' : sl'.variants[v]? = some (w.map g) := by rw [hv, List.getElem?_map, h1]; rfl
  have h2' : (w.map g)[k]? = some (g r) := by rw [List.getElem?_map, h2]; rfl
  refine ⟨⟨_, _, h1', h2', hg r hlen⟩, ?_⟩
  simp only [Slate.record, h1, h2, h1', h2', Option.bind_some, Option.getD_some]

theorem record_length {sl : Slate V} {v k : Nat} (hw : sl.hasRecord v k) : (sl.record v k).length = sl.len := by
  obtain ⟨w, r, h1, h2, hlen⟩ := hw
  simpa only [Slate.record, h1, h2, Option.bind_some, Option.getD_some] using hlen

/-- with a record of full length the upper end of the window needs no test: beyond it the record has no cell -/
theorem cellAt_of_has (sl : Slate V) (v k : Nat) (hw : sl.hasRecord v k) (t : Int) :
    sl.cellAt v k t = if sl.start ≤ t then ((sl.record v k)[(t - sl.start).toNat]?).getD none else none := by
  have hlen := record_length hw
  rw [Slate.cellAt]
  by_cases h3 : sl.start ≤ t
  · by_cases h4 : t < sl.start + (sl.len : Int)
    · rw [if_pos ⟨h3, h4⟩, if_pos h3]
    · rw [if_neg (fun h => h4 h.2), if_pos h3, List.getElem?_eq_none (by omega)]
      rfl
  · rw [if_neg (fun h => h3 h.1), if_neg h3]

theorem cellAt_removeFromStart (sl : Slate V) (n : Nat) (v k : Nat) (hw : sl.hasRecord v k) (t : Int) :
    (sl.removeFromStart n).cellAt v k t = if sl.start + (n : Int) ≤ t then sl.cellAt v k t else none := by
  obtain ⟨hw', hr⟩ := hasRecord_map (sl' := sl.removeFromStart n) (List.drop n) rfl
    (fun r h => by rw [List.length_drop, h]; rfl) hw
  rw [cellAt_of_has _ v k hw', hr, cellAt_of_has sl v k hw, show (sl.removeFromStart n).start = sl.start + (n : Int) from rfl]
  by_cases h3 : sl.start + (n : Int) ≤ t
  · rw [if_pos h3, if_pos h3, if_pos (by omega), List.getElem?_drop]
    congr 2
    omega
  · rw [if_neg h3, if_neg h3]

theorem cellAt_addToEnd (sl : Slate V) (n : Nat) (v k : Nat) (hw : sl.hasRecord v k) (t : Int) :
    (sl.addToEnd n).cellAt v k t = sl.cellAt v k t := by
  obtain ⟨hw', hr⟩ := hasRecord_map (sl' := sl.addToEnd n) (· ++ List.replicate n none) rfl
    (fun r h => by rw [List.length_append, List.length_replicate, h]; rfl) hw
  rw [cellAt_of_has _ v k hw', hr, cellAt_of_has sl v k hw, show (sl.addToEnd n).start = sl.start from rfl]
  congr 1
  by_cases h3 : (t - sl.start).toNat < (sl.record v k).length
  · rw [List.getElem?_append_left h3]
  · rw [List.getElem?_append_right (by omega), List.getElem?_eq_none (l := sl.record v k) (by omega), List.getElem?_replicate]
    split <;> rfl

theorem cellAt_removeFromEnd (sl : Slate V) (n : Nat) (v k : Nat) (hw : sl.hasRecord v k) (t : Int) :
    (sl.removeFromEnd n).cellAt v k t = if t < sl.start + ((sl.len - n : Nat) : Int) then sl.cellAt v k t else none := by
  obtain ⟨hw', hr⟩ := hasRecord_map (sl' := sl.removeFromEnd n) (fun r => r.take (r.length - n)) rfl
    (fun r h => by rw [List.length_take, h, Nat.min_eq_left (Nat.sub_le _ _)]; rfl) hw
  rw [cellAt_of_has _ v k hw', hr, cellAt_of_has sl v k hw, show (sl.removeFromEnd n).start = sl.start from rfl,
    List.getElem?_take, record_length hw]
  by_cases h3 : sl.start ≤ t
  · rw [if_pos h3, if_pos h3]
    by_cases h4 : t < sl.start + ((sl.len - n : Nat) : Int)
    · rw [if_pos h4, if_pos (by omega)]
    · rw [if_neg h4, if_neg (by omega)]
      rfl
  · rw [if_neg h3, if_neg h3, ite_self]

theorem hasRecord_apply (sl : Slate V) (v k : Nat) (hw : sl.hasRecord v k) (op : SlateOp) : (op.apply sl).hasRecord v k := by
  cases op with
  | removeStart n => exact (hasRecord_map (List.drop n) rfl (fun r h => by rw [List.length_drop, h]; rfl) hw).1
  | removeEnd n =>
    exact (hasRecord_map (fun r => r.take (r.length - n)) rfl
      (fun r h => by rw [List.length_take, h, Nat.min_eq_left (Nat.sub_le _ _)]; rfl) hw).1
  | addEnd n =>
    exact (hasRecord_map (· ++ List.replicate n none) rfl
      (fun r h => by rw [List.length_append, List.length_replicate, h]; rfl) hw).1

theorem cellAt_apply (sl : Slate V) (op : SlateOp) (v k : Nat) (hw : sl.hasRecord v k) (t : Int) :
    (op.apply sl).cellAt v k t = if op.keeps sl t then sl.cellAt v k t else none := by
  cases op with
  | removeStart n => simpa only [SlateOp.apply, SlateOp.keeps, decide_eq_true_eq] using cellAt_removeFromStart sl n v k hw t
  | removeEnd n => simpa only [SlateOp.apply, SlateOp.keeps, decide_eq_true_eq] using cellAt_removeFromEnd sl n v k hw t
  | addEnd n => exact cellAt_addToEnd sl n v k hw t

end

end IrisVerif.Dataslate
