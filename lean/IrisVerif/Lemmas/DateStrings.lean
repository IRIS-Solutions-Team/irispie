/-
Character-level lemmas for the SDMX / ISO string round trips (C11).
-/
import IrisVerif.Model.DateFormats

namespace IrisVerif.Dates
open IrisVerif.Gen.Dates

theorem digit_facts : ∀ d : Nat, d < 10 →
    isDigit (digitChar d) = true ∧ digitVal (digitChar d) = d ∧ isBlank (digitChar d) = false ∧
    (digitChar d == '-') = false ∧ (digitChar d == 'H') = false ∧ (digitChar d == 'Q') = false := by
  decide

/-- a character that is the decimal digit `d` -/
structure IsDig (c : Char) (d : Nat) : Prop where
  eq : c = digitChar d
  lt : d < 10

theorem IsDig.facts {c : Char} {d : Nat} (h : IsDig c d) :
    isDigit c = true ∧ digitVal c = d ∧ isBlank c = false ∧ (c == '-') = false ∧
    (c == 'H') = false ∧ (c == 'Q') = false := by
  rw [h.eq]; exact digit_facts d h.lt

theorem isDig_mk (d : Nat) (h : d < 10) : IsDig (digitChar d) d := ⟨rfl, h⟩

namespace IsDig
variable {c : Char} {d : Nat} (h : IsDig c d)
include h
theorem isDigit : isDigit c = true := h.facts.1
theorem val : digitVal c = d := h.facts.2.1
theorem notBlank : isBlank c = false := h.facts.2.2.1
theorem neDash : (c == '-') = false := h.facts.2.2.2.1
theorem neH : (c == 'H') = false := h.facts.2.2.2.2.1
theorem neQ : (c == 'Q') = false := h.facts.2.2.2.2.2
end IsDig

theorem parseInt_of_digit_head {a : Char} (ha : isDigit a = true) (rest : Str) :
    parseInt (a :: rest) = (parseNat (a :: rest)).map (fun n => (n : Int)) := by
  unfold parseInt
  split
  · rename_i heq
    cases heq
    exact absurd ha (by decide)
  · rename_i heq
    cases heq
    exact absurd ha (by decide)
  · rfl

section
variable {a b c d : Char} {na nb nc nd : Nat} (ha : IsDig a na) (hb : IsDig b nb) (hc : IsDig c nc) (hd : IsDig d nd)
include ha

theorem parseInt1 : parseInt [a] = some (na : Int) := by
  rw [parseInt_of_digit_head ha.isDigit]
  simp [parseNat, parseStep, ha.isDigit, ha.val]

include hb

theorem parseInt2 : parseInt [a, b] = some ((na * 10 + nb : Nat) : Int) := by
  rw [parseInt_of_digit_head ha.isDigit]
  simp [parseNat, parseStep, ha.isDigit, ha.val, hb.isDigit, hb.val]

include hc hd

theorem parseInt4 : parseInt [a, b, c, d] = some ((((na * 10 + nb) * 10 + nc) * 10 + nd : Nat) : Int) := by
  rw [parseInt_of_digit_head ha.isDigit]
  simp [parseNat, parseStep, ha.isDigit, ha.val, hb.isDigit, hb.val, hc.isDigit, hc.val, hd.isDigit, hd.val]

end

theorem pad4_digits (y : Nat) (h : y < 10000) :
    ∃ a b c d na nb nc nd, pad4 y = [a, b, c, d] ∧ IsDig a na ∧ IsDig b nb ∧ IsDig c nc ∧ IsDig d nd ∧
      ((na * 10 + nb) * 10 + nc) * 10 + nd = y :=
  have m (n : Nat) : IsDig (digitChar (n % 10)) (n % 10) := isDig_mk _ (Nat.mod_lt n (by decide))
  ⟨_, _, _, _, _, _, _, _, rfl, m _, m _, m _, m _, by omega⟩

theorem pad2_digits (m : Nat) (h : m < 100) :
    ∃ a b na nb, pad2 m = [a, b] ∧ IsDig a na ∧ IsDig b nb ∧ na * 10 + nb = m :=
  ⟨_, _, _, _, rfl, isDig_mk _ (Nat.mod_lt _ (by decide)), isDig_mk _ (Nat.mod_lt _ (by decide)), by omega⟩

theorem pad1_digits (q : Nat) (h : q < 10) : ∃ a, pad1 q = [a] ∧ IsDig a q :=
  ⟨_, congrArg (fun k => [digitChar k]) (Nat.mod_eq_of_lt h), isDig_mk q h⟩

/-- `detectFreqIn` on a table whose patterns are already compiled -/
def detectCompiled : List (Int × Option Nat × Option (List (Atom × Quant))) → Str → R (Option Freq)
  | [], _ => throw .badInput
  | (_, _, none) :: _, _ => throw .badInput
  | (v, len, some items) :: rest, s =>
    if (match len with | none => true | some n => s.length == n) && matchItems items s then pure (freqOfValue? v)
    else detectCompiled rest s

theorem detectFreqIn_eq (tbl : List (Int × Option Nat × String)) (s : Str) :
    detectFreqIn tbl s = detectCompiled (tbl.map (fun (v, l, p) => (v, l, compileRe (p.length + 1) p.toList))) s := by
  induction tbl with
  | nil => rfl
  | cons row rest ih =>
    obtain ⟨v, len, pat⟩ := row
    simp only [detectFreqIn, List.map_cons, fullmatch]
    cases compileRe (pat.length + 1) pat.toList with
    | none => rfl
    | some items =>
      rw [ih]
      rfl

def compiledFormats : List (Int × Option Nat × Option (List (Atom × Quant))) :=
  [ (1, some 4, some [(.digit, .one), (.digit, .one), (.digit, .one), (.digit, .one)]),
    (2, some 7, some [(.digit, .one), (.digit, .one), (.digit, .one), (.digit, .one), (.lit '-', .one), (.lit 'H', .one), (.digit, .one)]),
    (4, some 7, some [(.digit, .one), (.digit, .one), (.digit, .one), (.digit, .one), (.lit '-', .one), (.lit 'Q', .one), (.digit, .one)]),
    (12, some 7, some [(.digit, .one), (.digit, .one), (.digit, .one), (.digit, .one), (.lit '-', .one), (.digit, .one), (.digit, .one)]),
    (52, some 8, some [(.digit, .one), (.digit, .one), (.digit, .one), (.digit, .one), (.lit '-', .one), (.lit 'W', .one), (.digit, .one), (.digit, .one)]),
    (365, some 10, some [(.digit, .one), (.digit, .one), (.digit, .one), (.digit, .one), (.lit '-', .one), (.digit, .one), (.digit, .one), (.lit '-', .one), (.digit, .one), (.digit, .one)]),
    (0, none, some [(.lit '(', .one), (.cls ['-', '+'], .opt), (.digit, .plus), (.lit ')', .one)]) ]

/-- the generated patterns of `SDMX_REXP_FORMATS`, compiled by the model's regex reader. The left-hand side is
computed from the generated table, so a changed pattern in dates.py breaks this lemma and everything below it. -/
theorem compiled_formats :
    sdmxFormats.map (fun (v, l, p) => (v, l, compileRe (p.length + 1) p.toList)) = compiledFormats := by
  decide +kernel

theorem detectFreq_eq (s : Str) : detectFreq s = detectCompiled compiledFormats (strip s) := by
  rw [detectFreq, detectFreqIn_eq, compiled_formats]

theorem strip_of_nonblank_ends (a : Char) (mid : Str) (e : Char) (ha : isBlank a = false) (he : isBlank e = false) :
    strip (a :: (mid ++ [e])) = a :: (mid ++ [e]) := by
  unfold strip
  simp [List.dropWhile, ha, he]

/-- `yyyy-Hn` and `yyyy-Qn`: the letter is `f.letter`, as `to_sdmx_string` writes it -/
theorem sdmx_HQ_shape (f : Freq) (hf : f = .H ∨ f = .Q) {a b c d e : Char} {na nb nc nd ne : Nat}
    (ha : IsDig a na) (hb : IsDig b nb) (hc : IsDig c nc) (hd : IsDig d nd) (he : IsDig e ne) :
    fromSdmx ([a, b, c, d] ++ ['-'] ++ f.letter.toList ++ [e]) =
      .ok (fromYearSegment f ((((na * 10 + nb) * 10 + nc) * 10 + nd : Nat) : Int) (ne : Int)) := by
  have hstrip (L : Char) : strip [a, b, c, d, '-', L, e] = [a, b, c, d, '-', L, e] :=
    strip_of_nonblank_ends a [b, c, d, '-', L] e ha.notBlank he.notBlank
  have hsplit (L : Char) : split2 '-' L [a, b, c, d, '-', L, e] [] = [[a, b, c, d], [e]] := by
    simp [split2, ha.neDash, hb.neDash, hc.neDash, hd.neDash]
  rcases hf with rfl | rfl
  · have hdet : detectFreq [a, b, c, d, '-', 'H', e] = .ok (some .H) := by
      rw [detectFreq_eq, hstrip]
      -- here and in the lemmas below `simp` walks the rows of `compiledFormats` in their order: a row is passed over for
      -- its length or for a literal it wants, and the row of the string's own shape accepts it character by character
      simp [compiledFormats, detectCompiled, matchItems, Atom.accepts, ha.isDigit, hb.isDigit, hc.isDigit, hd.isDigit, he.isDigit,
        freqOfValue?, freqInteger, freqYearly, freqHalfyearly, pure, Except.pure]
    show fromSdmx [a, b, c, d, '-', 'H', e] = _
    simp only [fromSdmx, hdet, bind, Except.bind, fromSdmxAs, hstrip, hsplit, parseInt4 ha hb hc hd, parseInt1 he, needSome,
      pure, Except.pure]
  · have hdet : detectFreq [a, b, c, d, '-', 'Q', e] = .ok (some .Q) := by
      rw [detectFreq_eq, hstrip]
      simp [compiledFormats, detectCompiled, matchItems, Atom.accepts, ha.isDigit, hb.isDigit, hc.isDigit, hd.isDigit, he.isDigit,
        freqOfValue?, freqInteger, freqYearly, freqHalfyearly, freqQuarterly, pure, Except.pure]
    show fromSdmx [a, b, c, d, '-', 'Q', e] = _
    simp only [fromSdmx, hdet, bind, Except.bind, fromSdmxAs, hstrip, hsplit, parseInt4 ha hb hc hd, parseInt1 he, needSome,
      pure, Except.pure]

theorem sdmx_Y_shape {a b c d : Char} {na nb nc nd : Nat}
    (ha : IsDig a na) (hb : IsDig b nb) (hc : IsDig c nc) (hd : IsDig d nd) :
    fromSdmx [a, b, c, d] = .ok ⟨.Y, ((((na * 10 + nb) * 10 + nc) * 10 + nd : Nat) : Int)⟩ := by
  have hstrip : strip [a, b, c, d] = [a, b, c, d] := strip_of_nonblank_ends a [b, c] d ha.notBlank hd.notBlank
  have hdet : detectFreq [a, b, c, d] = .ok (some .Y) := by
    rw [detectFreq_eq, hstrip]
    simp [compiledFormats, detectCompiled, matchItems, Atom.accepts, ha.isDigit, hb.isDigit, hc.isDigit, hd.isDigit,
      freqOfValue?, freqInteger, freqYearly, pure, Except.pure]
  simp only [fromSdmx, hdet, bind, Except.bind, fromSdmxAs, hstrip, parseInt4 ha hb hc hd, needSome, pure, Except.pure]

theorem sdmx_M_shape {a b c d e g : Char} {na nb nc nd ne ng : Nat}
    (ha : IsDig a na) (hb : IsDig b nb) (hc : IsDig c nc) (hd : IsDig d nd) (he : IsDig e ne) (hg : IsDig g ng) :
    fromSdmx [a, b, c, d, '-', e, g] =
      .ok (fromYearSegment .M ((((na * 10 + nb) * 10 + nc) * 10 + nd : Nat) : Int) ((ne * 10 + ng : Nat) : Int)) := by
  have hstrip : strip [a, b, c, d, '-', e, g] = [a, b, c, d, '-', e, g] :=
    strip_of_nonblank_ends a [b, c, d, '-', e] g ha.notBlank hg.notBlank
  have hdet : detectFreq [a, b, c, d, '-', e, g] = .ok (some .M) := by
    rw [detectFreq_eq, hstrip]
    -- the rows of `-Hd` and `-Qd` have this length too, and fail on their letter: `e` is a digit
    simp [compiledFormats, detectCompiled, matchItems, Atom.accepts, ha.isDigit, hb.isDigit, hc.isDigit, hd.isDigit, he.isDigit, hg.isDigit,
      he.neH, he.neQ, freqOfValue?, freqInteger, freqYearly, freqHalfyearly, freqQuarterly, freqMonthly, pure, Except.pure,
      BEq.comm (a := 'H'), BEq.comm (a := 'Q')]
  have hsplit : split1 '-' [a, b, c, d, '-', e, g] [] = [[a, b, c, d], [e, g]] := by
    simp [split1, ha.neDash, hb.neDash, hc.neDash, hd.neDash, he.neDash, hg.neDash]
  simp only [fromSdmx, hdet, bind, Except.bind, fromSdmxAs, hstrip, hsplit, parseInt4 ha hb hc hd, parseInt2 he hg, needSome,
    pure, Except.pure]

/-- a ten-character `dddd-dd-dd` string is detected as daily and split into its three numbers
(the same shape serves the ISO strings) -/
theorem ymd_string_shape {a b c d e g i j : Char} {na nb nc nd ne ng ni nj : Nat}
    (ha : IsDig a na) (hb : IsDig b nb) (hc : IsDig c nc) (hd : IsDig d nd) (he : IsDig e ne) (hg : IsDig g ng)
    (hi : IsDig i ni) (hj : IsDig j nj) :
    detectFreq [a, b, c, d, '-', e, g, '-', i, j] = .ok (some .D) ∧
    (∀ f, fromIso f [a, b, c, d, '-', e, g, '-', i, j] =
      fromYmd f ((((na * 10 + nb) * 10 + nc) * 10 + nd : Nat) : Int) ((ne * 10 + ng : Nat) : Int) ((ni * 10 + nj : Nat) : Int)) ∧
    fromSdmxAs .D [a, b, c, d, '-', e, g, '-', i, j] =
      fromYmd .D ((((na * 10 + nb) * 10 + nc) * 10 + nd : Nat) : Int) ((ne * 10 + ng : Nat) : Int) ((ni * 10 + nj : Nat) : Int) := by
  have hstrip : strip [a, b, c, d, '-', e, g, '-', i, j] = [a, b, c, d, '-', e, g, '-', i, j] :=
    strip_of_nonblank_ends a [b, c, d, '-', e, g, '-', i] j ha.notBlank hj.notBlank
  have hsplit : split1 '-' [a, b, c, d, '-', e, g, '-', i, j] [] = [[a, b, c, d], [e, g], [i, j]] := by
    simp [split1, ha.neDash, hb.neDash, hc.neDash, hd.neDash, he.neDash, hg.neDash, hi.neDash, hj.neDash]
  have s4 : strip [a, b, c, d] = [a, b, c, d] := strip_of_nonblank_ends a [b, c] d ha.notBlank hd.notBlank
  have s2 : strip [e, g] = [e, g] := strip_of_nonblank_ends e [] g he.notBlank hg.notBlank
  have s2' : strip [i, j] = [i, j] := strip_of_nonblank_ends i [] j hi.notBlank hj.notBlank
  refine ⟨?_, fun f => ?_, ?_⟩
  · rw [detectFreq_eq, hstrip]
    simp [compiledFormats, detectCompiled, matchItems, Atom.accepts, ha.isDigit, hb.isDigit, hc.isDigit, hd.isDigit, he.isDigit, hg.isDigit,
      hi.isDigit, hj.isDigit, freqOfValue?, freqInteger, freqYearly, freqHalfyearly, freqQuarterly, freqMonthly, freqDaily, pure,
      Except.pure]
  · simp only [fromIso, hsplit, s4, s2, s2', parseInt4 ha hb hc hd, parseInt2 he hg, parseInt2 hi hj, needSome, bind, Except.bind,
      pure, Except.pure]
  · simp only [fromSdmxAs, hsplit, s4, s2, s2', parseInt4 ha hb hc hd, parseInt2 he hg, parseInt2 hi hj, needSome, bind, Except.bind,
      pure, Except.pure]

/-! ### `int(str(n)) = n`: the digit list of a natural number reads back as that number -/

theorem parseStep_digitChar (a : Nat) {d : Nat} (h : d < 10) : parseStep (some a) (digitChar d) = some (a * 10 + d) := by
  rw [parseStep, if_pos (isDig_mk d h).isDigit, (isDig_mk d h).val]

theorem digitsFuel_lt {fuel n : Nat} (h : n ≤ fuel) (h10 : n < 10) (acc : Str) : digitsFuel fuel n acc = digitChar n :: acc := by
  cases fuel with
  | zero => rw [Nat.le_zero.1 h]; rfl
  | succ fuel => exact if_pos h10

/-- reading `digitsFuel fuel n acc` from 0 is reading `acc` from `n`: each step moves the last digit of `n` to `acc` -/
theorem digitsFuel_spec (fuel n : Nat) (acc : Str) (h : n ≤ fuel) (hacc : ∀ c ∈ acc, isDigit c = true) :
    (∀ c ∈ digitsFuel fuel n acc, isDigit c = true) ∧ digitsFuel fuel n acc ≠ [] ∧
    (digitsFuel fuel n acc).foldl parseStep (some 0) = acc.foldl parseStep (some n) := by
  induction n using Nat.strongRecOn generalizing fuel acc with
  | ind n ih =>
    by_cases h10 : n < 10
    · rw [digitsFuel_lt h h10]
      exact ⟨List.forall_mem_cons.2 ⟨(isDig_mk n h10).isDigit, hacc⟩, List.cons_ne_nil _ _,
        by rw [List.foldl_cons, parseStep_digitChar 0 h10, Nat.zero_mul, Nat.zero_add]⟩
    · obtain ⟨fuel, rfl⟩ := Nat.exists_eq_succ_of_ne_zero (n := fuel) (by omega)
      have hm : n % 10 < 10 := Nat.mod_lt n (by decide)
      obtain ⟨h1, h2, h3⟩ := ih (n / 10) (by omega) fuel (digitChar (n % 10) :: acc) (by omega)
        (List.forall_mem_cons.2 ⟨(isDig_mk _ hm).isDigit, hacc⟩)
      rw [digitsFuel, if_neg h10]
      exact ⟨h1, h2, by rw [h3, List.foldl_cons, parseStep_digitChar _ hm, Nat.div_add_mod' n 10]⟩

theorem natDigits_spec (n : Nat) :
    (∀ c ∈ natDigits n, isDigit c = true) ∧ natDigits n ≠ [] ∧ parseNat (natDigits n) = some n := by
  obtain ⟨h1, h2, h3⟩ := digitsFuel_spec n n [] (Nat.le_refl n) (fun _ h => nomatch h)
  exact ⟨h1, h2, by rw [parseNat, if_neg (by rwa [List.isEmpty_iff]), natDigits, h3]; rfl⟩

end IrisVerif.Dates
