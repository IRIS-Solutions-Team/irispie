/-
Lemmas for the CSV round-trip theorems of property C19 (IrisVerif/Props/C19.lean: `csv_selection_roundtrip`, `csv_roundtrip`):
the importer run on the grid the exporter writes -- one block decoded from its own cells, then all blocks -- for any
selection of periods; what comes back per series is `reimport` (IrisVerif/Lemmas/GridSelection.lean).
-/
import IrisVerif.Lemmas.GridSelection
import IrisVerif.Lemmas.DataboxOps

namespace IrisVerif.Grid
open IrisVerif.Databox
open IrisVerif.Dates (Err R)

theorem mapM_ok {α β : Type} (f : α → R β) (g : α → β) (l : List α) (h : ∀ x ∈ l, f x = .ok (g x)) :
    l.mapM f = .ok (l.map g) :=
  mapM_ok_of_forall h

section
variable {V : Type}

/-- what the codec has to satisfy: parsing inverts printing, and a printed period is never the empty cell.  UNKNOWN has no
periods to print; WEEKLY has no period class in irispie and no block in `to_csv_file` (`blockOrder`) -/
structure CodecLaw (c : Codec V) : Prop where
  date : ∀ f n, f ≠ .U → f ≠ .W → c.parseDate f (c.fmtDate f n) = some n ∧ c.fmtDate f n ≠ ""
  cell : ∀ x, c.parseCell (c.fmtCell x) = x

/-- a block with any selection of periods: admissible names, rows as wide as the number of variants, and either the block of
the empty series (no periods) or a dated block with at least one period -/
structure GoodBlock (b : Block V) : Prop where
  names : GoodNames b.members
  sers : ∀ p ∈ b.members, ∀ r ∈ p.2.rows, r.length = p.2.nv
  kind : (b.freq = .U ∧ b.periods = []) ∨ (b.freq ≠ .U ∧ b.freq ≠ .W ∧ b.periods ≠ [])

/-- the cells of a block's data row after the date cell -/
def dataCells (c : Codec V) (b : Block V) (t : Int) : List String :=
  b.members.flatMap (fun p => (p.2.rowAt t).map c.fmtCell) ++ [""]

theorem cells_slice {α : Type} (g : String × Ser V → List α) (m1 m2 : List (String × Ser V)) (p : String × Ser V) (tl : List α)
    (h : ∀ q ∈ m1 ++ p :: m2, (g q).length = q.2.nv) :
    ((((m1 ++ p :: m2).flatMap g) ++ tl).drop ((m1.map (fun q => q.2.nv)).sum)).take p.2.nv = g p := by
  simp only [List.flatMap_append, List.flatMap_cons, List.append_assoc]
  rw [← flatMap_length_nv g m1 (fun q hq => h q (by simp [hq])), List.drop_left, ← h p (by simp), List.take_left]

theorem cells_of_series (c : Codec V) (hc : CodecLaw c) (b : Block V)
    (hs : ∀ p ∈ b.members, ∀ r ∈ p.2.rows, r.length = p.2.nv)
    (m1 m2 : List (String × Ser V)) (p : String × Ser V) (hsplit : b.members = m1 ++ p :: m2) :
    (b.periods.map (fun t => (dataCells c b t).map c.parseCell)).map
        (fun r => (r.drop ((m1.map (fun q => q.2.nv)).sum)).take p.2.nv) = b.periods.map p.2.rowAt := by
  have hrows : ∀ q ∈ b.members, ∀ t, (q.2.rowAt t).length = q.2.nv := fun q hq t => rowAt_length q.2 (hs q hq) t
  rw [List.map_map]
  refine List.map_congr_left fun t _ => ?_
  have hid : ∀ q : String × Ser V, List.map (c.parseCell ∘ c.fmtCell) (q.2.rowAt t) = q.2.rowAt t :=
    fun q => (List.map_congr_left (fun x _ => hc.cell x)).trans (List.map_id _)
  simp only [Function.comp, dataCells, List.map_append, List.map_flatMap, List.map_map, hid, hsplit]
  exact cells_slice (fun q => q.2.rowAt t) m1 m2 p _ fun q hq => hrows q (hsplit ▸ hq) t

theorem decodeBlock_cons (c : Codec V) (N D r0 : List String) (rs : List (List String)) (raw : RawBlock) :
    decodeBlock c N D (r0 :: rs) raw = decodeBody c N D (r0 :: rs) raw r0 := rfl

/-- the cells of a row that a block reads -/
def viewRow (raw : RawBlock) (row : List String) : List String := dateCell raw row :: sliceRow raw row

/-- **decoding one block** from any grid in which the block's own cells sit where the raw block says: the data rows, seen
through the block's columns, are the block's own data rows and then padding; `dh`/`dc`/`e` is what stands in the
description row under the names, the continuation marks and the separator -/
theorem decode_block_view (c : Codec V) (hc : CodecLaw c) (b : Block V) (hb : GoodBlock b) (raw : RawBlock)
    (hraw : raw.freq = b.freq) (dh : String × Ser V → String) (dc e : String) (nameRow descRow : List String)
    (dataRows : List (List String)) (hne : dataRows ≠ []) (k : Nat)
    (hN : sliceRow raw nameRow = b.members.flatMap (fun p => starCont p.1 p.2.nv) ++ [""])
    (hD : sliceRow raw descRow = descCells dh dc b.members ++ [e])
    (hrows : dataRows.map (viewRow raw) = b.periods.map (b.dataRow c) ++ List.replicate k b.emptyRow) :
    decodeBlock c nameRow descRow dataRows raw = .ok (b.members.map (reimport dh b)) := by
  obtain ⟨r0, rs, rfl⟩ := List.exists_cons_of_ne_nil hne
  rw [decodeBlock_cons]
  unfold decodeBody
  have hempty : b.emptyRow = "" :: List.replicate (b.width - 1) "" := by
    rw [Block.emptyRow, Block.width, Nat.add_comm 1, List.replicate_succ]; rfl
  -- the dated rows are the block's own: printed periods are never empty cells
  have hdated : ((r0 :: rs).filter (fun r => dateCell raw r ≠ "")).map (viewRow raw) = b.periods.map (b.dataRow c) := by
    refine (List.filter_map (f := viewRow raw) (p := fun v : List String => decide (v.headD "" ≠ ""))).symm.trans ?_
    have hpad : (List.replicate k b.emptyRow).filter (fun v => decide (v.headD "" ≠ "")) = [] :=
      List.filter_eq_nil_iff.2 fun v hv => by rw [(List.mem_replicate.1 hv).2, hempty]; simp
    rw [hrows, List.filter_append, hpad, List.append_nil]
    refine List.filter_eq_self.2 fun v hv => ?_
    obtain ⟨t, -, rfl⟩ := List.mem_map.1 hv
    rcases hb.kind with ⟨_, hp⟩ | ⟨h1, h2, _⟩
    · rw [hp] at hv; cases hv
    · simpa [Block.dataRow] using (hc.date b.freq t h1 h2).2
  have hcols : columnIterator (sliceRow raw nameRow) (sliceRow raw descRow) = colsOf 0 (b.members.map (withDesc dh)) := by
    rw [hN, hD]; exact columnIterator_export dh dc e b.members hb.names
  have harr : ((r0 :: rs).filter (fun r => dateCell raw r ≠ "")).map (fun r => (sliceRow raw r).map c.parseCell)
      = b.periods.map (fun t => (dataCells c b t).map c.parseCell) := by
    have := congrArg (List.map fun v => v.tail.map c.parseCell) hdated
    rwa [List.map_map, List.map_map] at this
  simp only [hcols, harr]
  rcases hb.kind with ⟨hU, hp⟩ | ⟨h1, h2, hpne⟩
  · -- the block of the empty series: UNKNOWN passes the first guard of `decodeBody`, and no row is dated (`hdated`)
    rw [hp, List.map_nil, List.map_eq_nil_iff] at hdated
    simp only [hraw.trans hU, ne_eq, not_true_eq_false, false_and, if_false, if_true, hp, hdated, List.map_nil,
      List.isEmpty_nil, pure, Except.pure]
    congr 1
    exact map_colsOf dh 0 (fun m1 p m2 _ => by simp [reimport, hU])
  · -- a block of dated series
    have hperiods : ((r0 :: rs).filter (fun r => dateCell raw r ≠ "")).mapM (fun r => parsePeriod c raw.freq (dateCell raw r))
        = .ok b.periods := by
      have := congrArg (List.map fun v => parsePeriod c raw.freq (v.headD "")) hdated
      rw [List.map_map, List.map_map] at this
      rw [mapM_eq_ok_iff]
      refine this.trans (List.map_congr_left fun t _ => ?_)
      rw [Function.comp, Block.dataRow, List.headD_cons, parsePeriod, hraw, (hc.date b.freq t h1 h2).1]
      rfl
    have h0 : c.parseDate raw.freq (dateCell raw r0) ≠ none := by
      obtain ⟨t0, ps, hps⟩ := List.exists_cons_of_ne_nil hpne
      rw [hps, List.map_cons, List.map_cons, List.cons_append] at hrows
      rw [show dateCell raw r0 = c.fmtDate b.freq t0 from (List.cons.inj (List.cons.inj hrows).1).1, hraw,
        (hc.date b.freq t0 h1 h2).1]
      exact Option.some_ne_none _
    simp only [hraw ▸ h1, ne_eq, not_false_eq_true, true_and, h0, if_false, hperiods, bind, Except.bind, pure, Except.pure]
    congr 1
    refine map_colsOf dh 0 (fun m1 p m2 hsplit => ?_)
    simp only [reimport, h1, if_false, Nat.zero_add, hraw]
    congr 2
    exact cells_of_series c hc b hb.sers m1 m2 p hsplit

/-- the cells of a block in the description row `from_csv_file` sees: the written descriptions over `*` marks, or blanks -/
def descSeg (d : Bool) (b : Block V) : List String :=
  "" :: (descCells (descOf d) (if d then "*" else "") b.members ++ [""])

theorem descSeg_length (d : Bool) (b : Block V) (h : GoodNames b.members) : (descSeg d b).length = b.width := by
  rw [descSeg, List.length_cons, List.length_append, descCells,
    flatMap_length_nv _ b.members (fun q hq => by have := (h q hq).2.2.2; simp; omega), Block.width]
  simp; omega

theorem descRowOf_eq (d : Bool) (Bs : List (Block V)) (h : ∀ b ∈ Bs, GoodNames b.members) :
    descRowOf d Bs = Bs.flatMap (descSeg d) := by
  cases d with
  | true => rfl
  | false =>
    rw [descRowOf, if_neg Bool.false_ne_true]
    refine (List.eq_replicate_iff.2 ⟨?_, fun x hx => ?_⟩).symm
    · rw [flatMap_seg_length _ Bs (fun b hb => descSeg_length false b (h b hb)), nameRows_length Bs h]
    · obtain ⟨b, -, hx⟩ := List.mem_flatMap.1 hx
      simp only [descSeg, descCells, descOf, List.mem_cons, List.mem_append, List.mem_flatMap, List.mem_replicate,
        Bool.false_eq_true, if_false, List.not_mem_nil, or_false] at hx
      rcases hx with rfl | ⟨_, _, rfl | ⟨_, rfl⟩⟩ | rfl <;> rfl

theorem seg_view (seg : Block V → List String) (B1 B2 : List (Block V)) (b : Block V)
    (h : ∀ x ∈ B1 ++ b :: B2, (seg x).length = x.width) :
    viewRow ⟨b.freq, widths B1, b.width - 1⟩ ((B1 ++ b :: B2).flatMap seg) = seg b := by
  have hb := h b (by simp)
  cases hs : seg b with
  | nil => rw [hs, Block.width] at hb; cases hb
  | cons x0 body =>
    have := seg_slice seg B1 B2 b (fun x hx => h x (by simp [hx])) x0 body hs (by rw [hs, List.length_cons] at hb; omega)
    rw [viewRow, this.1, this.2]

theorem nameRow_slice (B1 B2 : List (Block V)) (b : Block V) (h : ∀ x ∈ B1 ++ b :: B2, GoodNames x.members) :
    sliceRow ⟨b.freq, widths B1, b.width - 1⟩ ((B1 ++ b :: B2).flatMap Block.nameRow)
      = b.members.flatMap (fun p => starCont p.1 p.2.nv) ++ [""] :=
  -- a block's view of a concatenated row is its own segment; without the date cell, the cells under its names
  congrArg List.tail (seg_view Block.nameRow B1 B2 b fun x hx => nameRow_length x (h x hx))

/-- a block decoded from the grid of all blocks: `seg_view` cuts its segment out of every row, then `decode_block_view`.
`1 ≤ T`: the importer reads the first data row before anything else -/
theorem decode_in_context (c : Codec V) (hc : CodecLaw c) (d : Bool) (T : Nat) (hT : 1 ≤ T)
    (B1 B2 : List (Block V)) (b : Block V) (hg : ∀ x ∈ B1 ++ b :: B2, GoodBlock x) (hfit : b.periods.length ≤ T) :
    decodeBlock c ((B1 ++ b :: B2).flatMap Block.nameRow) (descRowOf d (B1 ++ b :: B2)) (dataRowsOf c T (B1 ++ b :: B2))
        ⟨b.freq, widths B1, b.width - 1⟩
      = .ok (b.members.map (reimport (descOf d) b)) := by
  have hN := nameRow_slice B1 B2 b fun x hx => (hg x hx).names
  -- likewise the cells `decode_block_view` asks for in the description row
  have hD : sliceRow ⟨b.freq, widths B1, b.width - 1⟩ ((B1 ++ b :: B2).flatMap (descSeg d))
      = descCells (descOf d) (if d then "*" else "") b.members ++ [""] :=
    congrArg List.tail (seg_view (descSeg d) B1 B2 b fun x hx => descSeg_length d x (hg x hx).names)
  rw [← descRowOf_eq d _ (fun x hx => (hg x hx).names)] at hD
  refine decode_block_view c hc b (hg b (by simp)) (hraw := rfl) (hN := hN) (hD := hD) (k := T - b.periods.length)
    (hne := ?_) (hrows := ?_)
  · obtain ⟨T', rfl⟩ : ∃ T', T = T' + 1 := ⟨T - 1, by omega⟩
    simp [dataRowsOf, List.range_succ_eq_map]
  · rw [dataRowsOf, List.map_map, dataPart_eq c b T hfit]
    exact List.map_congr_left fun i _ => seg_view (fun x => x.gridRow c i) B1 B2 b
      fun x hx => gridRow_length c x (hg x hx).sers i

/-- `mapM` over the raw blocks when what `f` returns may depend on where the block stands: `h` is asked at every split of `B2` -/
theorem mapM_rawOf {β : Type} {f : RawBlock → R β} {g : Block V → β} (B1 B2 : List (Block V))
    (h : ∀ B2a b B2b, B2 = B2a ++ b :: B2b → f ⟨b.freq, widths (B1 ++ B2a), b.width - 1⟩ = .ok (g b)) :
    (rawOf (widths B1) B2).mapM f = .ok (B2.map g) := by
  induction B2 generalizing B1 with
  | nil => rfl
  | cons b bs ih =>
    have h0 := h [] b bs rfl
    rw [List.append_nil] at h0
    have hw : widths B1 + b.width = widths (B1 ++ [b]) := by simp [widths]
    rw [rawOf, List.mapM_cons, h0, hw, ih (B1 ++ [b]) (fun B2a x B2b hx => by simpa using h (b :: B2a) x B2b (by rw [hx]; rfl))]
    rfl

theorem importGrid_eq (c : Codec V) (d : Bool) (N D : List String) (rows : List (List String))
    (hD : D.length = N.length) (hrows : ∀ r ∈ rows, r.length = N.length) :
    importGrid c d (N :: ((if d then [D] else []) ++ rows))
      = ((blockIterator N).mapM (decodeBlock c N (if d then D else List.replicate N.length "") rows)
          >>= fun parts => pure (dictOfList parts.flatten)) := by
  have hall : rows.all (fun r => r.length == N.length) = true := List.all_eq_true.mpr (fun r hr => by simp [hrows r hr])
  cases d <;> simp [importGrid, hall, hD]

/-- the importer on the grid of blocks: the grid is name row, description row, data rows (`grid_eq`), the block iterator finds
the raw blocks (`scan_export`), each decodes to its `reimport`ed members (`decode_in_context`) -/
theorem import_of_blocks (c : Codec V) (hc : CodecLaw c) (d : Bool) (T : Nat) (hT : 1 ≤ T) (Bs : List (Block V))
    (hg : ∀ x ∈ Bs, GoodBlock x) (hfit : ∀ x ∈ Bs, x.periods.length ≤ T) (hnd : (keys (Bs.flatMap (·.members))).Nodup) :
    importGrid c d (zipRowsN (headerRows d + T) (Bs.map (Block.rows c d T)))
      = .ok (Bs.flatMap (fun b => b.members.map (reimport (descOf d) b))) := by
  have hnames : ∀ x ∈ Bs, GoodNames x.members := fun x hx => (hg x hx).names
  have hlenN := nameRows_length Bs hnames
  have hparts : (blockIterator (Bs.flatMap Block.nameRow)).mapM
      (decodeBlock c (Bs.flatMap Block.nameRow) (descRowOf d Bs) (dataRowsOf c T Bs))
        = .ok (Bs.map (fun b => b.members.map (reimport (descOf d) b))) := by
    rw [blockIterator, scan_export Bs hnames 0]
    refine mapM_rawOf [] Bs (fun B2a b B2b hsplit => ?_)
    have := decode_in_context c hc d T hT B2a B2b b (hsplit ▸ hg) (hfit b (by simp [hsplit]))
    rwa [← hsplit] at this
  have hk : keys (Bs.flatMap (fun b => b.members.map (reimport (descOf d) b))) = keys (Bs.flatMap (·.members)) := by
    simp only [keys, List.map_flatMap, List.map_map]
    rfl
  rw [grid_eq c d T Bs hfit,
    importGrid_eq c d _ (Bs.flatMap Block.descRow) _
      ((descRows_length Bs hnames).trans hlenN.symm)
      (fun r hr => by
        obtain ⟨i, _, rfl⟩ := List.mem_map.mp hr
        rw [hlenN, flatMap_seg_length _ Bs (fun x hx => gridRow_length c x (hg x hx).sers i)])]
  refine (congrArg (· >>= _) hparts).trans ?_
  simp only [bind, Except.bind, pure, Except.pure, ← List.flatMap_def]
  rw [dictOfList_nodup _ (hk ▸ hnd)]

/-- a file without data rows is rejected as soon as it has a block (`data_rows[0]`: IndexError) -/
theorem import_without_data_rows (c : Codec V) (d : Bool) (Bs : List (Block V)) (hne : Bs ≠ [])
    (hnames : ∀ b ∈ Bs, GoodNames b.members) (hper : ∀ b ∈ Bs, b.periods.length ≤ 0) :
    importGrid c d (zipRowsN (headerRows d + 0) (Bs.map (Block.rows c d 0))) = .error .badInput := by
  rw [grid_eq c d 0 Bs hper, importGrid_eq c d _ (Bs.flatMap Block.descRow) _
    ((descRows_length Bs hnames).trans (nameRows_length Bs hnames).symm) (by simp [dataRowsOf]),
    blockIterator, scan_export Bs hnames 0]
  cases Bs with
  | nil => exact absurd rfl hne
  | cons b bs => rfl  -- `decodeBlock` of the first raw block on `dataRowsOf c 0 _ = []` throws

theorem minStart_le (l : List (String × Ser V)) : ∀ q ∈ l, minStart l ≤ q.2.start := by
  induction l with
  | nil => simp
  | cons p ps ih =>
    intro q hq
    unfold minStart
    cases ps with
    | nil => simp at hq; subst hq; simp
    | cons r rs =>
      simp only [List.isEmpty_cons, Bool.false_eq_true, if_false]
      rcases List.mem_cons.mp hq with rfl | hq
      · exact Int.min_le_left _ _
      · exact Int.le_trans (Int.min_le_right _ _) (ih q hq)

theorem le_maxStop (l : List (String × Ser V)) : ∀ q ∈ l, q.2.stop ≤ maxStop l := by
  induction l with
  | nil => simp
  | cons p ps ih =>
    intro q hq
    unfold maxStop
    cases ps with
    | nil => simp at hq; subst hq; simp
    | cons r rs =>
      simp only [List.isEmpty_cons, Bool.false_eq_true, if_false]
      rcases List.mem_cons.mp hq with rfl | hq
      · exact Int.le_max_left _ _
      · exact Int.le_trans (ih q hq) (Int.le_max_right _ _)

theorem keys_grouped_nodup (ss : List (String × Ser V)) (h : (keys ss).Nodup) (fl : List BFreq) (hfl : fl.Nodup) :
    (keys (fl.flatMap (withFreq ss))).Nodup := by
  rw [keys, List.map_flatMap, List.Nodup, List.pairwise_flatMap]
  refine ⟨fun f _ => (List.filter_sublist.map _).nodup h, hfl.imp fun {f g} hfg a ha b hb hab => ?_⟩
  obtain ⟨⟨n1, s1⟩, h1, rfl⟩ := List.mem_map.mp ha
  obtain ⟨⟨n2, s2⟩, h2, rfl⟩ := List.mem_map.mp hb
  have m1 := List.mem_filter.mp h1
  have m2 := List.mem_filter.mp h2
  obtain rfl : n1 = n2 := hab
  obtain rfl : s1 = s2 := Option.some.inj ((lookup_of_mem h m1.1).symm.trans (lookup_of_mem h m2.1))
  have e1 : s1.freq = f := by simpa using m1.2
  have e2 : s1.freq = g := by simpa using m2.2
  exact hfg (e1.symm.trans e2)

/-- what a databox has to satisfy for the CSV format to carry it: exactly what the format reserves (names non-empty,
not the continuation mark `*`, not starting with the block mark `__`), what a `dict` and a `Series` guarantee anyway
(distinct names; at least one variant; rows as wide as the number of variants; a frequency with a period class; data
trimmed, or no data, no start and frequency UNKNOWN), and at least one series with data when there is an empty one
(`from_csv_file` raises on a file without data rows) -/
structure WellFormedDatabox (db : Box (Ser V) V) : Prop where
  distinct : (keys (seriesOf db)).Nodup
  names : GoodNames (seriesOf db)
  rows : ∀ p ∈ seriesOf db, ∀ r ∈ p.2.rows, r.length = p.2.nv
  freq : ∀ p ∈ seriesOf db, p.2.freq ∈ blockOrder
  shape : ∀ p ∈ seriesOf db, (p.2.freq = .U ∧ p.2.rows = [] ∧ p.2.start = 0) ∨ (p.2.freq ≠ .U ∧ Trimmed p.2)
  hasData : seriesOf db = [] ∨ ∃ p ∈ seriesOf db, p.2.freq ≠ .U

/-- the blocks of the default export of a well-formed databox are the blocks `import_of_blocks` takes, and on them
`reimport` returns every series as it is (its span lies inside the block's, and it is trimmed) -/
theorem wellFormed_blocks (db : Box (Ser V) V) (hwf : WellFormedDatabox db) :
    ∀ x ∈ exportBlocksWith defaultFSpan (seriesOf db),
      ((x.freq = .U ∧ x.periods = []) ∨ (x.freq ≠ .U ∧ x.freq ≠ .W ∧ x.periods ≠ []))
      ∧ ∀ dh, ∀ p ∈ x.members, reimport dh x p = withDesc dh p := by
  intro x hx
  obtain ⟨e, he, hm, rfl⟩ := mem_exportBlocksWith.mp hx
  obtain ⟨f, hf, rfl⟩ := List.mem_map.mp he
  have hmem : ∀ p ∈ withFreq (seriesOf db) f, p ∈ seriesOf db ∧ p.2.freq = f := fun p hp =>
    ⟨(List.mem_filter.mp hp).1, by simpa using (List.mem_filter.mp hp).2⟩
  simp only [Option.getD_none, blockPeriods]
  by_cases hU : f = .U
  · refine ⟨Or.inl ⟨hU, if_pos hU⟩, fun dh p hp => ?_⟩
    rcases hwf.shape p (hmem p hp).1 with h | h
    · obtain ⟨n, ⟨fr, st, nv, rows, d⟩⟩ := p
      obtain ⟨rfl, rfl, rfl⟩ := h
      simp [reimport, hU, withDesc, Ser.empty]
    · exact absurd ((hmem p hp).2.trans hU) h.1
  · have htr : ∀ p ∈ withFreq (seriesOf db) f, Trimmed p.2 := fun p hp =>
      (hwf.shape p (hmem p hp).1).resolve_left (fun h => hU ((hmem p hp).2.symm.trans h.1)) |>.2
    refine ⟨Or.inr ⟨hU, fun hw => ?_, ?_⟩, fun dh p hp => ?_⟩
    · simp [hw, blockOrder] at hf
    · -- some series of the frequency has data, and the block spans from the earliest start to the latest stop
      obtain ⟨p0, hp0⟩ := List.exists_mem_of_ne_nil (withFreq (seriesOf db) f) (fun h => by simp [h] at hm)
      have h1 := minStart_le _ p0 hp0
      have h2 := le_maxStop _ p0 hp0
      have h3 := trimmed_start_le_stop p0.2 (htr p0 hp0)
      rw [if_neg hU, ← List.length_pos_iff, periodsOf, List.length_map, List.length_range]
      omega
    · exact reimport_trimmed dh _ p _ _ hU (if_neg hU) (hmem p hp).2 (htr p hp) (minStart_le _ p hp) (le_maxStop _ p hp)

end

end IrisVerif.Grid
