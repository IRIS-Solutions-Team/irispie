/-
Helper lemmas for property C19: the frame (`names outside a set keep their entries and order`) of the
dictionary primitives of IrisVerif/Model/Databox.lean, and of each databox operation.
-/
import IrisVerif.Lemmas.DataboxOps

namespace IrisVerif.Databox

/-- the part of a dictionary outside the name set `T`, in order -/
def frame {α : Type} (T : List String) (db : List (String × α)) : List (String × α) :=
  db.filter (fun p => !T.contains p.1)

/-- the names a sequence of operations may change, each operation's selection being resolved in the state it runs in -/
def touchedSeq {S V : Type} (o : SOps S) (db : Box S V) : List (Op S V) → List String
  | [] => []
  | op :: rest => touched o db op ++ (match applyOp o db op with
    | .ok db1 => touchedSeq o db1 rest
    | .error _ => [])

theorem frame_filter {α : Type} {T : List String} (q : String × α → Bool) (db : List (String × α))
    (h : ∀ p ∈ db, p.1 ∉ T → q p = true) : frame T (db.filter q) = frame T db := by
  unfold frame
  rw [List.filter_filter]
  refine List.filter_congr fun p hp => ?_
  by_cases hT : p.1 ∈ T
  · simp [hT]
  · simp [hT, h p hp hT]

theorem frame_frame {α : Type} {T1 T2 : List String} (h : ∀ n ∈ T1, n ∈ T2) (db : List (String × α)) :
    frame T2 (frame T1 db) = frame T2 db :=
  frame_filter _ db fun p _ hp => by simpa using fun h1 => hp (h _ h1)

theorem frame_mono {α : Type} {T1 T2 : List String} (h : ∀ n ∈ T1, n ∈ T2) {a b : List (String × α)}
    (e : frame T1 a = frame T1 b) : frame T2 a = frame T2 b := by
  rw [← frame_frame h a, e, frame_frame h b]

theorem frame_setKey {α : Type} {T : List String} {k : String} (hk : k ∈ T) (v : α) (db : List (String × α)) :
    frame T (setKey db k v) = frame T db := by
  induction db with
  | nil => simp [setKey, frame, hk]
  | cons p rest ih =>
    obtain ⟨k', v'⟩ := p
    unfold frame at ih ⊢
    rw [setKey]
    by_cases h : k' = k
    · subst h; simp [hk]
    · rw [if_neg h, List.filter_cons, List.filter_cons, ih]

theorem frame_map {α : Type} {T : List String} {h : String → α → α} {db : List (String × α)}
    (hT : ∀ p ∈ db, p.1 ∉ T → h p.1 p.2 = p.2) : frame T (db.map (fun p => (p.1, h p.1 p.2))) = frame T db := by
  unfold frame
  rw [List.filter_map]
  -- the map keeps the names, so the filter's test composed with it is the test itself
  refine (List.map_congr_left fun p hp => ?_).trans (List.map_id _)
  have ⟨hm, hn⟩ := List.mem_filter.1 hp
  exact Prod.ext rfl (hT p hm (by simpa using hn))

theorem frame_eq_nil {α : Type} {T : List String} (db : List (String × α)) (h : ∀ p ∈ db, p.1 ∈ T) :
    frame T db = [] :=
  List.filter_eq_nil_iff.mpr (fun p hp => by simp [List.contains_eq_mem, h p hp])

theorem lookup_frame {α : Type} (T : List String) (db : List (String × α)) (n : String) :
    lookup (frame T db) n = if n ∈ T then none else lookup db n := by
  rw [frame, lookup_filter_key (fun k => !T.contains k)]
  by_cases h : n ∈ T <;> simp [h]

section Frame
variable {S V : Type}

theorem popAll_frame {db db' : Box S V} {ns : List String} {vs : List (Item S V)} (h : popAll db ns = .ok (db', vs)) :
    db' = frame ns db := by
  rw [popAll_eq] at h
  split at h <;> cases h
  rfl

theorem assignAll_frame (T : List String) (l : List (String × Item S V)) (hT : ∀ p ∈ l, p.1 ∈ T) (db : Box S V) :
    frame T (assignAll db l) = frame T db :=
  List.foldlRecOn (motive := fun acc => frame T acc = frame T db) l _ rfl
    fun acc ih p hp => (frame_setKey (hT p hp) p.2 acc).trans ih

theorem renamePairs_frame {db db' : Box S V} {pairs : List (String × String)} (h : renamePairs db pairs = .ok db') :
    frame (pairs.map (·.1) ++ pairs.map (·.2)) db' = frame (pairs.map (·.1) ++ pairs.map (·.2)) db := by
  obtain ⟨⟨d, vs⟩, hp, e⟩ := Except.bind_eq_ok.1 h
  cases e
  rw [assignAll_frame _ _ fun p hp => List.mem_append_right _ (List.of_mem_zip hp).1, popAll_frame hp]
  exact frame_frame (fun n hn => List.mem_append_left _ hn) db

theorem removeNames_frame {db db' : Box S V} {ns : List String} (h : removeNames db ns = .ok db') : db' = frame ns db := by
  rw [removeNames_eq_popAll] at h
  obtain ⟨⟨d, vs⟩, hp, rfl⟩ := Except.map_eq_ok.1 h
  exact popAll_frame hp

theorem lay_frame {o : SOps S} {f : S → S → S} {db other db' : Box S V} {names : Option (List String)} {strict : Bool}
    (h : lay o f db other names strict = .ok db') :
    frame ((layNames db other names strict).filter (fun n => layAct o db other n = .apply)) db'
      = frame ((layNames db other names strict).filter (fun n => layAct o db other n = .apply)) db := by
  rw [lay_ok h]
  refine frame_map fun p _ hp => ?_
  unfold layItem
  rw [if_neg (by simpa [List.mem_filter] using hp)]

theorem clip_frame (o : SOps S) (db : Box S V) (f : BFreq) (lo hi : Option Int) :
    frame (touched o db (.clip f lo hi)) (clip o db f lo hi) = frame (touched o db (.clip f lo hi)) db := by
  by_cases hne : lo ≠ none ∨ hi ≠ none
  · have ht : touched o db (.clip f lo hi)
        = (db.filter fun p => match p.2 with | .ser s => o.freq s = f | _ => false).map (·.1) := by
      cases lo with
      | some a => rfl
      | none =>
        cases hi with
        | some b => rfl
        | none => simp at hne
    rw [ht, clip_eq o db f hne]
    refine frame_map (h := fun _ => clipItem o f lo hi) fun ⟨k, v⟩ hm hp => ?_
    cases v with
    | ser s =>
      have : o.freq s ≠ f := fun e => hp (mem_keys_of_mem (List.mem_filter.2 ⟨hm, by simpa using e⟩))
      simp [clipItem, this]
    | _ => rfl
  · obtain ⟨rfl, rfl⟩ : lo = none ∧ hi = none := by simpa using hne
    rfl

theorem mergeOne_frame {o : SOps S} {st : Strategy} {T : List String} {t db r : Box S V} {dup : Bool}
    (hT : ∀ k ∈ keys t, k ∈ T) (h : mergeOne o st db t = .ok (r, dup)) : frame T r = frame T db := by
  induction t generalizing db dup with
  | nil => cases h; rfl
  | cons p rest ih =>
    obtain ⟨w, dup', -, hr⟩ := mergeOne_cons h
    rw [ih (fun k hk => hT k (List.mem_cons_of_mem _ hk)) hr, frame_setKey (hT _ List.mem_cons_self)]

theorem merge_frame (o : SOps S) (st : Strategy) (others : List (Box S V)) (db db' : Box S V)
    (h : merge o st db others = .ok db') :
    frame ((others.map keys).flatten) db' = frame ((others.map keys).flatten) db := by
  induction others generalizing db with
  | nil => cases h; rfl
  | cons t rest ih =>
    obtain ⟨⟨db1, dup⟩, hm, h⟩ := Except.bind_eq_ok.mp h
    obtain ⟨r, hr, h⟩ := Except.bind_eq_ok.mp h
    obtain rfl : r = db' := by
      split at h
      · cases h
      · exact Except.ok.inj h
    simp only [List.map_cons, List.flatten_cons]
    rw [frame_mono (fun _ => List.mem_append_right _) (ih db1 hr),
      frame_mono (fun _ => List.mem_append_left _) (mergeOne_frame (fun _ hk => hk) hm)]

theorem resolveSources_names_subset {ctx l : List String} {strict : Bool} {n : String}
    (hn : n ∈ resolveSources ctx (.names l) strict) : n ∈ l := by
  unfold resolveSources at hn
  cases strict
  · exact (List.mem_filter.mp hn).1
  · exact hn

/-- everything is in `copy`'s touched set: the copy holds the targets only -/
theorem copy_frame (o : SOps S) (db db' : Box S V) (src : Option Sel) (tgt : Option Tgt) (strict : Bool)
    (h : copy db src tgt strict = .ok db') :
    frame (touched o db (.copy src tgt strict)) db' = frame (touched o db (.copy src tgt strict)) db := by
  -- `touched` of a copy is sources ++ targets ++ the names that are no target, and `copy` ends in `keep` of the targets:
  -- every name of either databox is touched
  have key : ∀ {sr tg : List String} {db1 : Box S V},
      frame (sr ++ tg ++ (keys db).filter (fun n => !tg.contains n)) (keep db1 (some (Sel.names tg)) strict)
        = frame (sr ++ tg ++ (keys db).filter (fun n => !tg.contains n)) db := by
    intro sr tg db1
    rw [frame_eq_nil db, frame_eq_nil]
    · intro p hp
      have : p.1 ∈ tg := resolveSources_names_subset (by simpa using (List.mem_filter.mp hp).2)
      exact List.mem_append_left _ (List.mem_append_right _ this)
    · intro p hp
      have hk : p.1 ∈ keys db := mem_keys_of_mem hp
      by_cases hc : p.1 ∈ tg
      · exact List.mem_append_left _ (List.mem_append_right _ hc)
      · exact List.mem_append_right _ (by simpa [hk] using hc)
  cases src <;> cases tgt
  · cases h; rfl
  all_goals
    obtain ⟨db1, _, h⟩ := Except.bind_eq_ok.mp h
    cases h
    exact key

end Frame

end IrisVerif.Databox
