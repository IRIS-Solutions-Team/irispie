/-
Lemmas for the CSV theorems of property C19 at the level of one series: what `Series.trim()` and `set_data` (the model's
`setData`) make of rows placed at a selection of periods -- a consecutive range or any list, in any order, with repetitions.
Core Lean only, like the model: hence the few general facts about lists that are proved here.
-/
import IrisVerif.Lemmas.GridCodec
import IrisVerif.Lemmas.Lists

namespace IrisVerif.Grid
open IrisVerif.Databox

/-- `Series` invariant after `trim()`: there is data and the first and last rows hold an observation.  `Ser` (Model/Databox.lean) is
the series as the containers of C19 move it around, cells being opaque tokens; the series with arithmetic is C10's `Series`, whose
`Trimmed` also admits the series without data -- here that one is the separate case of frequency UNKNOWN -/
def Trimmed {V : Type} (s : Ser V) : Prop :=
  (∃ r, s.rows.head? = some r ∧ allNan r = false) ∧ (∃ l, s.rows.getLast? = some l ∧ allNan l = false)

/-- decidable, so that concrete series can be checked by evaluation -/
instance {V : Type} (s : Ser V) : Decidable (Trimmed s) :=
  decidable_of_iff (s.rows.head?.any (fun r => !allNan r) = true ∧ s.rows.getLast?.any (fun r => !allNan r) = true)
    (by simp [Trimmed, Option.any_eq_true])

section
variable {V : Type}

theorem eq_nanRow_of_allNan (r : List (Option V)) (nv : Nat) (h1 : allNan r = true) (h2 : r.length = nv) : r = nanRow nv :=
  List.eq_replicate_iff.mpr ⟨h2, fun x hx => Option.isNone_iff_eq_none.1 (List.all_eq_true.mp h1 x hx)⟩

theorem trimmed_start_le_stop (s : Ser V) (h : Trimmed s) : s.start ≤ s.stop := by
  obtain ⟨⟨r, hr, _⟩, _⟩ := h
  obtain ⟨ys, hys⟩ := List.head?_eq_some_iff.mp hr
  simp only [Ser.stop, hys, List.length_cons]
  omega

theorem trim_pad (s : Ser V) (h : Trimmed s) (a b : Nat) :
    Ser.trim ⟨s.freq, s.start - a, s.nv, List.replicate a (nanRow s.nv) ++ s.rows ++ List.replicate b (nanRow s.nv), s.desc⟩
      = s := by
  obtain ⟨⟨r, hr, h1⟩, ⟨l, hl, h2⟩⟩ := h
  obtain ⟨f, st, nv, rows, d⟩ := s
  obtain ⟨ys, hys⟩ := List.head?_eq_some_iff.mp hr
  obtain ⟨zs, hzs⟩ := List.getLast?_eq_some_iff.mp hl
  simp only at hys hzs ⊢
  have hnan : ∀ n, ∀ x ∈ List.replicate n (nanRow nv : List (Option V)), allNan x = true :=
    fun n x hx => by rw [(List.mem_replicate.mp hx).2]; simp [allNan, nanRow]
  have hlead : (List.replicate a (nanRow nv) ++ rows ++ List.replicate b (nanRow nv)).takeWhile allNan
      = List.replicate a (nanRow nv) := by
    rw [List.append_assoc, List.takeWhile_append_of_pos (hnan a), hys, List.cons_append,
      List.takeWhile_cons_of_neg (by simp [h1]), List.append_nil]
  have hdrop : (List.replicate a (nanRow nv) ++ rows ++ List.replicate b (nanRow nv)).dropWhile allNan
      = rows ++ List.replicate b (nanRow nv) := by
    rw [List.append_assoc, List.dropWhile_append_of_pos (hnan a), hys, List.cons_append,
      List.dropWhile_cons_of_neg (by simp [h1])]
  have hback : ((rows ++ List.replicate b (nanRow nv)).reverse.dropWhile allNan).reverse = rows := by
    rw [List.reverse_append, List.reverse_replicate, List.dropWhile_append_of_pos (hnan b), hzs, List.reverse_append,
      List.reverse_singleton, List.singleton_append, List.dropWhile_cons_of_neg (by simp [h2])]
    simp
  simp only [Ser.trim, hlead, hdrop, hback]
  -- left: the core `rows` is not empty, and the start advances by the `a` rows dropped
  simp [hys]

theorem rowAt_core (f : BFreq) (st : Int) (nv : Nat) (d1 d2 : String) (L M T : List (List (Option V)))
    (hL : ∀ r ∈ L, r = nanRow nv) (hT : ∀ r ∈ T, r = nanRow nv) (t : Int) :
    (⟨f, st, nv, L ++ M ++ T, d1⟩ : Ser V).rowAt t = (⟨f, st + (L.length : Int), nv, M, d2⟩ : Ser V).rowAt t := by
  simp only [Ser.rowAt]
  by_cases h1 : st ≤ t
  · simp only [h1, if_true]
    by_cases h2 : (t - st).toNat < L.length
    · rw [if_neg (by omega), List.append_assoc, List.getElem?_append_left h2, List.getElem?_eq_getElem h2]
      exact hL _ (List.getElem_mem h2)
    · rw [if_pos (by omega), List.append_assoc, List.getElem?_append_right (by omega),
        show (t - st).toNat - L.length = (t - (st + (L.length : Int))).toNat by omega]
      by_cases h4 : (t - (st + (L.length : Int))).toNat < M.length
      · rw [List.getElem?_append_left h4]
      · rw [List.getElem?_append_right (by omega), List.getElem?_eq_none (l := M) (by omega)]
        cases hq : T[(t - (st + (L.length : Int))).toNat - M.length]? with
        | none => rfl
        | some r => exact hT r (List.mem_of_getElem? hq)
  · rw [if_neg h1, if_neg (by omega)]

theorem split_trailing {α : Type} (p : α → Bool) (l : List α) :
    l = (l.reverse.dropWhile p).reverse ++ (l.reverse.takeWhile p).reverse := by
  rw [← List.reverse_append, List.takeWhile_append_dropWhile, List.reverse_reverse]

theorem mem_takeWhile_imp {α : Type} {p : α → Bool} {l : List α} {x : α} (h : x ∈ l.takeWhile p) : p x = true :=
  List.all_eq_true.1 List.all_takeWhile x h

theorem map_rowAt_own (s : Ser V) : (periodsOf s.start s.stop).map s.rowAt = s.rows := by
  unfold periodsOf Ser.stop
  rw [show (s.start + (s.rows.length : Int) - 1 - s.start + 1).toNat = s.rows.length by omega, List.map_map]
  -- `rowAt` at `start + i` is `rows[i]?` with the NaN row as default, and a list read at its own positions is itself
  refine Eq.trans (List.map_congr_left fun i _ => ?_) ((map_getElem?_range s.rows (fun o => o.getD (nanRow s.nv))).trans (by simp))
  simp only [Function.comp, Ser.rowAt]
  rw [if_pos (by omega)]
  congr 2
  omega

theorem map_rowAt_pad (s : Ser V) (lo hi : Int) (h1 : lo ≤ s.start) (h2 : s.stop ≤ hi) :
    (periodsOf lo hi).map s.rowAt
      = List.replicate (s.start - lo).toNat (nanRow s.nv) ++ s.rows ++ List.replicate (hi - s.stop).toNat (nanRow s.nv) := by
  obtain ⟨f, st, nv, rows, d⟩ := s
  simp only [Ser.stop] at h1 h2 ⊢
  have key := map_rowAt_own (⟨f, lo, nv,
    List.replicate (st - lo).toNat (nanRow nv) ++ rows ++ List.replicate (hi - (st + (rows.length : Int) - 1)).toNat (nanRow nv), d⟩ : Ser V)
  rw [show Ser.stop (⟨f, lo, nv, _, d⟩ : Ser V) = hi by simp [Ser.stop]; omega] at key
  refine (List.map_congr_left fun t _ => ?_).trans key
  rw [rowAt_core f lo nv d d _ rows _ (fun r hr => (List.mem_replicate.mp hr).2) (fun r hr => (List.mem_replicate.mp hr).2) t,
    List.length_replicate, show lo + ((st - lo).toNat : Int) = st by omega]

end

/-! Writing rows into a list at the positions `κ k` of their keys `k`, one after the other. -/

theorem fill_range' {α β : Type} {κ : β → Nat} {rows : List α} {ks : List β} {k : Nat}
    (hκ : ks.map κ = List.range' k rows.length) {acc : List α} (h : acc.length = k + rows.length) :
    ((ks.zip rows).foldl (fun acc pr => acc.set (κ pr.1) pr.2) acc) = acc.take k ++ rows := by
  induction rows generalizing ks k acc with
  | nil => rw [List.zip_nil_right, List.foldl_nil, List.append_nil, List.take_of_length_le (by rw [h]; exact Nat.le_refl _)]
  | cons r rs ih =>
    cases ks with
    | nil => cases hκ
    | cons k0 ks =>
      rw [List.length_cons, List.range'_succ, List.map_cons, List.cons.injEq] at hκ
      rw [List.length_cons] at h
      rw [List.zip_cons_cons, List.foldl_cons, hκ.1, ih hκ.2 (by rw [List.length_set]; omega),
        List.take_add_one, List.take_set_of_le (Nat.le_refl k), List.getElem?_set_self (by omega)]
      simp

theorem fill_other {α β : Type} (κ : β → Nat) {ks : List β} {rows acc : List α} {j : Nat} (hj : ∀ x ∈ ks, κ x ≠ j) :
    ((ks.zip rows).foldl (fun acc pr => acc.set (κ pr.1) pr.2) acc)[j]? = acc[j]? :=
  List.foldlRecOn (motive := fun a => a[j]? = acc[j]?) _ _ rfl fun a ha pr hpr => by
    rw [List.getElem?_set_ne (hj _ (List.of_mem_zip hpr).1), ha]

theorem fill_at {α β : Type} (κ : β → Nat) {ks : List β} {rows acc : List α}
    (hinj : ∀ x ∈ ks, ∀ y ∈ ks, κ x = κ y → x = y) (hnd : ks.Nodup) (hlt : ∀ x ∈ ks, κ x < acc.length)
    {i : Nat} {x : β} {r : α} (hk : ks[i]? = some x) (hr : rows[i]? = some r) :
    ((ks.zip rows).foldl (fun acc pr => acc.set (κ pr.1) pr.2) acc)[κ x]? = some r := by
  induction ks generalizing rows acc i with
  | nil => simp at hk
  | cons k0 ks ih =>
    cases rows with
    | nil => simp at hr
    | cons r0 rs =>
      rw [List.zip_cons_cons, List.foldl_cons]
      have hnd' := List.nodup_cons.mp hnd
      cases i with
      | zero =>
        obtain rfl : k0 = x := by simpa using hk
        obtain rfl : r0 = r := by simpa using hr
        rw [fill_other κ (fun y hy e => hnd'.1 (hinj y (List.mem_cons_of_mem _ hy) k0 (by simp) e ▸ hy))]
        simp [hlt k0 (by simp)]
      | succ i' =>
        exact ih (fun a ha b hb => hinj a (List.mem_cons_of_mem _ ha) b (List.mem_cons_of_mem _ hb)) hnd'.2
          (fun a ha => by simpa using hlt a (List.mem_cons_of_mem _ ha)) (i := i') (by simpa using hk) (by simpa using hr)

theorem fill_fun {α β : Type} [DecidableEq β] (κ : β → Nat) (g : β → α) {ks : List β} {acc : List α} (y : β)
    (hinj : ∀ x ∈ ks, κ x = κ y → x = y) (hlt : ∀ x ∈ ks, κ x < acc.length) :
    ((ks.zip (ks.map g)).foldl (fun acc pr => acc.set (κ pr.1) pr.2) acc)[κ y]? = if y ∈ ks then some (g y) else acc[κ y]? := by
  induction ks generalizing acc with
  | nil => simp
  | cons k0 ks ih =>
    rw [List.map_cons, List.zip_cons_cons, List.foldl_cons,
      ih (fun x hx => hinj x (List.mem_cons_of_mem _ hx)) (fun x hx => by simpa using hlt x (List.mem_cons_of_mem _ hx))]
    by_cases h1 : y ∈ ks
    · simp [h1]
    · by_cases h2 : κ k0 = κ y
      · obtain rfl := hinj k0 (by simp) h2
        simp [hlt k0 (by simp)]
      · have : y ≠ k0 := fun e => h2 (e ▸ rfl)
        simp [h1, this, List.getElem?_set_ne h2]

section
variable {V : Type}

theorem mem_periodsOf {lo hi x : Int} : x ∈ periodsOf lo hi ↔ lo ≤ x ∧ x ≤ hi := by
  simp only [periodsOf, List.mem_map, List.mem_range]
  constructor
  · rintro ⟨i, hi, rfl⟩
    omega
  · intro h
    exact ⟨(x - lo).toNat, by omega, by omega⟩

theorem setData_consecutive {f : BFreq} {nv : Nat} {desc : String} (lo hi : Int) (h : lo ≤ hi)
    {rows : List (List (Option V))} (hr : rows.length = (hi - lo + 1).toNat) :
    setData f nv desc (periodsOf lo hi) rows = Ser.trim ⟨f, lo, nv, rows, desc⟩ := by
  have hκ : (periodsOf lo hi).map (fun x => (x - lo).toNat) = List.range' 0 rows.length := by
    rw [periodsOf, List.map_map, hr, ← List.range_eq_range']
    refine (List.map_congr_left fun i _ => ?_).trans (List.map_id' _)
    show (lo + (i : Int) - lo).toNat = i
    omega
  cases hp : periodsOf lo hi with
  | nil => exact absurd (hp ▸ mem_periodsOf.2 ⟨Int.le_refl lo, h⟩) List.not_mem_nil
  | cons p0 ps =>
    have hmem : ∀ x, x ∈ p0 :: ps ↔ lo ≤ x ∧ x ≤ hi := fun x => hp ▸ mem_periodsOf
    have hmin : ps.foldl min p0 = lo := foldl_min_iff.2 ⟨(hmem lo).2 ⟨Int.le_refl _, h⟩, fun x hx => ((hmem x).1 hx).1⟩
    have hmax : ps.foldl max p0 = hi := foldl_max_iff.2 ⟨(hmem hi).2 ⟨h, Int.le_refl _⟩, fun x hx => ((hmem x).1 hx).2⟩
    rw [setData]
    simp only [hmin, hmax]
    rw [← hp, fill_range' hκ (by rw [List.length_replicate, hr]; omega), List.take_zero, List.nil_append]

/-- `set_data` before the final `trim()` -/
def setDataRaw (f : BFreq) (nv : Nat) (desc : String) (p0 : Int) (ps : List Int) (rows : List (List (Option V))) : Ser V :=
  let lo := ps.foldl min p0
  let hi := ps.foldl max p0
  ⟨f, lo, nv, ((p0 :: ps).zip rows).foldl (fun acc pr => acc.set (pr.1 - lo).toNat pr.2)
    (List.replicate (hi - lo + 1).toNat (nanRow nv)), desc⟩

theorem setData_eq_trim_raw (f : BFreq) (nv : Nat) (desc : String) (p0 : Int) (ps : List Int) (rows : List (List (Option V))) :
    setData f nv desc (p0 :: ps) rows = (setDataRaw f nv desc p0 ps rows).trim := rfl

theorem setDataRaw_index (p0 : Int) (ps : List Int) :
    (∀ x ∈ p0 :: ps, ∀ y, ps.foldl min p0 ≤ y → (x - ps.foldl min p0).toNat = (y - ps.foldl min p0).toNat → x = y)
    ∧ ∀ x ∈ p0 :: ps, (x - ps.foldl min p0).toNat < (ps.foldl max p0 - ps.foldl min p0 + 1).toNat := by
  refine ⟨fun x hx y hy e => ?_, fun x hx => ?_⟩
  · have := foldl_min_le p0 ps x hx
    omega
  · have := foldl_min_le p0 ps x hx
    have := le_foldl_max p0 ps x hx
    omega

theorem blank_getD {n nv k : Nat} : ((List.replicate n (nanRow nv : List (Option V)))[k]?).getD (nanRow nv) = nanRow nv := by
  rw [List.getElem?_replicate]
  split <;> rfl

theorem setDataRaw_rowAt (f : BFreq) (nv : Nat) (desc : String) (p0 : Int) (ps : List Int) (rows : List (List (Option V)))
    (hnd : (p0 :: ps).Nodup) :
    (∀ (i : Nat) (p : Int) (r : List (Option V)), (p0 :: ps)[i]? = some p → rows[i]? = some r → (setDataRaw f nv desc p0 ps rows).rowAt p = r)
    ∧ (∀ p, p ∉ p0 :: ps → (setDataRaw f nv desc p0 ps rows).rowAt p = nanRow nv) := by
  obtain ⟨hinj, hlt⟩ := setDataRaw_index p0 ps
  have hlo := foldl_min_le p0 ps
  constructor
  · intro i p r hp hr
    simp only [setDataRaw, Ser.rowAt, hlo p (List.mem_of_getElem? hp), if_true]
    rw [fill_at (fun x => (x - ps.foldl min p0).toNat) (fun x hx y hy => hinj x hx y (hlo y hy)) hnd
      (fun x hx => by rw [List.length_replicate]; exact hlt x hx) hp hr]
    rfl
  · intro p hp
    by_cases h1 : ps.foldl min p0 ≤ p
    · simp only [setDataRaw, Ser.rowAt, h1, if_true]
      rw [fill_other (fun x => (x - ps.foldl min p0).toNat) (fun x hx e => hp (hinj x hx p h1 e ▸ hx))]
      exact blank_getD
    · simp only [setDataRaw, Ser.rowAt, h1, if_false]

theorem setDataRaw_rowAt_fun (f : BFreq) (nv : Nat) (desc : String) (p0 : Int) (ps : List Int) (F : Int → List (Option V)) (p : Int) :
    (setDataRaw f nv desc p0 ps ((p0 :: ps).map F)).rowAt p = if p ∈ p0 :: ps then F p else nanRow nv := by
  obtain ⟨hinj, hlt⟩ := setDataRaw_index p0 ps
  by_cases h1 : ps.foldl min p0 ≤ p
  · simp only [setDataRaw, Ser.rowAt, h1, if_true]
    rw [fill_fun (fun x => (x - ps.foldl min p0).toNat) F p (fun x hx => hinj x hx p h1)
      (fun x hx => by rw [List.length_replicate]; exact hlt x hx)]
    split
    · rfl
    · exact blank_getD
  · simp only [setDataRaw, Ser.rowAt, h1, if_false]
    rw [if_neg (fun hm => h1 (foldl_min_le p0 ps p hm))]

theorem setDataRaw_rows_width (f : BFreq) (nv : Nat) (desc : String) (p0 : Int) (ps : List Int) (rows : List (List (Option V)))
    (hr : ∀ r ∈ rows, r.length = nv) : ∀ r ∈ (setDataRaw f nv desc p0 ps rows).rows, r.length = nv := by
  refine List.foldlRecOn (motive := fun acc : List (List (Option V)) => ∀ r ∈ acc, r.length = nv) _ _
    (fun x hx => by rw [(List.mem_replicate.mp hx).2, nanRow, List.length_replicate]) fun acc hacc pr hpr x hx => ?_
  rcases List.mem_or_eq_of_mem_set hx with h | h
  · exact hacc x h
  · exact h ▸ hr _ (List.of_mem_zip hpr).2

/-- `set_data` of the series' own rows at the written periods -/
def reimport (dh : String × Ser V → String) (b : Block V) (p : String × Ser V) : String × Ser V :=
  (p.1, if b.freq = .U then Ser.empty p.2.nv (dh p)
        else setData b.freq p.2.nv (dh p) b.periods (b.periods.map p.2.rowAt))

theorem reimport_trimmed (dh : String × Ser V → String) (b : Block V) (p : String × Ser V) (lo hi : Int)
    (hf : b.freq ≠ .U) (hper : b.periods = periodsOf lo hi) (hpf : p.2.freq = b.freq) (htr : Trimmed p.2)
    (hlo : lo ≤ p.2.start) (hhi : p.2.stop ≤ hi) : reimport dh b p = withDesc dh p := by
  have hlh : lo ≤ hi := by have := trimmed_start_le_stop p.2 htr; omega
  simp only [reimport, hf, if_false, hper, withDesc]
  rw [setData_consecutive lo hi hlh (by simp [periodsOf]), map_rowAt_pad p.2 lo hi hlo hhi,
    ← trim_pad ({ p.2 with desc := dh p } : Ser V) htr (p.2.start - lo).toNat (hi - p.2.stop).toNat]
  congr 2
  simp only [Ser.mk.injEq, and_true]
  exact ⟨hpf.symm, by omega⟩

end

end IrisVerif.Grid
