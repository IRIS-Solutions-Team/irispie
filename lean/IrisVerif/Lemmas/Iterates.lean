/-
Folds over `List.range n` that keep their history, read through the iterates `iter f a0 k` of their step: an array
that pushes `f` of its last entry (`foldl_push_back`), a state with a list of outputs (`foldl_state_out`); and the
instance the first-order model uses, `FirstOrder.powers T n = #[1, T, …, T^n]`.  Props/BridgeC01Cert reads `geomArr` and `foldVE`
through them, BridgeC01Sim the powers.  Core Lean only.
-/
import IrisVerif.Model.FirstOrder

namespace IrisVerif.QMatBridge

open IrisVerif IrisVerif.QMat IrisVerif.FirstOrder

/-- `k`-fold iteration with the step index -/
def iter {α : Type} (f : α → Nat → α) (a0 : α) : Nat → α
  | 0 => a0
  | k + 1 => f (iter f a0 k) k

theorem foldl_push_back_eq {α : Type} [Inhabited α] (f : α → Nat → α) (a0 : α) (n : Nat) :
    (List.range n).foldl (fun acc k => acc.push (f acc.back! k)) #[a0] = ((List.range (n + 1)).map (iter f a0)).toArray := by
  induction n with
  | zero => rfl
  | succ n ih =>
    rw [List.range_succ, List.foldl_append, ih, List.range_succ (n := n + 1), List.map_append, List.map_singleton,
      ← List.push_toArray, List.foldl_cons, List.foldl_nil]
    have hb : ((List.range (n + 1)).map (iter f a0)).toArray.back! = iter f a0 n := by simp [List.range_succ]
    rw [hb]
    rfl

theorem foldl_push_back {α : Type} [Inhabited α] (f : α → Nat → α) (a0 : α) (n k : Nat) (hk : k ≤ n) :
    ((List.range n).foldl (fun acc k => acc.push (f acc.back! k)) #[a0])[k]? = some (iter f a0 k) := by
  rw [foldl_push_back_eq, List.getElem?_toArray, List.getElem?_map, List.getElem?_range (Nat.lt_succ_of_le hk)]
  rfl

theorem iter_powers (T : QMat) (k : Nat) : iter (fun x (_ : Nat) => x * T) (identity T.rows) k = pow T k := by
  induction k with
  | zero => rfl
  | succ k ih => exact congrArg (· * T) ih

theorem powers_getElem? (T : QMat) (n k : Nat) (hk : k ≤ n) : (powers T n)[k]? = some (pow T k) := by
  unfold powers
  rw [foldl_push_back (fun x (_ : Nat) => x * T) (identity T.rows) n k hk, iter_powers]

theorem powers_getD (T : QMat) (n k : Nat) (hk : k ≤ n) : (powers T n).getD k (QMat.zero 0 0) = pow T k := by
  rw [Array.getD_eq_getD_getElem?, powers_getElem? T n k hk, Option.getD_some]

theorem powers_size (T : QMat) (n : Nat) : (powers T n).size = n + 1 := by
  unfold powers
  rw [foldl_push_back_eq (fun x (_ : Nat) => x * T), List.size_toArray, List.length_map, List.length_range]

/-- a fold that carries a state and appends one output per step: the state is the iterate, the outputs are read off the
earlier iterates -/
theorem foldl_state_out {σ β : Type} (f : σ → Nat → σ) (g : σ → Nat → β) (s0 : σ) (n : Nat) :
    (List.range n).foldl (fun (p : σ × List β) k => (f p.1 k, p.2 ++ [g p.1 k])) (s0, [])
      = (iter f s0 n, (List.range n).map fun k => g (iter f s0 k) k) := by
  induction n with
  | zero => rfl
  | succ n ih => rw [List.range_succ, List.foldl_append, ih, List.map_append]; rfl

end IrisVerif.QMatBridge
