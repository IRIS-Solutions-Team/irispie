/-
Refinement lemmas connecting the executable rational matrices `IrisVerif.QMat` (`Model/QMat.lean`, core `Rat`,
`Array (Array Rat)`) to Mathlib matrices `Matrix (Fin r) (Fin c) ℚ`.

The bridge is the *view* `QMat.toMat a r c : Matrix (Fin r) (Fin c) ℚ := fun i j => a.get i j` (total, because
`QMat.get` is total: out-of-range reads give 0).  `QMat.toMatrix a = a.toMat a.rows a.cols` is the view at the
matrix's own dimensions and `QMat.toMatrix' a h₁ h₂` the view at dimensions proved equal to the own ones; the
clients use neither, they use `toMat r c` at the dimensions they name, through the rules of `Lemmas/QMatViews.lean`.  All
homomorphism lemmas are stated for `toMat` with the dimension equations as hypotheses (so that no dependent-type
casts appear); since every operation of `QMat` is defined through
`get`/`ofFn`, most need no `wellShaped` hypothesis at all -- it is needed exactly where an operation looks at the
raw `data` (`isZero`) or where two `QMat` values are to be *equal* (`ext_of_get`).

In order: entry formulas (`get_*`, total form with the range condition), dimensions, `wellShaped`, the views and the
homomorphism lemmas, `isZero`/`eqv`, the checked solver (`solveChecked`, `inverse`).
Nothing here looks at the elimination inside `solve`: the last part holds for whatever `solve` returns, because
`solveChecked` re-checks it.  That `solve` is correct and complete is `Lemmas/QMatSolve.lean`; `det` is not proved.
-/
import IrisVerif.Model.QMat
import Mathlib.Data.Matrix.Mul
import Mathlib.Data.Matrix.Diagonal
import Mathlib.Data.Matrix.Block
import Mathlib.Data.Matrix.ColumnRowPartitioned
import Mathlib.Algebra.BigOperators.Fin
import Mathlib.Data.Rat.Defs
import Mathlib.LinearAlgebra.Matrix.Kronecker
import Mathlib.LinearAlgebra.Matrix.Vec
import Mathlib.LinearAlgebra.Matrix.Trace
import Mathlib.LinearAlgebra.Matrix.Symmetric
import Mathlib.LinearAlgebra.Matrix.NonsingularInverse

namespace IrisVerif.QMat

open Matrix

theorem getD_map_range {α : Type} (n : Nat) (f : Nat → α) (i : Nat) (d : α) :
    ((Array.range n).map f).getD i d = if i < n then f i else d := by
  by_cases h : i < n <;> simp [h]

theorem get_ofFn (r c : Nat) (f : Nat → Nat → Rat) (i j : Nat) :
    (ofFn r c f).get i j = if i < r ∧ j < c then f i j else 0 := by
  unfold QMat.get QMat.ofFn
  rw [getD_map_range]
  by_cases hi : i < r
  · rw [if_pos hi, getD_map_range]
    exact if_congr (and_iff_right hi).symm rfl rfl
  · rw [if_neg hi, if_neg (fun h => hi h.1)]
    rfl

theorem get_ofFn_of_lt (r c : Nat) (f : Nat → Nat → Rat) (i j : Nat) (hi : i < r) (hj : j < c) :
    (ofFn r c f).get i j = f i j := by
  rw [get_ofFn, if_pos ⟨hi, hj⟩]

theorem get_ofFn_of_not (r c : Nat) (f : Nat → Nat → Rat) (i j : Nat) (h : ¬ (i < r ∧ j < c)) :
    (ofFn r c f).get i j = 0 := by
  rw [get_ofFn, if_neg h]

theorem foldl_sum (n : Nat) (f : Nat → Rat) :
    (List.range n).foldl (fun acc k => acc + f k) 0 = ∑ k ∈ Finset.range n, f k := by
  induction n with
  | zero => simp
  | succ n ih => rw [List.range_succ, List.foldl_append, ih, Finset.sum_range_succ]; simp

theorem get_zero (r c i j : Nat) : (zero r c).get i j = 0 := by
  unfold zero; rw [get_ofFn, ite_self]

theorem get_identity (n i j : Nat) :
    (identity n).get i j = if i < n ∧ j < n then (if i = j then 1 else 0) else 0 := by
  unfold identity; rw [get_ofFn]

theorem get_diag (v : QVec) (i j : Nat) :
    (diag v).get i j = if i < v.size ∧ j < v.size then (if i = j then v.getD i 0 else 0) else 0 := by
  unfold diag; rw [get_ofFn]

theorem get_transpose (a : QMat) (i j : Nat) :
    a.transpose.get i j = if i < a.cols ∧ j < a.rows then a.get j i else 0 := by
  unfold transpose; rw [get_ofFn]

theorem get_add (a b : QMat) (i j : Nat) :
    (a + b).get i j = if i < a.rows ∧ j < a.cols then a.get i j + b.get i j else 0 := by
  show (QMat.add a b).get i j = _
  unfold QMat.add; rw [get_ofFn]

theorem get_sub (a b : QMat) (i j : Nat) :
    (a - b).get i j = if i < a.rows ∧ j < a.cols then a.get i j - b.get i j else 0 := by
  show (QMat.sub a b).get i j = _
  unfold QMat.sub; rw [get_ofFn]

theorem get_neg (a : QMat) (i j : Nat) :
    (-a).get i j = if i < a.rows ∧ j < a.cols then - a.get i j else 0 := by
  show (QMat.neg a).get i j = _
  unfold QMat.neg; rw [get_ofFn]

theorem get_smul (k : Rat) (a : QMat) (i j : Nat) :
    (smul k a).get i j = if i < a.rows ∧ j < a.cols then k * a.get i j else 0 := by
  unfold smul; rw [get_ofFn]

theorem get_mul (a b : QMat) (i j : Nat) :
    (a * b).get i j =
      if i < a.rows ∧ j < b.cols then ∑ k ∈ Finset.range a.cols, a.get i k * b.get k j else 0 := by
  show (QMat.mul a b).get i j = _
  unfold QMat.mul; rw [get_ofFn, foldl_sum]

theorem get_col (v : QVec) (i j : Nat) :
    (col v).get i j = if i < v.size ∧ j < 1 then v.getD i 0 else 0 := by
  unfold col; rw [get_ofFn]

/-- `col v` read in column 0 is `v.getD`, in range or not -/
theorem get_col_zero (v : QVec) (i : Nat) : (col v).get i 0 = v.getD i 0 := by
  rw [get_col]
  by_cases h : i < v.size
  · rw [if_pos ⟨h, Nat.one_pos⟩]
  · rw [if_neg (fun h' => h h'.1), Array.getD, dif_neg h]

theorem toVec_size (a : QMat) : a.toVec.size = a.rows := by rw [toVec, Array.size_map, Array.size_range]

theorem toVec_getD (a : QMat) (i : Nat) : a.toVec.getD i 0 = if i < a.rows then a.get i 0 else 0 :=
  getD_map_range a.rows _ i 0

theorem get_hstack (a b : QMat) (i j : Nat) :
    (hstack a b).get i j =
      if i < a.rows ∧ j < a.cols + b.cols then (if j < a.cols then a.get i j else b.get i (j - a.cols)) else 0 := by
  unfold hstack; rw [get_ofFn]

theorem get_hstack_left (a b : QMat) (i j : Nat) (hi : i < a.rows) (hj : j < a.cols) :
    (hstack a b).get i j = a.get i j := by
  rw [get_hstack, if_pos ⟨hi, Nat.lt_add_right _ hj⟩, if_pos hj]

theorem get_hstack_right (a b : QMat) (i j : Nat) (hi : i < a.rows) (hj : j < b.cols) :
    (hstack a b).get i (a.cols + j) = b.get i j := by
  rw [get_hstack, if_pos ⟨hi, Nat.add_lt_add_left hj _⟩, if_neg (Nat.not_lt.2 (Nat.le_add_right _ _)),
    Nat.add_sub_cancel_left]

theorem get_vstack (a b : QMat) (i j : Nat) :
    (vstack a b).get i j =
      if i < a.rows + b.rows ∧ j < a.cols then (if i < a.rows then a.get i j else b.get (i - a.rows) j) else 0 := by
  unfold vstack; rw [get_ofFn]

theorem get_vstack_top (a b : QMat) (i j : Nat) (hi : i < a.rows) (hj : j < a.cols) :
    (vstack a b).get i j = a.get i j := by
  rw [get_vstack, if_pos ⟨Nat.lt_add_right _ hi, hj⟩, if_pos hi]

theorem get_vstack_bottom (a b : QMat) (i j : Nat) (hi : i < b.rows) (hj : j < a.cols) :
    (vstack a b).get (a.rows + i) j = b.get i j := by
  rw [get_vstack, if_pos ⟨Nat.add_lt_add_left hi _, hj⟩, if_neg (Nat.not_lt.2 (Nat.le_add_right _ _)),
    Nat.add_sub_cancel_left]

theorem get_selectRows (a : QMat) (idx : List Nat) (i j : Nat) :
    (selectRows a idx).get i j = if i < idx.length ∧ j < a.cols then a.get (idx.getD i 0) j else 0 := by
  unfold selectRows; rw [get_ofFn]

theorem get_selectCols (a : QMat) (idx : List Nat) (i j : Nat) :
    (selectCols a idx).get i j = if i < a.rows ∧ j < idx.length then a.get i (idx.getD j 0) else 0 := by
  unfold selectCols; rw [get_ofFn]

theorem get_block (a : QMat) (r0 r1 c0 c1 i j : Nat) :
    (block a r0 r1 c0 c1).get i j = if i < r1 - r0 ∧ j < c1 - c0 then a.get (r0 + i) (c0 + j) else 0 := by
  unfold block; rw [get_ofFn]

theorem get_kron (a b : QMat) (i j : Nat) :
    (kron a b).get i j =
      if i < a.rows * b.rows ∧ j < a.cols * b.cols
      then a.get (i / b.rows) (j / b.cols) * b.get (i % b.rows) (j % b.cols) else 0 := by
  unfold kron; rw [get_ofFn]

theorem get_unvec (r c : Nat) (v : QVec) (i j : Nat) :
    (unvec r c v).get i j = if i < r ∧ j < c then v.getD (j * r + i) 0 else 0 := by
  unfold unvec; rw [get_ofFn]

theorem vec_size (a : QMat) : a.vec.size = a.rows * a.cols := by rw [vec, Array.size_map, Array.size_range]

theorem vec_getD (a : QMat) (k : Nat) :
    a.vec.getD k 0 = if k < a.rows * a.cols then a.get (k % a.rows) (k / a.rows) else 0 :=
  getD_map_range _ _ k 0

@[simp] theorem ofFn_rows (r c : Nat) (f : Nat → Nat → Rat) : (ofFn r c f).rows = r := rfl
@[simp] theorem ofFn_cols (r c : Nat) (f : Nat → Nat → Rat) : (ofFn r c f).cols = c := rfl
@[simp] theorem zero_rows (r c : Nat) : (zero r c).rows = r := rfl
@[simp] theorem zero_cols (r c : Nat) : (zero r c).cols = c := rfl
@[simp] theorem identity_rows (n : Nat) : (identity n).rows = n := rfl
@[simp] theorem identity_cols (n : Nat) : (identity n).cols = n := rfl
@[simp] theorem diag_rows (v : QVec) : (diag v).rows = v.size := rfl
@[simp] theorem diag_cols (v : QVec) : (diag v).cols = v.size := rfl
@[simp] theorem transpose_rows (a : QMat) : a.transpose.rows = a.cols := rfl
@[simp] theorem transpose_cols (a : QMat) : a.transpose.cols = a.rows := rfl
@[simp] theorem add_rows (a b : QMat) : (a + b).rows = a.rows := rfl
@[simp] theorem add_cols (a b : QMat) : (a + b).cols = a.cols := rfl
@[simp] theorem sub_rows (a b : QMat) : (a - b).rows = a.rows := rfl
@[simp] theorem sub_cols (a b : QMat) : (a - b).cols = a.cols := rfl
@[simp] theorem neg_rows (a : QMat) : (-a).rows = a.rows := rfl
@[simp] theorem neg_cols (a : QMat) : (-a).cols = a.cols := rfl
@[simp] theorem smul_rows (k : Rat) (a : QMat) : (smul k a).rows = a.rows := rfl
@[simp] theorem smul_cols (k : Rat) (a : QMat) : (smul k a).cols = a.cols := rfl
@[simp] theorem mul_rows (a b : QMat) : (a * b).rows = a.rows := rfl
@[simp] theorem mul_cols (a b : QMat) : (a * b).cols = b.cols := rfl
@[simp] theorem col_rows (v : QVec) : (col v).rows = v.size := rfl
@[simp] theorem col_cols (v : QVec) : (col v).cols = 1 := rfl
@[simp] theorem mulVec_size (a : QMat) (v : QVec) : (a.mulVec v).size = a.rows := by
  unfold mulVec; rw [toVec_size]; rfl
@[simp] theorem hstack_rows (a b : QMat) : (hstack a b).rows = a.rows := rfl
@[simp] theorem hstack_cols (a b : QMat) : (hstack a b).cols = a.cols + b.cols := rfl
@[simp] theorem vstack_rows (a b : QMat) : (vstack a b).rows = a.rows + b.rows := rfl
@[simp] theorem vstack_cols (a b : QMat) : (vstack a b).cols = a.cols := rfl
@[simp] theorem selectRows_rows (a : QMat) (idx : List Nat) : (selectRows a idx).rows = idx.length := rfl
@[simp] theorem selectRows_cols (a : QMat) (idx : List Nat) : (selectRows a idx).cols = a.cols := rfl
@[simp] theorem selectCols_rows (a : QMat) (idx : List Nat) : (selectCols a idx).rows = a.rows := rfl
@[simp] theorem selectCols_cols (a : QMat) (idx : List Nat) : (selectCols a idx).cols = idx.length := rfl
@[simp] theorem block_rows (a : QMat) (r0 r1 c0 c1 : Nat) : (block a r0 r1 c0 c1).rows = r1 - r0 := rfl
@[simp] theorem block_cols (a : QMat) (r0 r1 c0 c1 : Nat) : (block a r0 r1 c0 c1).cols = c1 - c0 := rfl
@[simp] theorem kron_rows (a b : QMat) : (kron a b).rows = a.rows * b.rows := rfl
@[simp] theorem kron_cols (a b : QMat) : (kron a b).cols = a.cols * b.cols := rfl
@[simp] theorem unvec_rows (r c : Nat) (v : QVec) : (unvec r c v).rows = r := rfl
@[simp] theorem unvec_cols (r c : Nat) (v : QVec) : (unvec r c v).cols = c := rfl

@[simp] theorem pow_rows (a : QMat) (n : Nat) : (pow a n).rows = a.rows := by
  induction n with
  | zero => rfl
  | succ n ih => show (pow a n * a).rows = _; rw [mul_rows, ih]

theorem pow_zero_cols (a : QMat) : (pow a 0).cols = a.rows := rfl
@[simp] theorem pow_succ_cols (a : QMat) (n : Nat) : (pow a (n + 1)).cols = a.cols := rfl

theorem pow_cols (a : QMat) (h : a.rows = a.cols) (n : Nat) : (pow a n).cols = a.cols := by
  cases n with
  | zero => exact h
  | succ n => rfl

theorem wellShaped_iff (a : QMat) :
    a.wellShaped = true ↔ a.data.size = a.rows ∧ ∀ i (h : i < a.data.size), (a.data[i]).size = a.cols := by
  unfold wellShaped
  simp only [Bool.and_eq_true, beq_iff_eq, Array.all_eq_true]

@[simp] theorem wellShaped_ofFn (r c : Nat) (f : Nat → Nat → Rat) : (ofFn r c f).wellShaped = true := by
  rw [wellShaped_iff]
  simp [ofFn]

@[simp] theorem wellShaped_zero (r c : Nat) : (zero r c).wellShaped = true := wellShaped_ofFn _ _ _
@[simp] theorem wellShaped_identity (n : Nat) : (identity n).wellShaped = true := wellShaped_ofFn _ _ _
@[simp] theorem wellShaped_diag (v : QVec) : (diag v).wellShaped = true := wellShaped_ofFn _ _ _
@[simp] theorem wellShaped_transpose (a : QMat) : a.transpose.wellShaped = true := wellShaped_ofFn _ _ _
@[simp] theorem wellShaped_add (a b : QMat) : (a + b).wellShaped = true := wellShaped_ofFn _ _ _
@[simp] theorem wellShaped_sub (a b : QMat) : (a - b).wellShaped = true := wellShaped_ofFn _ _ _
@[simp] theorem wellShaped_neg (a : QMat) : (-a).wellShaped = true := wellShaped_ofFn _ _ _
@[simp] theorem wellShaped_smul (k : Rat) (a : QMat) : (smul k a).wellShaped = true := wellShaped_ofFn _ _ _
@[simp] theorem wellShaped_mul (a b : QMat) : (a * b).wellShaped = true := wellShaped_ofFn _ _ _
@[simp] theorem wellShaped_col (v : QVec) : (col v).wellShaped = true := wellShaped_ofFn _ _ _
@[simp] theorem wellShaped_hstack (a b : QMat) : (hstack a b).wellShaped = true := wellShaped_ofFn _ _ _
@[simp] theorem wellShaped_vstack (a b : QMat) : (vstack a b).wellShaped = true := wellShaped_ofFn _ _ _
@[simp] theorem wellShaped_selectRows (a : QMat) (idx : List Nat) : (selectRows a idx).wellShaped = true :=
  wellShaped_ofFn _ _ _
@[simp] theorem wellShaped_selectCols (a : QMat) (idx : List Nat) : (selectCols a idx).wellShaped = true :=
  wellShaped_ofFn _ _ _
@[simp] theorem wellShaped_block (a : QMat) (r0 r1 c0 c1 : Nat) : (block a r0 r1 c0 c1).wellShaped = true :=
  wellShaped_ofFn _ _ _
@[simp] theorem wellShaped_kron (a b : QMat) : (kron a b).wellShaped = true := wellShaped_ofFn _ _ _
@[simp] theorem wellShaped_unvec (r c : Nat) (v : QVec) : (unvec r c v).wellShaped = true := wellShaped_ofFn _ _ _
@[simp] theorem wellShaped_pow (a : QMat) (n : Nat) : (pow a n).wellShaped = true := by
  cases n with
  | zero => exact wellShaped_ofFn _ _ _
  | succ n => exact wellShaped_ofFn _ _ _

theorem eq_ofFn_of_wellShaped (a : QMat) (hw : a.wellShaped = true) : a = ofFn a.rows a.cols a.get := by
  obtain ⟨h1, h2⟩ := (wellShaped_iff a).1 hw
  obtain ⟨r, c, d⟩ := a
  simp only at h1 h2
  subst h1
  unfold ofFn
  congr 1
  apply Array.ext
  · simp
  · intro i hi1 hi2
    apply Array.ext
    · simp [h2 i hi1]
    · intro j hj1 hj2
      simp [QMat.get, Array.getD, hi1, hj1]

theorem get_of_out (a : QMat) (hw : a.wellShaped = true) (i j : Nat) (h : a.rows ≤ i ∨ a.cols ≤ j) :
    a.get i j = 0 := by
  rw [eq_ofFn_of_wellShaped a hw]
  exact get_ofFn_of_not _ _ _ i j (not_and_or.2 (h.imp Nat.not_lt.2 Nat.not_lt.2))

theorem grid_congr {α : Type} (r c : Nat) (f g : Nat → Nat → α) (h : ∀ i j, i < r → j < c → f i j = g i j) :
    (Array.range r).map (fun i => (Array.range c).map (fun j => f i j))
      = (Array.range r).map (fun i => (Array.range c).map (fun j => g i j)) :=
  Array.map_congr_left fun i hi => Array.map_congr_left fun j hj => h i j (Array.mem_range.1 hi) (Array.mem_range.1 hj)

theorem ext_of_get (a b : QMat) (ha : a.wellShaped = true) (hb : b.wellShaped = true)
    (hr : a.rows = b.rows) (hc : a.cols = b.cols)
    (h : ∀ i j, i < a.rows → j < a.cols → a.get i j = b.get i j) : a = b := by
  rw [eq_ofFn_of_wellShaped a ha, eq_ofFn_of_wellShaped b hb, ← hr, ← hc]
  exact congrArg (QMat.mk a.rows a.cols) (grid_congr _ _ _ _ h)

/-- the `r × c` view of a `QMat` as a Mathlib matrix (total: entries outside the stored data read 0) -/
def toMat (a : QMat) (r c : Nat) : Matrix (Fin r) (Fin c) ℚ := fun i j => a.get i j

abbrev toMatrix (a : QMat) : Matrix (Fin a.rows) (Fin a.cols) ℚ := a.toMat a.rows a.cols

/-- the view at dimensions proved equal to the own ones (no cast appears: it *is* `toMat a r c`) -/
abbrev toMatrix' (a : QMat) {r c : Nat} (_h₁ : a.rows = r) (_h₂ : a.cols = c) : Matrix (Fin r) (Fin c) ℚ :=
  a.toMat r c

def _root_.IrisVerif.QVec.toFn (v : QVec) (n : Nat) : Fin n → ℚ := fun i => v.getD i 0

@[simp] theorem toMat_apply (a : QMat) (r c : Nat) (i : Fin r) (j : Fin c) : a.toMat r c i j = a.get i j := rfl
@[simp] theorem _root_.IrisVerif.QVec.toFn_apply (v : QVec) (n : Nat) (i : Fin n) : QVec.toFn v n i = v.getD i 0 := rfl

theorem toMatrix_eq (a : QMat) : a.toMatrix = a.toMat a.rows a.cols := rfl
theorem toMatrix'_eq (a : QMat) {r c : Nat} (h₁ : a.rows = r) (h₂ : a.cols = c) : a.toMatrix' h₁ h₂ = a.toMat r c := rfl

theorem toMatrix'_eq_cast (a : QMat) {r c : Nat} (h₁ : a.rows = r) (h₂ : a.cols = c) :
    a.toMatrix' h₁ h₂ = a.toMatrix.submatrix (Fin.cast h₁.symm) (Fin.cast h₂.symm) := by
  ext i j; rfl

theorem toMat_eq_iff (a b : QMat) (r c : Nat) :
    a.toMat r c = b.toMat r c ↔ ∀ i j, i < r → j < c → a.get i j = b.get i j :=
  ⟨fun h i j hi hj => congrFun (congrFun h ⟨i, hi⟩) ⟨j, hj⟩, fun h => Matrix.ext fun i j => h i j i.isLt j.isLt⟩

theorem toMat_ofFn (r c : Nat) (f : Nat → Nat → Rat) :
    (ofFn r c f).toMat r c = Matrix.of (fun (i : Fin r) (j : Fin c) => f i j) := by
  ext i j
  exact get_ofFn_of_lt r c f i j i.isLt j.isLt

theorem eq_of_toMat_eq (a b : QMat) (ha : a.wellShaped = true) (hb : b.wellShaped = true)
    (hr : a.rows = b.rows) (hc : a.cols = b.cols) (h : a.toMatrix = b.toMat a.rows a.cols) : a = b :=
  ext_of_get a b ha hb hr hc ((toMat_eq_iff a b _ _).1 h)

theorem toMat_zero (r c r' c' : Nat) : (zero r c).toMat r' c' = 0 := by
  ext i j; exact get_zero r c i j

theorem toMat_identity (n : Nat) : (identity n).toMat n n = 1 := by
  rw [identity, toMat_ofFn]
  ext i j
  exact if_congr Fin.ext_iff.symm rfl rfl

theorem toMat_diag (v : QVec) (n : Nat) (hn : v.size = n) : (diag v).toMat n n = Matrix.diagonal (QVec.toFn v n) := by
  subst hn
  rw [diag, toMat_ofFn]
  ext i j
  exact if_congr Fin.ext_iff.symm rfl rfl

/- Where an operation is an `ofFn` of its entry formula and the Mathlib operation is entrywise by definition, the view
is `toMat_ofFn` once both sides are unfolded. -/

theorem toMat_transpose (a : QMat) (r c : Nat) (hr : a.rows = r) (hc : a.cols = c) :
    a.transpose.toMat c r = (a.toMat r c)ᵀ := by
  subst hr hc
  exact toMat_ofFn _ _ _

theorem toMat_add (a b : QMat) (r c : Nat) (hr : a.rows = r) (hc : a.cols = c) :
    (a + b).toMat r c = a.toMat r c + b.toMat r c := by
  subst hr hc
  exact toMat_ofFn _ _ _

theorem toMat_sub (a b : QMat) (r c : Nat) (hr : a.rows = r) (hc : a.cols = c) :
    (a - b).toMat r c = a.toMat r c - b.toMat r c := by
  subst hr hc
  exact toMat_ofFn _ _ _

theorem toMat_neg (a : QMat) (r c : Nat) (hr : a.rows = r) (hc : a.cols = c) :
    (-a).toMat r c = - a.toMat r c := by
  subst hr hc
  exact toMat_ofFn _ _ _

theorem toMat_smul (k : Rat) (a : QMat) (r c : Nat) (hr : a.rows = r) (hc : a.cols = c) :
    (smul k a).toMat r c = k • a.toMat r c := by
  subst hr hc
  exact toMat_ofFn _ _ _

/-- multiplication: the left-to-right fold over `List.range` is the `Finset` sum of `Matrix.mul` -/
theorem toMat_mul (a b : QMat) (r k c : Nat) (hr : a.rows = r) (hk : a.cols = k) (hc : b.cols = c) :
    (a * b).toMat r c = a.toMat r k * b.toMat k c := by
  subst hr hk hc
  ext i j
  rw [toMat_apply, get_mul, if_pos ⟨i.isLt, j.isLt⟩, Matrix.mul_apply]
  exact (Fin.sum_univ_eq_sum_range (fun k => a.get i k * b.get k j) a.cols).symm

theorem toFn_toVec (a : QMat) (r : Nat) (hr : a.rows = r) : QVec.toFn a.toVec r = fun (i : Fin r) => a.get i 0 := by
  subst hr
  funext i
  rw [QVec.toFn_apply, toVec_getD, if_pos i.isLt]

theorem toMat_col (v : QVec) (n : Nat) : (col v).toMat n 1 = Matrix.replicateCol (Fin 1) (QVec.toFn v n) := by
  ext i j
  obtain rfl : j = 0 := Subsingleton.elim _ _
  exact get_col_zero v i

/-- `hstack` is `Matrix.fromCols` up to the canonical `Fin c₁ ⊕ Fin c₂ ≃ Fin (c₁ + c₂)` -/
theorem toMat_hstack (a b : QMat) (r c₁ c₂ : Nat) (hr : a.rows = r) (hc₁ : a.cols = c₁) (hc₂ : b.cols = c₂) :
    (hstack a b).toMat r (c₁ + c₂) =
      (Matrix.fromCols (a.toMat r c₁) (b.toMat r c₂)).submatrix id finSumFinEquiv.symm := by
  subst hr hc₁ hc₂
  ext i j
  refine Fin.addCases (fun j => ?_) (fun j => ?_) j
  · rw [Matrix.submatrix_apply, finSumFinEquiv_symm_apply_castAdd, Matrix.fromCols_apply_inl]
    exact get_hstack_left a b i j i.isLt j.isLt
  · rw [Matrix.submatrix_apply, finSumFinEquiv_symm_apply_natAdd, Matrix.fromCols_apply_inr]
    exact get_hstack_right a b i j i.isLt j.isLt

/-- `vstack` is `Matrix.fromRows` up to the canonical `Fin r₁ ⊕ Fin r₂ ≃ Fin (r₁ + r₂)` -/
theorem toMat_vstack (a b : QMat) (r₁ r₂ c : Nat) (hr₁ : a.rows = r₁) (hr₂ : b.rows = r₂) (hc : a.cols = c) :
    (vstack a b).toMat (r₁ + r₂) c =
      (Matrix.fromRows (a.toMat r₁ c) (b.toMat r₂ c)).submatrix finSumFinEquiv.symm id := by
  subst hr₁ hr₂ hc
  ext i j
  refine Fin.addCases (fun i => ?_) (fun i => ?_) i
  · rw [Matrix.submatrix_apply, finSumFinEquiv_symm_apply_castAdd, Matrix.fromRows_apply_inl]
    exact get_vstack_top a b i j i.isLt j.isLt
  · rw [Matrix.submatrix_apply, finSumFinEquiv_symm_apply_natAdd, Matrix.fromRows_apply_inr]
    exact get_vstack_bottom a b i j i.isLt j.isLt

/-- `block a r0 r1 c0 c1` is the submatrix of any view of `a` that is large enough -/
theorem toMat_block (a : QMat) (r0 r1 c0 c1 R C : Nat) (hR : r1 ≤ R) (hC : c1 ≤ C) :
    (block a r0 r1 c0 c1).toMat (r1 - r0) (c1 - c0) =
      (a.toMat R C).submatrix (fun (i : Fin (r1 - r0)) => ⟨r0 + i, by have := i.isLt; omega⟩)
        (fun (j : Fin (c1 - c0)) => ⟨c0 + j, by have := j.isLt; omega⟩) :=
  toMat_ofFn _ _ _

theorem toMat_eq_fromBlocks (a : QMat) (r₁ r₂ c₁ c₂ : Nat) :
    a.toMat (r₁ + r₂) (c₁ + c₂) =
      (Matrix.fromBlocks
        ((block a 0 r₁ 0 c₁).toMat r₁ c₁) ((block a 0 r₁ c₁ (c₁ + c₂)).toMat r₁ c₂)
        ((block a r₁ (r₁ + r₂) 0 c₁).toMat r₂ c₁) ((block a r₁ (r₁ + r₂) c₁ (c₁ + c₂)).toMat r₂ c₂)).submatrix
        finSumFinEquiv.symm finSumFinEquiv.symm := by
  ext i j
  refine Fin.addCases (fun i => ?_) (fun i => ?_) i <;> refine Fin.addCases (fun j => ?_) (fun j => ?_) j <;>
    simp [finSumFinEquiv_symm_apply_castAdd, finSumFinEquiv_symm_apply_natAdd, get_block]

theorem toMat_vstack_hstack (a b c d : QMat) (r₁ r₂ c₁ c₂ : Nat) (har : a.rows = r₁) (hac : a.cols = c₁)
    (hbc : b.cols = c₂) (hcr : c.rows = r₂) (hcc : c.cols = c₁) (hdc : d.cols = c₂) :
    (vstack (hstack a b) (hstack c d)).toMat (r₁ + r₂) (c₁ + c₂) =
      (Matrix.fromBlocks (a.toMat r₁ c₁) (b.toMat r₁ c₂) (c.toMat r₂ c₁) (d.toMat r₂ c₂)).submatrix
        finSumFinEquiv.symm finSumFinEquiv.symm := by
  rw [toMat_vstack (hstack a b) (hstack c d) r₁ r₂ (c₁ + c₂) har hcr (by rw [hstack_cols, hac, hbc]),
    toMat_hstack a b r₁ c₁ c₂ har hac hbc, toMat_hstack c d r₂ c₁ c₂ hcr hcc hdc,
    ← Matrix.fromRows_fromCols_eq_fromBlocks]
  ext i j
  rw [Matrix.submatrix_apply, Matrix.submatrix_apply]
  cases finSumFinEquiv.symm i <;> rfl

/-- column 0 of a sum, of a product and of a stack, read as vectors (the form in which one-column matrices stand for
vectors) -/
theorem col0_add (a b : QMat) (r : Nat) (hr : a.rows = r) (hc : 0 < a.cols) :
    (fun i : Fin r => (a + b).get i 0) = (fun i : Fin r => a.get i 0) + fun i : Fin r => b.get i 0 := by
  subst hr
  funext i
  rw [get_add, if_pos ⟨i.isLt, hc⟩]
  rfl

theorem col0_mul (a b : QMat) (r k : Nat) (hr : a.rows = r) (hk : a.cols = k) (hc : 0 < b.cols) :
    (fun i : Fin r => (a * b).get i 0) = a.toMat r k *ᵥ fun j : Fin k => b.get j 0 := by
  subst hr hk
  funext i
  rw [get_mul, if_pos ⟨i.isLt, hc⟩]
  exact (Fin.sum_univ_eq_sum_range (fun k => a.get i k * b.get k 0) a.cols).symm

theorem col0_vstack (p q : QMat) (r₁ r₂ : Nat) (hr₁ : p.rows = r₁) (hr₂ : q.rows = r₂) (hc : p.cols = 1) :
    (fun i : Fin (r₁ + r₂) => (vstack p q).get i 0) =
      Sum.elim (fun i : Fin r₁ => p.get i 0) (fun i : Fin r₂ => q.get i 0) ∘ finSumFinEquiv.symm := by
  subst hr₁ hr₂
  funext i
  refine Fin.addCases (fun i => ?_) (fun i => ?_) i
  · rw [Function.comp_apply, finSumFinEquiv_symm_apply_castAdd, Sum.elim_inl]
    exact get_vstack_top p q i 0 i.isLt (hc ▸ Nat.one_pos)
  · rw [Function.comp_apply, finSumFinEquiv_symm_apply_natAdd, Sum.elim_inr]
    exact get_vstack_bottom p q i 0 i.isLt (hc ▸ Nat.one_pos)

/-- matrix-vector product (`v` need not have the matching length: missing entries read 0 on both sides) -/
theorem toFn_mulVec (a : QMat) (v : QVec) (r k : Nat) (hr : a.rows = r) (hk : a.cols = k) :
    QVec.toFn (a.mulVec v) r = a.toMat r k *ᵥ QVec.toFn v k := by
  rw [QMat.mulVec, toFn_toVec (a * col v) r hr, col0_mul a (col v) r k hr hk Nat.one_pos]
  exact congrArg _ (funext fun j => get_col_zero v j)

theorem toMat_selectRows (a : QMat) (idx : List Nat) (R c : Nat) (hc : a.cols = c)
    (hidx : ∀ i, i < idx.length → idx.getD i 0 < R) :
    (selectRows a idx).toMat idx.length c =
      (a.toMat R c).submatrix (fun (i : Fin idx.length) => ⟨idx.getD i 0, hidx i i.isLt⟩) id := by
  subst hc
  exact toMat_ofFn _ _ _

theorem toMat_selectCols (a : QMat) (idx : List Nat) (r C : Nat) (hr : a.rows = r)
    (hidx : ∀ j, j < idx.length → idx.getD j 0 < C) :
    (selectCols a idx).toMat r idx.length =
      (a.toMat r C).submatrix id (fun (j : Fin idx.length) => ⟨idx.getD j 0, hidx j j.isLt⟩) := by
  subst hr
  exact toMat_ofFn _ _ _

theorem toMat_pow (a : QMat) (n : Nat) (hr : a.rows = n) (hc : a.cols = n) (k : Nat) :
    (pow a k).toMat n n = (a.toMat n n) ^ k := by
  induction k with
  | zero =>
    show (identity a.rows).toMat n n = _
    rw [hr, toMat_identity, _root_.pow_zero]
  | succ k ih =>
    show (pow a k * a).toMat n n = _
    rw [toMat_mul (pow a k) a n n n (by rw [pow_rows, hr]) (by rw [pow_cols a (hr.trans hc.symm), hc]) hc, ih,
      _root_.pow_succ]

/-- `kron` is `Matrix.kroneckerMap (· * ·)` up to the canonical `Fin m × Fin n ≃ Fin (m * n)` -/
theorem toMat_kron (a b : QMat) (r₁ c₁ r₂ c₂ : Nat) (hr₁ : a.rows = r₁) (hc₁ : a.cols = c₁)
    (hr₂ : b.rows = r₂) (hc₂ : b.cols = c₂) :
    (kron a b).toMat (r₁ * r₂) (c₁ * c₂) =
      (Matrix.kroneckerMap (· * ·) (a.toMat r₁ c₁) (b.toMat r₂ c₂)).submatrix
        finProdFinEquiv.symm finProdFinEquiv.symm := by
  subst hr₁ hc₁ hr₂ hc₂
  -- `finProdFinEquiv.symm k` is `(k / n, k % n)` by definition
  exact toMat_ofFn _ _ _

/-- `vec` is column-major: Mathlib's `Matrix.vec` up to `Fin c × Fin r ≃ Fin (c * r)` -/
theorem toFn_vec (a : QMat) (r c : Nat) (hr : a.rows = r) (hc : a.cols = c) (p : Fin c × Fin r) :
    QVec.toFn a.vec (c * r) (finProdFinEquiv p) = Matrix.vec (a.toMat r c) p := by
  subst hr hc
  obtain ⟨j, i⟩ := p
  have hlt : (i : Nat) + a.rows * (j : Nat) < a.rows * a.cols :=
    Nat.mul_comm a.cols a.rows ▸ (finProdFinEquiv (j, i)).isLt
  rw [QVec.toFn_apply, finProdFinEquiv_apply_val, vec_getD, if_pos hlt, Nat.add_mul_mod_self_left,
    Nat.mod_eq_of_lt i.isLt, Nat.add_mul_div_left _ _ i.pos, Nat.div_eq_of_lt i.isLt, Nat.zero_add]
  rfl

theorem toMat_unvec (r c : Nat) (v : QVec) :
    (unvec r c v).toMat r c = Matrix.of (fun (i : Fin r) (j : Fin c) => v.getD (j * r + i) 0) :=
  toMat_ofFn r c _

theorem trace_eq (a : QMat) (n : Nat) (hr : a.rows = n) : a.trace = Matrix.trace (a.toMat n n) := by
  subst hr
  unfold QMat.trace
  rw [foldl_sum, Matrix.trace]
  exact (Fin.sum_univ_eq_sum_range (fun i => a.get i i) a.rows).symm

theorem all_getD {α : Type} {p : α → Bool} {xs : Array α} (h : xs.all p = true) {d : α} (hd : p d = true) (i : Nat) :
    p (xs.getD i d) = true := by
  unfold Array.getD
  split
  · exact Array.all_eq_true.1 h i _
  · exact hd

/-- `isZero` forces every read to be 0 (no shape hypothesis: a missing entry reads 0 anyway) -/
theorem get_of_isZero (a : QMat) (h : a.isZero = true) (i j : Nat) : a.get i j = 0 :=
  beq_iff_eq.1 (all_getD (all_getD h Array.all_empty i) (beq_self_eq_true 0) j)

theorem isZero_ofFn_iff (r c : Nat) (f : Nat → Nat → Rat) :
    (ofFn r c f).isZero = true ↔ ∀ i j, i < r → j < c → f i j = 0 := by
  constructor
  · intro h i j hi hj
    have := get_of_isZero _ h i j
    rwa [get_ofFn_of_lt _ _ _ _ _ hi hj] at this
  · intro h
    unfold isZero ofFn
    simp only [Array.all_eq_true, beq_iff_eq]
    intro i hi j hj
    simp only [Array.size_map, Array.size_range, Array.getElem_map, Array.getElem_range] at hi hj ⊢
    exact h i j hi hj

theorem isZero_iff_get (a : QMat) (hw : a.wellShaped = true) :
    a.isZero = true ↔ ∀ i j, i < a.rows → j < a.cols → a.get i j = 0 := by
  constructor
  · intro h i j _ _
    exact get_of_isZero a h i j
  · intro h
    rw [eq_ofFn_of_wellShaped a hw, isZero_ofFn_iff]
    exact h

theorem isZero_iff (a : QMat) (hw : a.wellShaped = true) : a.isZero = true ↔ a.toMatrix = 0 := by
  rw [isZero_iff_get a hw, ← toMat_zero a.rows a.cols a.rows a.cols, toMat_eq_iff]
  simp only [get_zero]

theorem toMat_of_isZero (a : QMat) (h : a.isZero = true) (r c : Nat) : a.toMat r c = 0 := by
  ext i j
  exact get_of_isZero a h i j

/-- `eqv`: equal dimensions and equal entries within them (no shape hypothesis is needed: `a - b` is an `ofFn`) -/
theorem eqv_iff_get (a b : QMat) :
    eqv a b = true ↔ a.rows = b.rows ∧ a.cols = b.cols ∧ ∀ i j, i < a.rows → j < a.cols → a.get i j = b.get i j := by
  unfold eqv
  simp only [Bool.and_eq_true, beq_iff_eq]
  have : (a - b).isZero = true ↔ ∀ i j, i < a.rows → j < a.cols → a.get i j = b.get i j := by
    show (QMat.sub a b).isZero = true ↔ _
    unfold QMat.sub
    rw [isZero_ofFn_iff]
    exact forall_congr' fun i => forall_congr' fun j => forall_congr' fun _ => forall_congr' fun _ => sub_eq_zero
  rw [this, and_assoc]

theorem eqv_iff (a b : QMat) :
    eqv a b = true ↔ a.rows = b.rows ∧ a.cols = b.cols ∧ a.toMatrix = b.toMat a.rows a.cols := by
  rw [eqv_iff_get, toMat_eq_iff]

theorem toMat_eq_of_eqv (a b : QMat) (h : eqv a b = true) (r c : Nat) (hr : a.rows = r) (hc : a.cols = c) :
    a.toMat r c = b.toMat r c ∧ b.rows = r ∧ b.cols = c := by
  subst hr hc
  obtain ⟨h1, h2, h3⟩ := (eqv_iff a b).1 h
  exact ⟨h3, h1.symm, h2.symm⟩

theorem eq_of_eqv (a b : QMat) (ha : a.wellShaped = true) (hb : b.wellShaped = true) (h : eqv a b = true) : a = b := by
  obtain ⟨h1, h2, h3⟩ := (eqv_iff_get a b).1 h
  exact ext_of_get a b ha hb h1 h2 h3

theorem eqv_refl (a : QMat) : eqv a a = true := (eqv_iff_get a a).2 ⟨rfl, rfl, fun _ _ _ _ => rfl⟩

theorem isSymmetric_iff (a : QMat) (n : Nat) (hr : a.rows = n) :
    a.isSymmetric = true ↔ a.cols = n ∧ (a.toMat n n).IsSymm := by
  subst hr
  unfold isSymmetric
  rw [Bool.and_eq_true, beq_iff_eq, eqv_iff]
  constructor
  · rintro ⟨h1, -, -, h3⟩
    unfold toMatrix at h3
    rw [← h1] at h3
    exact ⟨h1.symm, (toMat_transpose a a.rows a.rows rfl h1.symm).symm.trans h3.symm⟩
  · rintro ⟨h1, h2⟩
    refine ⟨h1.symm, h1.symm, h1, ?_⟩
    unfold toMatrix
    rw [h1, toMat_transpose a a.rows a.rows rfl h1]
    exact h2.symm

/-! ## The checked solver

Without looking at the elimination: `solveChecked` -- the only form in which the models call `solve` -- returns only
exact solutions, with the right dimensions and a well-shaped result. -/

/-- what `solve` guarantees without looking at the elimination: the side conditions, the dimensions, the shape -/
theorem solve_dims (a b x : QMat) (h : solve a b = some x) :
    a.cols = a.rows ∧ b.rows = a.rows ∧ x.rows = a.rows ∧ x.cols = b.cols ∧ x.wellShaped = true := by
  unfold solve at h
  split at h
  · cases h
  · rename_i hcond
    simp only [Bool.or_eq_true, bne_iff_ne, ne_eq, not_or, Decidable.not_not] at hcond
    split at h
    · cases h
    · cases h
      exact ⟨hcond.1.symm, hcond.2.symm, Nat.sub_zero _, Nat.add_sub_cancel_left _ _, wellShaped_block _ _ _ _ _⟩

theorem solveChecked_eq_some (a b x : QMat) (h : solveChecked a b = some x) :
    solve a b = some x ∧ eqv (a * x) b = true := by
  unfold solveChecked at h
  cases hs : solve a b with
  | none => rw [hs] at h; cases h
  | some x' =>
    rw [hs] at h
    obtain ⟨hchk, hx⟩ := Option.ite_none_right_eq_some.1 h
    cases hx
    exact ⟨rfl, hchk⟩

/-- Soundness of the checked solver.  If `solveChecked a b = some x` then `a` is square `n × n`, `b` and `x` are
`n × m`, `x` is well-shaped and `A X = B` holds for the Mathlib views. -/
theorem solveChecked_sound (a b x : QMat) (h : solveChecked a b = some x) :
    a.cols = a.rows ∧ b.rows = a.rows ∧ x.rows = a.rows ∧ x.cols = b.cols ∧ x.wellShaped = true ∧
      a.toMat a.rows a.rows * x.toMat a.rows b.cols = b.toMat a.rows b.cols := by
  obtain ⟨hs, he⟩ := solveChecked_eq_some a b x h
  obtain ⟨h1, h2, h3, h4, h5⟩ := solve_dims a b x hs
  refine ⟨h1, h2, h3, h4, h5, ?_⟩
  have := (toMat_eq_of_eqv (a * x) b he a.rows b.cols rfl (by rw [mul_cols, h4])).1
  rw [← this, toMat_mul a x a.rows a.rows b.cols rfl h1 h4]

/-- `inverse` returns a right inverse; the matrices being square over a field, the view of `a` is then invertible
and the result is *the* inverse (next two) -/
theorem inverse_sound (a x : QMat) (h : inverse a = some x) :
    a.cols = a.rows ∧ x.rows = a.rows ∧ x.cols = a.rows ∧ x.wellShaped = true ∧
      a.toMat a.rows a.rows * x.toMat a.rows a.rows = 1 := by
  unfold inverse at h
  obtain ⟨h1, _, h3, h4, h5, h6⟩ := solveChecked_sound a _ x h
  rw [identity_cols] at h4 h6
  rw [toMat_identity] at h6
  exact ⟨h1, h3, h4, h5, h6⟩

theorem inverse_isUnit_det (a x : QMat) (h : inverse a = some x) : IsUnit (a.toMat a.rows a.rows).det := by
  obtain ⟨-, -, -, -, hax⟩ := inverse_sound a x h
  exact Matrix.isUnit_det_of_right_inverse hax

theorem inverse_eq_inv (a x : QMat) (h : inverse a = some x) : x.toMat a.rows a.rows = (a.toMat a.rows a.rows)⁻¹ := by
  obtain ⟨-, -, -, -, hax⟩ := inverse_sound a x h
  exact (Matrix.inv_eq_right_inv hax).symm

/-! ## Non-vacuity: the checked solver does return solutions (kernel evaluation of the executable code) -/

example : (solveChecked (ofRows [[2, 1], [1, 3]]) (ofRows [[1, 0, 4], [2, 5, 0]])).isSome = true := by decide +kernel
example : (inverse (ofRows [[0, 1], [1, 3]])).isSome = true := by decide +kernel      -- needs a row swap
example : (inverse (ofRows [[1, 2], [2, 4]])).isSome = false := by decide +kernel     -- singular
example : (ofRows [[1, 2], [3, 4]]).wellShaped = true := by decide +kernel

end IrisVerif.QMat
