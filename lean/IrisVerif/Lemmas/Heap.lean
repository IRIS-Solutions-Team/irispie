/-
Frame lemmas for the model/variant heap (C20).  Two notions carry everything:

* `Ext W h0 h`: "`h` was obtained from `h0` by writing only inside the region `W` and into objects allocated since
  (`frame`: an object of `h0` outside `W` is what it was), and every pointer stored in that part of the heap stays inside
  it (`closed`, the part being `Side W h0.next h.next`)";
* `Writes W n0 h h'`: "`h'` comes from `h` by a sequence of the elementary writes the operations are made of, all of them
  inside `W` or inside what was allocated from `n0` on".  Every operation is such a sequence (`step_writes`), so an
  invariant of the heap has to be checked against the four elementary writes only (`Writes.keep`).
-/
import IrisVerif.Model.Heap
import IrisVerif.Lemmas.Monads

namespace IrisVerif.Heap

/-- nothing is stored at or above the allocation pointer -/
def Heap.WF (h : Heap) : Prop := ∀ r, h.next ≤ r → h.get r = none

/-- `C` is closed under the pointers stored in `h` -/
def Closed (C : Ref → Prop) (h : Heap) : Prop :=
  ∀ x o, C x → h.get x = some o → ∀ y, y ∈ o.refs → C y

/-- the region `W` together with everything allocated in `[n0, n1)` -/
def Side (W : Ref → Prop) (n0 n1 : Nat) : Ref → Prop := fun x => W x ∨ (n0 ≤ x ∧ x < n1)

theorem Side.of_le {W : Ref → Prop} {n0 n1 x : Nat} (h0 : n0 ≤ x) (h1 : x < n1) : Side W n0 n1 x :=
  Or.inr ⟨h0, h1⟩

theorem Side.mono {W : Ref → Prop} {n0 n1 n2 : Nat} (h12 : n1 ≤ n2) {x : Ref} (hx : Side W n0 n1 x) :
    Side W n0 n2 x :=
  hx.imp_right fun a => ⟨a.1, Nat.lt_of_lt_of_le a.2 h12⟩

structure Ext (W : Ref → Prop) (h0 h : Heap) : Prop where
  next_le : h0.next ≤ h.next
  frame : ∀ r, r < h0.next → ¬ W r → h.get r = h0.get r
  wf : h.WF
  closed : Closed (Side W h0.next h.next) h

@[simp] theorem Heap.get_set (h : Heap) (x : Ref) (o : Obj) (r : Ref) :
    (h.set x o).get r = if r = x then some o else h.get r := rfl

@[simp] theorem Heap.next_set (h : Heap) (x : Ref) (o : Obj) : (h.set x o).next = h.next := rfl

@[simp] theorem Heap.get_alloc (h : Heap) (o : Obj) (r : Ref) :
    (h.alloc o).2.get r = if r = h.next then some o else h.get r := rfl

theorem Heap.get_alloc_self (h : Heap) (o : Obj) : (h.alloc o).2.get h.next = some o := if_pos rfl

@[simp] theorem Heap.next_alloc (h : Heap) (o : Obj) : (h.alloc o).2.next = h.next + 1 := rfl

@[simp] theorem Heap.fst_alloc (h : Heap) (o : Obj) : (h.alloc o).1 = h.next := rfl

theorem Ext.side_mono {W : Ref → Prop} {h0 h h' : Heap} (_e : Ext W h0 h) (e' : Ext W h0 h')
    (hle : h.next ≤ h'.next) {x : Ref} (hx : Side W h0.next h.next x) : Side W h0.next h'.next x := by
  have _ := e'
  exact Side.mono hle hx

variable {W : Ref → Prop} {n0 : Nat} {h0 h h' : Heap}

theorem Heap.WF.lt_of_get {h : Heap} (hw : h.WF) {x : Ref} {o : Obj} (hx : h.get x = some o) : x < h.next := by
  apply Nat.lt_of_not_le
  intro hle
  rw [hw x hle] at hx
  cases hx

theorem Heap.WF.set (hw : h.WF) {x : Ref} {ox : Obj} (hx : h.get x = some ox) (o : Obj) :
    (h.set x o).WF := by
  intro r hr
  rw [Heap.get_set, if_neg (Nat.ne_of_gt (Nat.lt_of_lt_of_le (hw.lt_of_get hx) hr))]
  exact hw r hr

theorem Heap.WF.alloc (hw : h.WF) (o : Obj) : (h.alloc o).2.WF := by
  intro r hr
  rw [Heap.get_alloc, if_neg (Nat.ne_of_gt hr)]
  exact hw r (Nat.le_of_succ_le hr)

theorem Heap.WF.get_alloc_of_get (hw : h.WF) {r : Ref} {o : Obj} (hg : h.get r = some o) (ob : Obj) :
    (h.alloc ob).2.get r = some o := by
  rw [Heap.get_alloc, if_neg (Nat.ne_of_lt (hw.lt_of_get hg))]
  exact hg

/-- a new variant object that shows `o`, with two dicts (and a solution object) of its own: what `Variant.copy` and
`from_source` allocate -/
def Heap.allocVariant (h : Heap) (o : VarObs) : Ref × Heap :=
  let h2 := ((h.alloc (.dict o.levels)).2.alloc (.dict o.changes)).2
  match o.sol with
  | none => h2.alloc (.var h.next (h.next + 1) none)
  | some sd => (h2.alloc (.sol sd)).2.alloc (.var h.next (h.next + 1) (some (h.next + 1 + 1)))

theorem Heap.allocVariant_fresh (h : Heap) (o : VarObs) :
    h.next + 1 < (h.allocVariant o).1 ∧ (h.allocVariant o).2.next = (h.allocVariant o).1 + 1 := by
  obtain ⟨lv, cv, _ | sd⟩ := o
  · exact ⟨Nat.lt_succ_self _, rfl⟩
  · exact ⟨Nat.lt_succ_of_lt (Nat.lt_succ_self _), rfl⟩

theorem Ext.refl (hw : h.WF) (hc : Closed W h) : Ext W h h where
  next_le := Nat.le_refl _
  frame := fun _ _ _ => rfl
  wf := hw
  closed x o hx hg y hy := Or.inl (hc x o (hx.elim id fun a => absurd a.2 (Nat.not_lt.mpr a.1)) hg y hy)

theorem Closed.top : Closed (fun _ => True) h := fun _ _ _ _ _ _ => trivial

/-- no confinement at all: what is left of `Ext` is well-formedness -/
theorem Ext.top (hw : h.WF) : Ext (fun _ => True) h h :=
  Ext.refl hw Closed.top

/-- nothing but allocation: `Ext (fun _ => False) h h'` says that `h'` still holds every object of `h`, unmodified -/
theorem Ext.triv (hw : h.WF) : Ext (fun _ => False) h h :=
  Ext.refl hw (fun _ _ hx => hx.elim)

theorem Ext.alloc (e : Ext W h0 h) (o : Obj)
    (ho : ∀ y, y ∈ o.refs → Side W h0.next h.next y) : Ext W h0 (h.alloc o).2 where
  next_le := Nat.le_succ_of_le e.next_le
  frame r hr hW := by
    rw [Heap.get_alloc, if_neg (Nat.ne_of_lt (Nat.lt_of_lt_of_le hr e.next_le)), e.frame r hr hW]
  wf := e.wf.alloc o
  closed x o' hx hg y hy := by
    apply Side.mono (Nat.le_succ h.next)
    rw [Heap.get_alloc] at hg
    split at hg
    · cases hg
      exact ho y hy
    · exact e.closed x o' (hx.imp_right fun a => ⟨a.1, e.wf.lt_of_get hg⟩) hg y hy

theorem Ext.set (e : Ext W h0 h) {x : Ref} (o : Obj) {o' : Obj}
    (hx : Side W h0.next h.next x) (hg : h.get x = some o')
    (ho : ∀ y, y ∈ o.refs → Side W h0.next h.next y) : Ext W h0 (h.set x o) where
  next_le := e.next_le
  frame r hr hW := by
    have : r ≠ x := by
      rintro rfl
      exact hx.elim hW fun a => Nat.not_lt.mpr a.1 hr
    rw [Heap.get_set, if_neg this, e.frame r hr hW]
  wf := e.wf.set hg o
  closed z oz hz hgz y hy := by
    rw [Heap.get_set] at hgz
    split at hgz
    · cases hgz
      exact ho y hy
    · exact e.closed z oz hz hgz y hy

theorem Ext.side_of_le (e : Ext W h0 h) {n x : Nat} (h1 : h.next ≤ x) (h2 : x < n) :
    Side W h0.next n x :=
  .of_le (Nat.le_trans e.next_le h1) h2

theorem no_refs {P : Ref → Prop} {o : Obj} (h : o.refs = []) (y : Ref) (hy : y ∈ o.refs) : P y := by
  rw [h] at hy
  cases hy

theorem forall_refs_model {P : Ref → Prop} {i : Ref} {vs : List Ref} :
    (∀ y, y ∈ (Obj.model i vs).refs → P y) ↔ P i ∧ ∀ v, v ∈ vs → P v := List.forall_mem_cons

theorem forall_refs_var {P : Ref → Prop} {l c : Ref} {s : Option Ref} :
    (∀ y, y ∈ (Obj.var l c s).refs → P y) ↔ P l ∧ P c ∧ ∀ sr, s = some sr → P sr := by
  rw [Obj.refs, List.forall_mem_cons, List.forall_mem_cons]
  simp only [Option.mem_toList]

theorem Closed.var {C : Ref → Prop} (hc : Closed C h) {v l c : Ref} {s : Option Ref} (hv : C v)
    (hg : h.get v = some (.var l c s)) : C l ∧ C c ∧ ∀ sr, s = some sr → C sr :=
  forall_refs_var.mp (hc v _ hv hg)

theorem Closed.model {C : Ref → Prop} (hc : Closed C h) {m i : Ref} {vs : List Ref} (hm : C m)
    (hg : h.get m = some (.model i vs)) : C i ∧ ∀ v, v ∈ vs → C v :=
  forall_refs_model.mp (hc m _ hm hg)

theorem Ext.allocVariant (e : Ext W h0 h) (o : VarObs) :
    Ext W h0 (h.allocVariant o).2 := by
  have e2 := (e.alloc (.dict o.levels) (no_refs rfl)).alloc (.dict o.changes) (no_refs rfl)
  unfold Heap.allocVariant
  have s0 := e.side_of_le (Nat.le_refl _) (Nat.lt_succ_of_lt (Nat.lt_succ_self h.next))
  have s1 := e.side_of_le (Nat.le_succ _) (Nat.lt_succ_self (h.next + 1))
  cases o.sol with
  | none => exact e2.alloc _ (forall_refs_var.mpr ⟨s0, s1, nofun⟩)
  | some sd =>
    refine (e2.alloc (.sol sd) (no_refs rfl)).alloc _ (forall_refs_var.mpr ⟨?_, ?_, ?_⟩)
    · exact Side.mono (Nat.le_succ _) s0
    · exact Side.mono (Nat.le_succ _) s1
    · rintro _ ⟨⟩
      exact e.side_of_le (Nat.le_add_right _ 2) (Nat.lt_succ_self _)

def Obj.isVar : Obj → Bool
  | .var _ _ _ => true
  | _ => false

/-- the four ways in which the operations change the heap, each confined to the region `W` and to the objects allocated
from `n0` on.  A variant object is created together with its dicts and is never overwritten except for its solution
pointer: this is what makes the ownership invariant of `Lemmas/HeapOwned.lean` an invariant. -/
inductive Write (W : Ref → Prop) (n0 : Nat) (h : Heap) : Heap → Prop
  | alloc (o : Obj) (hv : o.isVar = false) (ho : ∀ y, y ∈ o.refs → Side W n0 h.next y) : Write W n0 h (h.alloc o).2
  | allocVariant (o : VarObs) : Write W n0 h (h.allocVariant o).2
  | set {x : Ref} {ox : Obj} (o : Obj) (hg : h.get x = some ox) (hx : Side W n0 h.next x) (hvx : ox.isVar = false)
      (hv : o.isVar = false) (ho : ∀ y, y ∈ o.refs → Side W n0 h.next y) : Write W n0 h (h.set x o)
  | setSol {v l c : Ref} {s : Option Ref} (sr : Ref) (hg : h.get v = some (.var l c s)) (hx : Side W n0 h.next v)
      (hs : Side W n0 h.next sr) : Write W n0 h (h.set v (.var l c (some sr)))

inductive Writes (W : Ref → Prop) (n0 : Nat) : Heap → Heap → Prop
  | refl (h : Heap) : Writes W n0 h h
  | head {h h1 h2 : Heap} : Write W n0 h h1 → Writes W n0 h1 h2 → Writes W n0 h h2

theorem Writes.trans {h h1 h2 : Heap} (w : Writes W n0 h h1) (w' : Writes W n0 h1 h2) :
    Writes W n0 h h2 := by
  induction w with
  | refl => exact w'
  | head a _ ih => exact .head a (ih w')

theorem Writes.single (w : Write W n0 h h') : Writes W n0 h h' :=
  .head w (.refl _)

theorem Writes.keep {I : Heap → Prop} (hI : ∀ {h h'}, I h → Write W n0 h h' → I h')
    (w : Writes W n0 h h') (hi : I h) : I h' := by
  induction w with
  | refl => exact hi
  | head a _ ih => exact ih (hI hi a)

theorem Write.next_le (w : Write W n0 h h') : h.next ≤ h'.next := by
  cases w with
  | alloc => exact Nat.le_succ _
  | allocVariant o =>
    have f := h.allocVariant_fresh o
    omega
  | set => exact Nat.le_refl _
  | setSol => exact Nat.le_refl _

theorem Writes.next_le (w : Writes W n0 h h') : h.next ≤ h'.next :=
  w.keep (I := fun h1 => h.next ≤ h1.next) (fun hi a => Nat.le_trans hi a.next_le) (Nat.le_refl _)

theorem Write.ext (e : Ext W h0 h) (w : Write W h0.next h h') : Ext W h0 h' := by
  cases w with
  | alloc o _ ho => exact e.alloc o ho
  | allocVariant o => exact e.allocVariant o
  | set o hg hx _ _ ho => exact e.set o hx hg ho
  | setSol sr hg hx hs =>
    obtain ⟨sl, sc, _⟩ := e.closed.var hx hg
    exact e.set _ hx hg (forall_refs_var.mpr ⟨sl, sc, by rintro _ ⟨⟩; exact hs⟩)

theorem Writes.ext (w : Writes W h0.next h h') (e : Ext W h0 h) : Ext W h0 h' :=
  w.keep Write.ext e

/-- a sequence of writes that touches nothing old leaves every object where it was -/
theorem Writes.sub (w : Writes (fun _ => False) h.next h h') (hw : h.WF) {r : Ref} {o : Obj}
    (hg : h.get r = some o) : h'.get r = some o := by
  rw [(w.ext (Ext.triv hw)).frame r (hw.lt_of_get hg) id]
  exact hg

theorem getModel_ok {m i : Ref} {vs : List Ref} {d : InvData} :
    getModel h m = .ok (i, vs, d) ↔ h.get m = some (.model i vs) ∧ h.get i = some (.inv d) := by
  unfold getModel
  constructor
  · intro hm
    split at hm
    · rename_i i' vs' hg
      split at hm
      · rename_i d' hi
        cases hm
        exact ⟨hg, hi⟩
      · cases hm
    · cases hm
  · rintro ⟨h1, h2⟩
    simp only [h1, h2]

theorem getVar_ok {v l c : Ref} {s : Option Ref} {lv cv : List Val} :
    getVar h v = .ok (l, c, s, lv, cv) ↔
      h.get v = some (.var l c s) ∧ h.get l = some (.dict lv) ∧ h.get c = some (.dict cv) := by
  unfold getVar
  constructor
  · intro hv
    split at hv
    · rename_i l' c' s' hg
      split at hv
      · rename_i lv' cv' hl hc
        cases hv
        exact ⟨hg, hl, hc⟩
      · cases hv
    · cases hv
  · rintro ⟨h1, h2, h3⟩
    simp only [h1, h2, h3]

theorem observeVar_eq_some {v : Ref} {o : VarObs} : observeVar h v = some o ↔
    ∃ l c s, getVar h v = .ok (l, c, s, o.levels, o.changes) ∧
      match s with
      | none => o.sol = none
      | some sr => ∃ sd, h.get sr = some (.sol sd) ∧ o.sol = some sd := by
  unfold observeVar
  constructor
  · intro ho
    split at ho
    · rename_i l c s lv cv hgv
      split at ho
      · cases ho
        exact ⟨l, c, none, hgv, rfl⟩
      · rename_i sr
        split at ho
        · rename_i sd hsd
          cases ho
          exact ⟨l, c, some sr, hgv, sd, hsd, rfl⟩
        · cases ho
    · cases ho
  · rintro ⟨l, c, s, hgv, hs⟩
    obtain ⟨lv, cv, so⟩ := o
    cases s with
    | none =>
      cases hs
      simp only [hgv]
    | some sr =>
      obtain ⟨sd, hsd, rfl⟩ := hs
      simp only [hgv, hsd]

theorem observeVars_cons {v : Ref} {vs : List Ref} {os : List VarObs} :
    observeVars h (v :: vs) = some os ↔
      ∃ o os', observeVar h v = some o ∧ observeVars h vs = some os' ∧ os = o :: os' := by
  rw [observeVars]
  constructor
  · intro ho
    split at ho
    · rename_i o os' h1 h2
      cases ho
      exact ⟨o, os', h1, h2, rfl⟩
    · cases ho
  · rintro ⟨o, os', h1, h2, rfl⟩
    simp only [h1, h2]

theorem observe_eq_some {m : Ref} {obs : Obs} : observe h m = some obs ↔
    ∃ i vs, getModel h m = .ok (i, vs, obs.inv) ∧ observeVars h vs = some obs.vars := by
  unfold observe
  constructor
  · intro ho
    split at ho
    · rename_i i vs d hm
      split at ho
      · rename_i os hv
        cases ho
        exact ⟨i, vs, hm, hv⟩
      · cases ho
    · cases ho
  · rintro ⟨i, vs, hm, hv⟩
    simp only [hm, hv]

/-! A successful observation has read objects of a region closed under the stored pointers only: it survives in every heap
that still holds the objects of that region.  Read in both directions this is `observe_agree`. -/

theorem observeVar_mono {B : Ref → Prop} (hc : Closed B h) (hs : ∀ r ob, B r → h.get r = some ob → h'.get r = some ob)
    {v : Ref} {o : VarObs} (hv : B v) (ho : observeVar h v = some o) : observeVar h' v = some o := by
  obtain ⟨l, c, s, hgv, hsol⟩ := observeVar_eq_some.mp ho
  obtain ⟨hg, hl, hc'⟩ := getVar_ok.mp hgv
  obtain ⟨hBl, hBc, hBs⟩ := hc.var hv hg
  refine observeVar_eq_some.mpr ⟨l, c, s, getVar_ok.mpr ⟨hs _ _ hv hg, hs _ _ hBl hl, hs _ _ hBc hc'⟩, ?_⟩
  cases s with
  | none => exact hsol
  | some sr =>
    obtain ⟨sd, hsd, hso⟩ := hsol
    exact ⟨sd, hs _ _ (hBs sr rfl) hsd, hso⟩

theorem observeVars_mono {B : Ref → Prop} (hc : Closed B h) (hs : ∀ r ob, B r → h.get r = some ob → h'.get r = some ob)
    {vs : List Ref} {os : List VarObs} (hv : ∀ v, v ∈ vs → B v) (ho : observeVars h vs = some os) :
    observeVars h' vs = some os := by
  induction vs generalizing os with
  | nil => exact ho
  | cons v vs ih =>
    obtain ⟨o, os', h1, h2, rfl⟩ := observeVars_cons.mp ho
    exact observeVars_cons.mpr ⟨o, os', observeVar_mono hc hs (hv _ (List.mem_cons_self ..)) h1,
      ih (fun v hm => hv v (List.mem_cons_of_mem _ hm)) h2, rfl⟩

theorem observe_mono {B : Ref → Prop} (hc : Closed B h) (hs : ∀ r ob, B r → h.get r = some ob → h'.get r = some ob)
    {m : Ref} {obs : Obs} (hm : B m) (ho : observe h m = some obs) : observe h' m = some obs := by
  obtain ⟨i, vs, hgm', hv⟩ := observe_eq_some.mp ho
  obtain ⟨hgm, hgi⟩ := getModel_ok.mp hgm'
  obtain ⟨hBi, hBvs⟩ := hc.model hm hgm
  exact observe_eq_some.mpr ⟨i, vs, getModel_ok.mpr ⟨hs _ _ hm hgm, hs _ _ hBi hgi⟩, observeVars_mono hc hs hBvs hv⟩

/-- the same when every object is kept (allocation only) -/
theorem observeVar_sub (hs : ∀ r ob, h.get r = some ob → h'.get r = some ob) {v : Ref} {o : VarObs}
    (ho : observeVar h v = some o) : observeVar h' v = some o :=
  observeVar_mono Closed.top (fun r ob _ => hs r ob) trivial ho

theorem observeVars_sub (hs : ∀ r ob, h.get r = some ob → h'.get r = some ob) {vs : List Ref} {os : List VarObs}
    (ho : observeVars h vs = some os) : observeVars h' vs = some os :=
  observeVars_mono Closed.top (fun r ob _ => hs r ob) (fun _ _ => trivial) ho

theorem observeVar_allocVariant (h : Heap) (o : VarObs) :
    observeVar (h.allocVariant o).2 (h.allocVariant o).1 = some o := by
  have n1 : h.next ≠ h.next + 1 + 1 := by omega
  have n2 : h.next ≠ h.next + 1 + 1 + 1 := by omega
  obtain ⟨lv, cv, _ | sd⟩ := o <;> simp [Heap.allocVariant, observeVar, getVar, n1, n2]

/-- two heaps that agree on a closed region show the same there, failures included -/
theorem observe_agree {B : Ref → Prop} {m : Ref} (hc : Closed B h)
    (ha : ∀ x, B x → h'.get x = h.get x) (hm : B m) : observe h' m = observe h m :=
  have hc' : Closed B h' := fun x o hx hg => hc x o hx (ha x hx ▸ hg)
  Option.ext fun _ => ⟨observe_mono hc' (fun r _ hr hg => (ha r hr).symm.trans hg) hm,
    observe_mono hc (fun r _ hr hg => (ha r hr).trans hg) hm⟩

theorem updVariant_ok {G : InvData → List Val → List Val → List Val × List Val} {d : InvData} {v : Ref}
    (hr : updVariant G d h v = .ok h') :
    ∃ l c s lv cv, getVar h v = .ok (l, c, s, lv, cv) ∧
      h' = (h.set l (.dict (G d lv cv).1)).set c (.dict (G d lv cv).2) := by
  unfold updVariant at hr
  split at hr
  · rename_i l c s lv cv hgv
    cases hr
    exact ⟨l, c, s, lv, cv, hgv, rfl⟩
  · cases hr

/-- `assign` on one variant is an in-place update of its two dicts like the ones of `steady` -/
theorem assignVariant_eq (d : InvData) (q : Option Nat) (h : Heap) (va : Ref × AVal) :
    assignVariant d q h va = updVariant (fun d lv cv => (enforceLevels d.quantities (updateAt lv q va.2.level),
      enforceChanges d.quantities (updateAt cv q va.2.change))) d h va.1 := rfl

theorem solveVariant_ok {F : InvData → List Val → List Val → Sol} {d : InvData} {v : Ref}
    (hr : solveVariant F d h v = .ok h') :
    ∃ l c s lv cv, getVar h v = .ok (l, c, s, lv, cv) ∧
      h' = (h.alloc (.sol (F d lv cv))).2.set v (.var l c (some h.next)) := by
  unfold solveVariant at hr
  split at hr
  · rename_i l c s lv cv hgv
    cases hr
    exact ⟨l, c, s, lv, cv, hgv, rfl⟩
  · cases hr

/-- `Variant.copy` is: observe the variant, allocate a new one that shows the same -/
theorem copyVariant_ok {v : Ref} {p : Ref × Heap} :
    copyVariant h v = .ok p ↔ ∃ o, observeVar h v = some o ∧ h.allocVariant o = p := by
  unfold copyVariant observeVar
  split
  · split
    · simp [Heap.allocVariant]
    · split <;> simp [Heap.allocVariant, *]
  · simp

theorem updVariant_writes
    {G : InvData → List Val → List Val → List Val × List Val} {d : InvData} {v : Ref} (e : Ext W h0 h)
    (hv : Side W h0.next h.next v) (hr : updVariant G d h v = .ok h') : Writes W h0.next h h' := by
  obtain ⟨l, c, s, lv, cv, hgv, rfl⟩ := updVariant_ok hr
  obtain ⟨hg, hl, hc⟩ := getVar_ok.mp hgv
  obtain ⟨sl, sc, _⟩ := e.closed.var hv hg
  have hc' : ∃ b, (h.set l (.dict (G d lv cv).1)).get c = some (.dict b) := by
    rw [Heap.get_set]
    split
    · exact ⟨_, rfl⟩
    · exact ⟨_, hc⟩
  obtain ⟨b, hb⟩ := hc'
  exact .head (.set _ hl sl rfl rfl (no_refs rfl)) (.single (.set _ hb sc rfl rfl (no_refs rfl)))

theorem solveVariant_writes
    {F : InvData → List Val → List Val → Sol} {d : InvData} {v : Ref} (e : Ext W h0 h)
    (hv : Side W h0.next h.next v) (hr : solveVariant F d h v = .ok h') : Writes W h0.next h h' := by
  obtain ⟨l, c, s, lv, cv, hgv, rfl⟩ := solveVariant_ok hr
  have hg := e.wf.get_alloc_of_get (getVar_ok.mp hgv).1 (.sol (F d lv cv))
  exact .head (.alloc _ rfl (no_refs rfl)) (.single
    (.setSol h.next hg (Side.mono (Nat.le_succ _) hv) (e.side_of_le (Nat.le_refl _) (Nat.lt_succ_self _))))

theorem forEach_writes {β : Type} {f : Heap → β → R Heap} {tgt : β → Ref}
    (hf : ∀ {h1 h2 : Heap} {x : β}, Ext W h0 h1 → Side W h0.next h1.next (tgt x) → f h1 x = .ok h2 →
      Writes W h0.next h1 h2)
    (e : Ext W h0 h) {xs : List β} (hxs : ∀ x, x ∈ xs → Side W h0.next h.next (tgt x))
    (hr : forEach f h xs = .ok h') : Writes W h0.next h h' := by
  induction xs generalizing h with
  | nil =>
    cases hr
    exact .refl _
  | cons x xs ih =>
    rw [forEach] at hr
    split at hr
    · rename_i h1 hfx
      have w := hf e (hxs x (List.mem_cons_self ..)) hfx
      exact w.trans (ih (w.ext e) (fun y hy => Side.mono w.next_le (hxs y (List.mem_cons_of_mem _ hy))) hr)
    · cases hr

theorem copyVariant_spec {v : Ref} {p : Ref × Heap} (hw : h.WF) (hr : copyVariant h v = .ok p) :
    p.2.WF ∧ (∀ W n0, Writes W n0 h p.2) ∧ (h.next ≤ p.1 ∧ p.1 < p.2.next) ∧
      ∃ o, observeVar h v = some o ∧ observeVar p.2 p.1 = some o := by
  obtain ⟨o, ho, rfl⟩ := copyVariant_ok.mp hr
  have w : ∀ W n0, Writes W n0 h (h.allocVariant o).2 := fun _ _ => .single (.allocVariant o)
  have f := h.allocVariant_fresh o
  exact ⟨((Ext.triv hw).allocVariant o).wf, w, ⟨Nat.le_of_lt (Nat.lt_of_succ_lt f.1), f.2 ▸ Nat.lt_succ_self _⟩,
    o, ho, observeVar_allocVariant h o⟩

/-- a list of references all of which are fresh w.r.t. `n` and allocated in `h` -/
@[reducible] def FreshIn (n : Nat) (h : Heap) (vs : List Ref) : Prop := ∀ v, v ∈ vs → n ≤ v ∧ v < h.next

/-- a list of copies: fresh objects only, showing what the originals show -/
def CopiesOf (h : Heap) (vs : List Ref) (h' : Heap) (vs' : List Ref) (n : Nat) : Prop :=
  (∀ W n0, Writes W n0 h h') ∧ FreshIn n h' vs' ∧ ∀ os, observeVars h vs = some os → observeVars h' vs' = some os

/-- a copier of lists of variants: what `copyVars` is, and `pickleVars` with an empty memo -/
@[reducible] def Copier (cp : Heap → List Ref → R (List Ref × Heap)) : Prop :=
  ∀ {h h' : Heap} {vs vs' : List Ref}, h.WF → cp h vs = .ok (vs', h') → CopiesOf h vs h' vs' h.next

theorem CopiesOf.cons {h h1 h2 : Heap} {v v1 : Ref} {vs rest : List Ref} {n : Nat} (hw : h.WF) (hw1 : h1.WF)
    (w1 : ∀ W n0, Writes W n0 h h1) (f1 : n ≤ v1 ∧ v1 < h1.next)
    (o1 : ∃ o, observeVar h v = some o ∧ observeVar h1 v1 = some o) (c : CopiesOf h1 vs h2 rest n) :
    CopiesOf h (v :: vs) h2 (v1 :: rest) n := by
  obtain ⟨w2, f2, o2⟩ := c
  refine ⟨fun W n0 => (w1 W n0).trans (w2 W n0), ?_, fun os hos => ?_⟩
  · intro y hy
    rcases List.mem_cons.mp hy with rfl | hy
    · exact ⟨f1.1, Nat.lt_of_lt_of_le f1.2 (w2 (fun _ => False) 0).next_le⟩
    · exact f2 y hy
  · obtain ⟨o, os', ho, hos', rfl⟩ := observeVars_cons.mp hos
    obtain ⟨o', ho', ho1⟩ := o1
    cases ho.symm.trans ho'
    exact observeVars_cons.mpr ⟨o, os', observeVar_sub (fun _ _ => (w2 _ _).sub hw1) ho1,
      o2 os' (observeVars_sub (fun _ _ => (w1 _ _).sub hw) hos'), rfl⟩

theorem copyVars_spec {vs vs' : List Ref} (hw : h.WF) (hr : copyVars h vs = .ok (vs', h')) :
    CopiesOf h vs h' vs' h.next := by
  induction vs generalizing h vs' with
  | nil =>
    cases hr
    exact ⟨fun _ _ => .refl _, nofun, fun _ ho => ho⟩
  | cons v vs ih =>
    rw [copyVars] at hr
    split at hr
    · rename_i v1 h1 hcv
      obtain ⟨hw1, w1, f1, o1⟩ := copyVariant_spec hw hcv
      split at hr
      · rename_i rest h2 hrest
        cases hr
        obtain ⟨w2, f2, o2⟩ := ih hw1 hrest
        refine CopiesOf.cons hw hw1 w1 f1 o1 ⟨w2, fun y hy => ?_, o2⟩
        exact ⟨Nat.le_trans (w1 (fun _ => False) 0).next_le (f2 y hy).1, (f2 y hy).2⟩
      · cases hr
    · cases hr

/-- the memo of `pickleVars` maps variants to copies of them allocated since `n` -/
theorem pickleVars_spec {n : Nat} {vs vs' : List Ref} {memo : List (Ref × Ref)} (hw : h.WF)
    (hmemo : ∀ a b, lookupRef memo a = some b →
      (n ≤ b ∧ b < h.next) ∧ ∃ o, observeVar h a = some o ∧ observeVar h b = some o)
    (hn : n ≤ h.next) (hr : pickleVars h memo vs = .ok (vs', h')) : CopiesOf h vs h' vs' n := by
  induction vs generalizing h memo vs' with
  | nil =>
    cases hr
    exact ⟨fun _ _ => .refl _, nofun, fun _ ho => ho⟩
  | cons v vs ih =>
    rw [pickleVars] at hr
    split at hr
    · rename_i v1 hlook
      split at hr
      · rename_i rest h2 hrest
        cases hr
        exact CopiesOf.cons hw hw (fun _ _ => .refl h) (hmemo v v1 hlook).1 (hmemo v v1 hlook).2
          (ih hw hmemo hn hrest)
      · cases hr
    · split at hr
      · rename_i v1 h1 hcv
        obtain ⟨hw1, w1, f1, o, ho, ho1⟩ := copyVariant_spec hw hcv
        have s1 : ∀ r ob, h.get r = some ob → h1.get r = some ob := fun _ _ => (w1 _ _).sub hw
        have le1 := (w1 (fun _ => False) 0).next_le
        have f1' : n ≤ v1 ∧ v1 < h1.next := ⟨Nat.le_trans hn f1.1, f1.2⟩
        split at hr
        · rename_i rest h2 hrest
          cases hr
          refine CopiesOf.cons hw hw1 w1 f1' ⟨o, ho, ho1⟩ (ih hw1 (fun a b hab => ?_) (Nat.le_trans hn le1) hrest)
          simp only [lookupRef] at hab
          split at hab
          · rename_i hav
            cases hab
            cases hav
            exact ⟨f1', o, observeVar_sub s1 ho, ho1⟩
          · obtain ⟨fb, ob, ha, hb⟩ := hmemo a b hab
            exact ⟨⟨fb.1, Nat.lt_of_lt_of_le fb.2 le1⟩, ob, observeVar_sub s1 ha, observeVar_sub s1 hb⟩
        · cases hr
      · cases hr

theorem pickleVars_nil_spec {vs : List Ref} {vs' : List Ref} (hw : h.WF)
    (hr : pickleVars h [] vs = .ok (vs', h')) : CopiesOf h vs h' vs' h.next :=
  pickleVars_spec hw (fun _ _ hab => by cases hab) (Nat.le_refl _) hr

/-- `expand_num_variants` adding `k` variants: the result is the old list followed by `k` NEW references, pairwise
distinct and all freshly allocated (so distinct from every old object too) -/
theorem expandVars_spec (k : Nat) {vs vs' : List Ref} (hw : h.WF) (hr : expandVars h vs k = .ok (vs', h')) :
    (∀ W n0, Writes W n0 h h') ∧
      ∃ news : List Ref, vs' = vs ++ news ∧ news.length = k ∧ news.Nodup ∧ FreshIn h.next h' news := by
  induction k generalizing h vs with
  | zero =>
    cases hr
    exact ⟨fun _ _ => .refl _, [], (List.append_nil _).symm, rfl, List.nodup_nil, nofun⟩
  | succ k ih =>
    rw [expandVars] at hr
    split at hr
    · cases hr
    · split at hr
      · rename_i v1 h1 hcv
        obtain ⟨hw1, w1, f1, _⟩ := copyVariant_spec hw hcv
        obtain ⟨w2, news, rfl, rfl, hnd, hfr⟩ := ih hw1 hr
        have le1 := (w1 (fun _ => False) 0).next_le
        refine ⟨fun W n0 => (w1 W n0).trans (w2 W n0), v1 :: news, (List.append_cons ..).symm, rfl, ?_, fun v hv => ?_⟩
        · exact List.nodup_cons.mpr ⟨fun hmem => absurd f1.2 (Nat.not_lt.mpr (hfr v1 hmem).1), hnd⟩
        · rcases List.mem_cons.mp hv with rfl | hv
          · exact ⟨f1.1, Nat.lt_of_lt_of_le f1.2 (w2 (fun _ => False) 0).next_le⟩
          · exact ⟨Nat.le_trans le1 (hfr v hv).1, (hfr v hv).2⟩
      · cases hr

theorem selectVars_mem {vs : List Ref} (ks : List Int) {vs' : List Ref} (hs : selectVars vs ks = some vs')
    (v : Ref) (hv : v ∈ vs') : v ∈ vs := by
  induction ks generalizing vs' with
  | nil =>
    cases hs
    cases hv
  | cons k ks ih =>
    rw [selectVars] at hs
    split at hs
    · rename_i v1 rest hk hrest
      cases hs
      rcases List.mem_cons.mp hv with rfl | hv
      · obtain ⟨j, _, hj⟩ := Option.bind_eq_some_iff.mp hk
        exact List.mem_of_getElem? hj
      · exact ih hrest hv
    · cases hs

/-- what `copy` and `pickle` share: a new invariant object, the variants copied by `cp`, a new model object.  The model
defines the two separately, as the code does; this common form serves the proofs only. -/
def cloneWith (cp : Heap → List Ref → R (List Ref × Heap)) (h : Heap) (m : Ref) : R (Ref × Heap) :=
  match getModel h m with
  | .ok (_, vs, d) =>
    match cp (h.alloc (.inv d)).2 vs with
    | .ok (vs', h2) => .ok (h2.alloc (.model h.next vs'))
    | .error e => .error e
  | .error e => .error e

theorem copy_eq (h : Heap) (m : Ref) : copy h m = cloneWith copyVars h m := rfl

theorem pickle_eq (h : Heap) (m : Ref) : pickle h m = cloneWith (fun h => pickleVars h []) h m := rfl

/-- a clone writes nothing old, its model object is new, and it shows what the source shows -/
theorem cloneWith_spec {cp : Heap → List Ref → R (List Ref × Heap)} (hcp : Copier cp)
    {m : Ref} {p : Ref × Heap} (hw : h.WF) (hr : cloneWith cp h m = .ok p) :
    (∀ W n0, n0 ≤ h.next → Writes W n0 h p.2) ∧ (h.next ≤ p.1 ∧ p.1 < p.2.next) ∧
      ∀ obs, observe h m = some obs → observe p.2 p.1 = some obs := by
  unfold cloneWith at hr
  split at hr
  · rename_i i vs d hm
    split at hr
    · rename_i vs' h2 hcv
      cases hr
      have hw1 := hw.alloc (.inv d)
      obtain ⟨w, fr, ob⟩ := hcp hw1 hcv
      have le2 : h.next + 1 ≤ h2.next := (w (fun _ => False) 0).next_le
      refine ⟨fun W n0 hn => ?_, ⟨Nat.le_of_succ_le le2, Nat.lt_succ_self _⟩, fun obs ho => ?_⟩
      · -- the invariant object, the copies of the variants, the model object that points to them
        have refs : ∀ y, y ∈ (Obj.model h.next vs').refs → Side W n0 h2.next y := forall_refs_model.mpr
          ⟨Or.inr ⟨hn, le2⟩, fun y hy => Or.inr ⟨Nat.le_trans hn (Nat.le_of_succ_le (fr y hy).1), (fr y hy).2⟩⟩
        exact .head (.alloc _ rfl (no_refs rfl)) ((w W n0).trans (.single (.alloc _ rfl refs)))
      · obtain ⟨i', vs'', hm', hv⟩ := observe_eq_some.mp ho
        cases hm.symm.trans hm'
        have w2 := (w (fun _ => False) (h.next + 1))
        have s2 : ∀ r ob, h2.get r = some ob → (h2.alloc (.model h.next vs')).2.get r = some ob :=
          fun _ _ hg => (w2.ext (Ext.triv hw1)).wf.get_alloc_of_get hg _
        refine observe_eq_some.mpr ⟨h.next, vs', getModel_ok.mpr ⟨h2.get_alloc_self _, s2 _ _ (w2.sub hw1 (h.get_alloc_self _))⟩, ?_⟩
        exact observeVars_sub s2 (ob _ (observeVars_sub (fun _ _ hg => hw.get_alloc_of_get hg _) hv))
    · cases hr
  · cases hr

/-- every operation starts by reading its target -/
theorem step_getModel {fs : Funs} {op : Op} {r : Option Ref} (hr : step fs h op = .ok (r, h')) :
    ∃ i vs d, getModel h op.target = .ok (i, vs, d) := by
  cases hm : getModel h op.target with
  | ok t => exact ⟨t.1, t.2.1, t.2.2, rfl⟩
  | error e =>
    cases op
    all_goals
      simp only [Op.target] at hm
      simp only [step, assign, solve, steady, alter, setDesc, setTol, copy, pickle, view, mutInv, hm] at hr
      cases hr

/-- every operation aimed at the side is a sequence of elementary writes on the side, and a model it returns is on
the side -/
theorem step_writes (fs : Funs) (e : Ext W h0 h) (op : Op) {r : Option Ref}
    (ht : Side W h0.next h.next op.target) (hr : step fs h op = .ok (r, h')) :
    Writes W h0.next h h' ∧ ∀ m', r = some m' → Side W h0.next h'.next m' := by
  obtain ⟨i, vs, d, hm⟩ := step_getModel hr
  obtain ⟨hgm, hgi⟩ := getModel_ok.mp hm
  obtain ⟨hi, hvs⟩ := e.closed.model ht hgm
  have clone : ∀ {cp p}, Copier cp → ∀ {m}, cloneWith cp h m = .ok p →
      Writes W h0.next h p.2 ∧ ∀ m', some p.1 = some m' → Side W h0.next p.2.next m' := fun hcp _ hc =>
    have ⟨w, f, _⟩ := cloneWith_spec hcp e.wf hc
    ⟨w W h0.next e.next_le, fun _ hm' => Option.some.inj hm' ▸ e.side_of_le f.1 f.2⟩
  cases op
  all_goals
    simp only [Op.target] at hm hgm ht
    obtain ⟨p, hop, ⟨⟩⟩ := Except.map_eq_ok.mp hr
  case assign m name vals =>
    simp only [assign, hm] at hop
    exact ⟨forEach_writes (tgt := (·.1))
      (fun e1 hs hf => updVariant_writes e1 hs ((assignVariant_eq ..).symm.trans hf)) e
      (fun x hx => hvs x.1 (List.of_mem_zip hx).1) hop, nofun⟩
  case solve m =>
    simp only [solve, hm] at hop
    exact ⟨forEach_writes (tgt := id) solveVariant_writes e hvs hop, nofun⟩
  case steady m =>
    simp only [steady, hm] at hop
    split at hop
    · rename_i hmid hfirst
      have w1 := forEach_writes (tgt := id) updVariant_writes e hvs hfirst
      exact ⟨w1.trans (forEach_writes (tgt := id) updVariant_writes (w1.ext e)
        (fun v hv => Side.mono w1.next_le (hvs v hv)) hop), nofun⟩
    · cases hop
  case alter m n =>
    simp only [alter, hm] at hop
    refine ⟨?_, nofun⟩
    split at hop
    · split at hop
      · cases hop
      · cases hop
        exact .single (.set _ hgm ht rfl rfl
          (forall_refs_model.mpr ⟨hi, fun y hy => hvs y (List.mem_of_mem_take hy)⟩))
    · split at hop
      · split at hop
        · rename_i vs' hx hexp
          cases hop
          obtain ⟨w, news, rfl, _, _, hfr⟩ := expandVars_spec _ e.wf hexp
          have w1 := w W h0.next
          refine w1.trans (.single (.set _ (((w _ _).sub e.wf hgm)) (Side.mono w1.next_le ht) rfl rfl
            (forall_refs_model.mpr ⟨Side.mono w1.next_le hi, fun y hy => ?_⟩)))
          rcases List.mem_append.mp hy with hy | hy
          · exact Side.mono w1.next_le (hvs y hy)
          · exact e.side_of_le (hfr y hy).1 (hfr y hy).2
        · cases hop
      · cases hop
        exact .refl h
  -- `set_description`, `override_tolerance` and the general mutator all overwrite the invariant object
  case setDesc m s | setTol m eig x | mutInv m f =>
    simp only [setDesc, setTol, mutInv, hm, Except.ok.injEq] at hop
    subst hop
    exact ⟨.single (.set _ hgi hi rfl rfl (no_refs rfl)), nofun⟩
  case copy m => exact clone copyVars_spec ((copy_eq h m).symm.trans hop)
  case pickle m => exact clone pickleVars_nil_spec ((pickle_eq h m).symm.trans hop)
  case view m ix =>
    simp only [view, hm] at hop
    split at hop
    · rename_i vs' hsel
      cases hop
      refine ⟨.single (.alloc _ rfl
        (forall_refs_model.mpr ⟨hi, fun y hy => hvs y (selectVars_mem ix hsel y hy)⟩)), ?_⟩
      rintro _ ⟨⟩
      exact e.side_of_le (Nat.le_refl _) (Nat.lt_succ_self _)
    · cases hop

theorem step_ext (fs : Funs) (e : Ext W h0 h) (op : Op) {r : Option Ref}
    (ht : Side W h0.next h.next op.target) (hr : step fs h op = .ok (r, h')) :
    Ext W h0 h' ∧ (∀ m', r = some m' → Side W h0.next h'.next m') :=
  have ⟨w, hm⟩ := step_writes fs e op ht hr
  ⟨w.ext e, hm⟩

/-- `from_source` allocates an invariant object, one variant and the model object -/
theorem newModel_eq (h : Heap) (d : InvData) :
    newModel h d = ((h.alloc (.inv d)).2.allocVariant ⟨enforceLevels d.quantities (initLevels d),
      enforceChanges d.quantities (initChanges d), none⟩).2.alloc (.model h.next [h.next + 1 + 1 + 1]) := rfl

theorem newModel_writes (h : Heap) (d : InvData) (hn : n0 ≤ h.next) :
    Writes W n0 h (newModel h d).2 := by
  rw [newModel_eq]
  refine .head (.alloc _ rfl (no_refs rfl)) (.head (.allocVariant _) (.head (.alloc _ rfl
    (forall_refs_model.mpr ⟨?_, ?_⟩)) (.refl _)))
  · exact Side.of_le hn (by simp only [Heap.allocVariant, Heap.next_alloc]; omega)
  · simp only [List.mem_singleton, forall_eq]
    exact Side.of_le (by omega) (by simp only [Heap.allocVariant, Heap.next_alloc]; omega)

end IrisVerif.Heap
