/-
Consecutive blocks of integers, one per integer `T`: block `T` starts at `lo T`, has `len T` members, and block `T + 1`
starts where block `T` ends. A frequency conversion groups the serials of the finer frequency this way (the `k` periods
of a coarser regular period; the days of a regular period), and what the conversions need of the grouping is only the
order of the blocks. Core Lean only.
-/

namespace IrisVerif

/-- the members of block `T`, in order -/
def blockOf (lo : Int → Int) (len : Int → Nat) (T : Int) : List Int :=
  (List.range (len T)).map fun (i : Nat) => lo T + i

section
variable {lo : Int → Int} {len : Int → Nat} (hnext : ∀ T, lo (T + 1) = lo T + len T)
include hnext

theorem block_end_le {T T' : Int} (h : T < T') : lo T + len T ≤ lo T' := by
  obtain ⟨n, rfl⟩ : ∃ n : Nat, T' = T + 1 + n := ⟨(T' - T - 1).toNat, by omega⟩
  induction n with
  | zero => rw [Int.natCast_zero, Int.add_zero, hnext]; exact Int.le_refl _
  | succ n ih =>
    have := hnext (T + 1 + n)
    have := ih (by omega)
    rw [Int.natCast_succ, ← Int.add_assoc]
    omega

theorem block_lo_mono {T T' : Int} (h : T ≤ T') : lo T ≤ lo T' := by
  rcases Int.lt_or_eq_of_le h with h | rfl
  · have := block_end_le hnext h; omega
  · exact Int.le_refl _

/-- an integer lies in at most one block -/
theorem block_unique {T T' t : Int} (h1 : lo T ≤ t) (h2 : t < lo T + len T) (h1' : lo T' ≤ t) (h2' : t < lo T' + len T') :
    T = T' := by
  rcases Int.lt_trichotomy T T' with h | h | h
  · have := block_end_le hnext h; omega
  · exact h
  · have := block_end_le hnext h; omega

end

end IrisVerif
