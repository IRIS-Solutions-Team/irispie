/-
The sorts the models write out by hand are Mathlib's insertion sort: Lemmas/ADMaps and Lemmas/Blazer take order and permutation of
`AD.sortTokens` and `Blazer.sortInts` from there.  (The insertion that also drops repetitions: `mem_foldr_insert` of Lemmas/Lists.)
-/
import Mathlib.Data.List.Sort

namespace IrisVerif

/-- `sorted(l)` as the models write it: `foldr` of an insertion in front of the first element that is not before the new one
(`AD.insertToken`, `Blazer.insertSorted`) is Mathlib's insertion sort -/
theorem foldr_insert_eq_insertionSort {α : Type} {r : α → α → Prop} [DecidableRel r] {ins : α → List α → List α}
    (hnil : ∀ x, ins x [] = [x]) (hcons : ∀ x y ys, ins x (y :: ys) = if r x y then x :: y :: ys else y :: ins x ys)
    (l : List α) : l.foldr ins [] = l.insertionSort r := by
  have one : ∀ x (l : List α), ins x l = l.orderedInsert r x := fun x l => by
    induction l with
    | nil => exact hnil x
    | cons y ys ih => rw [hcons, ih, List.orderedInsert_cons]
  induction l with
  | nil => rfl
  | cons x xs ih => rw [List.foldr_cons, ih, one, List.insertionSort_cons]

end IrisVerif

