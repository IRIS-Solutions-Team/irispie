/-
What an answer of the checked solver says at the Mathlib level when the rows of the system are indexed by a finite type
`ι` through a reindexing `e : ι ≃ Fin N` (in the models: `Fin n ⊕ Fin m` for a system assembled from blocks): the answer
solves the system as it looks through `e`.
-/
import IrisVerif.Lemmas.QMatViews

namespace IrisVerif.QMat

open Matrix

variable {ι : Type} [Fintype ι] {N : Nat}

theorem solveChecked_mulVec (e : ι ≃ Fin N) (F B z : QMat) (hN : F.rows = N) (hB : 0 < B.cols)
    (h : solveChecked F B = some z) :
    (F.toMat N N).submatrix e e *ᵥ (fun i => z.get (e i) 0) = fun i => B.get (e i) 0 := by
  have e1 : (fun i => z.get (e i) 0) ∘ e.symm = fun i : Fin N => z.get i 0 :=
    funext fun i => by rw [Function.comp, e.apply_symm_apply]
  rw [Matrix.submatrix_mulVec_equiv, e1, (Views.of_solveChecked_vec h hN hB).2.2]
  rfl

/-- a system assembled from four blocks, read along `Fin n ⊕ Fin m`: the unknown splits into its first `n` and its last
`m` entries -/
theorem solveChecked_blocks (a b c d p q z : QMat) (n m : Nat) (har : a.rows = n) (hac : a.cols = n) (hbc : b.cols = m)
    (hcr : c.rows = m) (hcc : c.cols = n) (hdc : d.cols = m) (hpr : p.rows = n) (hpc : p.cols = 1) (hqr : q.rows = m)
    (h : solveChecked (vstack (hstack a b) (hstack c d)) (vstack p q) = some z) :
    Matrix.fromBlocks (a.toMat n n) (b.toMat n m) (c.toMat m n) (d.toMat m m)
        *ᵥ Sum.elim (fun i : Fin n => z.get i 0) (fun i : Fin m => z.get (n + i) 0)
      = Sum.elim (fun i : Fin n => p.get i 0) (fun i : Fin m => q.get i 0) := by
  have hv := solveChecked_mulVec finSumFinEquiv _ _ z
    (by rw [vstack_rows, hstack_rows, hstack_rows, har, hcr]) (by rw [vstack_cols, hpc]; exact Nat.one_pos) h
  rw [toMat_vstack_hstack a b c d n m n m har hac hbc hcr hcc hdc, Matrix.submatrix_submatrix,
    Equiv.symm_comp_self, Matrix.submatrix_id_id] at hv
  have hz : (fun k => z.get (finSumFinEquiv (m := n) (n := m) k) 0)
      = Sum.elim (fun i : Fin n => z.get i 0) (fun i : Fin m => z.get (n + i) 0) :=
    funext fun k => by cases k <;> rfl
  rw [hz] at hv
  rw [hv]
  funext k
  have := congrFun (col0_vstack p q n m hpr hqr hpc) (finSumFinEquiv k)
  rwa [Function.comp, Equiv.symm_apply_apply] at this

end IrisVerif.QMat
