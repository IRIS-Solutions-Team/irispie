/-
"KKT / normal equations ⇒ (constrained) minimiser of a positive-semidefinite quadratic", over Mathlib matrices on a
linearly ordered commutative ring (in particular any linearly ordered field).  Shared by C14 (`Lemmas/QuadExist.lean`,
`Props/C14.lean`), C18 (`Lemmas/LeastSquares.lean`, `Props/C18.lean`) and C12 for arip (`Props/C12.lean`).

The pattern is the one of DESIGN.md Appendix A.2 (orthogonality + expanding the square): at a KKT point
`A x + Cᵀ μ = b` the quadratic `quad A b x = x·Ax − 2 b·x` grows along a feasible direction `d` by exactly `d·Ad`
(`kkt_excess`); minimality, strictness and uniqueness follow from the sign of `d·Ad`.  Weighted least squares with a
positive-semidefinite penalty and constrained least squares (`cls_min`) are such quadratics up to a constant
(`wlsObj_eq_quad`, `lsq_eq_quad`).  The last section does unconstrained least squares directly from the normal
equations (`ls_excess`: the same expansion of the square, without `quad`).
-/
import Mathlib.Data.Matrix.Mul
import Mathlib.Data.Matrix.Block
import Mathlib.Algebra.Order.Ring.Defs
import Mathlib.Algebra.Order.BigOperators.Ring.Finset
import Mathlib.Tactic.Linarith
import Mathlib.Tactic.Ring
import Mathlib.Tactic.Abel

namespace IrisVerif.QuadMin

open Matrix

variable {n p m : Type} [Fintype n] [Fintype p] [Fintype m]
variable {K : Type} [CommRing K]

/-! ### Algebra (any commutative ring) -/

/-- the quadratic `x·Ax − 2 b·x` -/
def quad (A : Matrix n n K) (b x : n → K) : K := x ⬝ᵥ A *ᵥ x - 2 * (b ⬝ᵥ x)

theorem dot_mulVec_symm (A : Matrix n n K) (hA : Aᵀ = A) (u v : n → K) :
    u ⬝ᵥ A *ᵥ v = v ⬝ᵥ A *ᵥ u := by
  rw [Matrix.dotProduct_mulVec, ← Matrix.mulVec_transpose, hA, dotProduct_comm]

theorem quad_add (A : Matrix n n K) (hA : Aᵀ = A) (b x d : n → K) :
    quad A b (x + d) = quad A b x + 2 * (d ⬝ᵥ (A *ᵥ x - b)) + d ⬝ᵥ A *ᵥ d := by
  unfold quad
  simp only [Matrix.mulVec_add, add_dotProduct, dotProduct_add, dotProduct_sub]
  rw [dot_mulVec_symm A hA x d, dotProduct_comm b d]
  ring

/-- the form of a Gram matrix is a square: `d·(XᵀX) d = ‖X d‖²` -/
theorem gram_form (X : Matrix m n K) (d : n → K) : d ⬝ᵥ (Xᵀ * X) *ᵥ d = (X *ᵥ d) ⬝ᵥ (X *ᵥ d) := by
  rw [← Matrix.mulVec_mulVec, Matrix.dotProduct_mulVec, ← Matrix.mulVec_transpose, Matrix.transpose_transpose]

/-- least squares is the quadratic of the Gram matrix, up to the constant `‖y‖²` -/
theorem lsq_eq_quad (X : Matrix m n K) (y : m → K) (b : n → K) :
    (X *ᵥ b - y) ⬝ᵥ (X *ᵥ b - y) = quad (Xᵀ * X) (Xᵀ *ᵥ y) b + y ⬝ᵥ y := by
  unfold quad
  rw [gram_form, Matrix.mulVec_transpose, ← Matrix.dotProduct_mulVec]
  simp only [sub_dotProduct, dotProduct_sub]
  rw [dotProduct_comm y (X *ᵥ b)]; ring

/-- a multiplier term is orthogonal to every feasible direction -/
theorem dot_transpose_mulVec_of_feasible (C : Matrix p n K) (μ : p → K) (d : n → K) (hd : C *ᵥ d = 0) :
    d ⬝ᵥ Cᵀ *ᵥ μ = 0 := by
  rw [Matrix.mulVec_transpose, dotProduct_comm, ← Matrix.dotProduct_mulVec, hd, dotProduct_zero]

/-- **Exact excess.** At a KKT point the quadratic grows along a feasible direction `d` by exactly `d·Ad`. -/
theorem kkt_excess (A : Matrix n n K) (hA : Aᵀ = A) (C : Matrix p n K) (b x : n → K) (μ : p → K)
    (hstat : A *ᵥ x + Cᵀ *ᵥ μ = b) (d : n → K) (hd : C *ᵥ d = 0) :
    quad A b (x + d) = quad A b x + d ⬝ᵥ A *ᵥ d := by
  have e : A *ᵥ x - b = - (Cᵀ *ᵥ μ) := by rw [← hstat]; abel
  rw [quad_add A hA, e, dotProduct_neg, dot_transpose_mulVec_of_feasible C μ d hd]
  ring

/-- the bordered (saddle-point) system is exactly stationarity plus feasibility -/
theorem bordered_iff [DecidableEq n] [DecidableEq p] (A : Matrix n n K) (C : Matrix p n K) (b x : n → K) (c μ : p → K) :
    Matrix.fromBlocks A Cᵀ C 0 *ᵥ Sum.elim x μ = Sum.elim b c ↔ (A *ᵥ x + Cᵀ *ᵥ μ = b ∧ C *ᵥ x = c) := by
  rw [Matrix.fromBlocks_mulVec, Sum.elim_eq_iff, Sum.elim_comp_inl, Sum.elim_comp_inr, Matrix.zero_mulVec, add_zero]

section Ordered

variable [LinearOrder K] [IsStrictOrderedRing K]

theorem dot_self_nonneg (v : m → K) : 0 ≤ v ⬝ᵥ v := by
  unfold dotProduct
  exact Finset.sum_nonneg (fun i _ => mul_self_nonneg (v i))

theorem dot_self_eq_zero {v : m → K} (h : v ⬝ᵥ v = 0) : v = 0 :=
  funext fun i => (Finset.sum_mul_self_eq_zero_iff _ _).1 h i (Finset.mem_univ i)

/-- **KKT ⇒ constrained minimiser** of a quadratic that is positive semidefinite on the feasible directions. -/
theorem kkt_min (A : Matrix n n K) (hA : Aᵀ = A) (C : Matrix p n K) (b x : n → K) (c μ : p → K)
    (hpsd : ∀ d : n → K, C *ᵥ d = 0 → 0 ≤ d ⬝ᵥ A *ᵥ d)
    (hstat : A *ᵥ x + Cᵀ *ᵥ μ = b) (hfeas : C *ᵥ x = c)
    (x' : n → K) (hfeas' : C *ᵥ x' = c) :
    quad A b x ≤ quad A b x' := by
  have hd : C *ᵥ (x' - x) = 0 := by rw [Matrix.mulVec_sub, hfeas, hfeas', sub_self]
  rw [← add_sub_cancel x x', kkt_excess A hA C b x μ hstat _ hd]
  exact le_add_of_nonneg_right (hpsd _ hd)

/-- **Constrained least squares**: `XᵀX b + Cᵀμ = Xᵀy` and `C b = c` make `b` a minimiser of `‖X b − y‖²` on `{C b' = c}`. -/
theorem cls_min (X : Matrix m n K) (y : m → K) (C : Matrix p n K) (c : p → K) (b : n → K) (μ : p → K)
    (hstat : (Xᵀ * X) *ᵥ b + Cᵀ *ᵥ μ = Xᵀ *ᵥ y) (hfeas : C *ᵥ b = c) (b' : n → K) (hfeas' : C *ᵥ b' = c) :
    (X *ᵥ b - y) ⬝ᵥ (X *ᵥ b - y) ≤ (X *ᵥ b' - y) ⬝ᵥ (X *ᵥ b' - y) := by
  rw [lsq_eq_quad, lsq_eq_quad]
  exact add_le_add_left (kkt_min _ (by rw [Matrix.transpose_mul, Matrix.transpose_transpose]) C _ b c μ
    (fun d _ => by rw [gram_form]; exact dot_self_nonneg _) hstat hfeas b' hfeas') _

/-- **Strictness**: when the form is positive definite on the feasible directions, every other feasible point
is strictly worse. -/
theorem kkt_strict (A : Matrix n n K) (hA : Aᵀ = A) (C : Matrix p n K) (b x : n → K) (c μ : p → K)
    (hpsd : ∀ d : n → K, C *ᵥ d = 0 → 0 ≤ d ⬝ᵥ A *ᵥ d)
    (hpd : ∀ d : n → K, C *ᵥ d = 0 → d ⬝ᵥ A *ᵥ d = 0 → d = 0)
    (hstat : A *ᵥ x + Cᵀ *ᵥ μ = b) (hfeas : C *ᵥ x = c)
    (x' : n → K) (hfeas' : C *ᵥ x' = c) (hne : x' ≠ x) :
    quad A b x < quad A b x' := by
  have hd : C *ᵥ (x' - x) = 0 := by rw [Matrix.mulVec_sub, hfeas, hfeas', sub_self]
  rw [← add_sub_cancel x x', kkt_excess A hA C b x μ hstat _ hd]
  exact lt_add_of_pos_right _ ((hpsd _ hd).lt_of_ne' fun h => hne (sub_eq_zero.1 (hpd _ hd h)))

/-- **Uniqueness** of the constrained minimiser. -/
theorem kkt_unique (A : Matrix n n K) (hA : Aᵀ = A) (C : Matrix p n K) (b x : n → K) (c μ : p → K)
    (hpsd : ∀ d : n → K, C *ᵥ d = 0 → 0 ≤ d ⬝ᵥ A *ᵥ d)
    (hpd : ∀ d : n → K, C *ᵥ d = 0 → d ⬝ᵥ A *ᵥ d = 0 → d = 0)
    (hstat : A *ᵥ x + Cᵀ *ᵥ μ = b) (hfeas : C *ᵥ x = c)
    (x' : n → K) (hfeas' : C *ᵥ x' = c) (hle : quad A b x' ≤ quad A b x) :
    x' = x := by
  by_contra hne
  exact absurd (kkt_strict A hA C b x c μ hpsd hpd hstat hfeas x' hfeas' hne) (not_lt.2 hle)

/-- two KKT points of the same problem coincide (so the bordered system has at most one `x`-solution) -/
theorem kkt_point_unique (A : Matrix n n K) (hA : Aᵀ = A) (C : Matrix p n K) (b x x' : n → K) (c μ μ' : p → K)
    (hpsd : ∀ d : n → K, C *ᵥ d = 0 → 0 ≤ d ⬝ᵥ A *ᵥ d)
    (hpd : ∀ d : n → K, C *ᵥ d = 0 → d ⬝ᵥ A *ᵥ d = 0 → d = 0)
    (hstat : A *ᵥ x + Cᵀ *ᵥ μ = b) (hfeas : C *ᵥ x = c)
    (hstat' : A *ᵥ x' + Cᵀ *ᵥ μ' = b) (hfeas' : C *ᵥ x' = c) : x' = x :=
  kkt_unique A hA C b x c μ hpsd hpd hstat hfeas x' hfeas'
    (kkt_min A hA C b x' c μ' hpsd hstat' hfeas' x hfeas)

end Ordered

/-! ### Weighted least squares with a positive-semidefinite penalty -/

section WLS

variable [DecidableEq n]

/-- `Σ wᵢ (yᵢ − τᵢ)² + lam ‖P τ‖²` -/
def wlsObj (w y : n → K) (lam : K) (P : Matrix m n K) (τ : n → K) : K :=
  ∑ i, w i * (y i - τ i) ^ 2 + lam * (P *ᵥ τ ⬝ᵥ P *ᵥ τ)

/-- the matrix of the normal equations, `diag w + lam PᵀP` -/
def wlsA (w : n → K) (lam : K) (P : Matrix m n K) : Matrix n n K :=
  Matrix.diagonal w + lam • (Pᵀ * P)

omit [Fintype n] in
theorem wlsA_symm (w : n → K) (lam : K) (P : Matrix m n K) : (wlsA w lam P)ᵀ = wlsA w lam P := by
  unfold wlsA
  simp only [Matrix.transpose_add, Matrix.diagonal_transpose, Matrix.transpose_smul, Matrix.transpose_mul,
    Matrix.transpose_transpose]

/-- the quadratic form of `wlsA`:  `d·(diag w + lam PᵀP) d = Σ wᵢ dᵢ² + lam ‖P d‖²` -/
theorem wlsA_form (w : n → K) (lam : K) (P : Matrix m n K) (d : n → K) :
    d ⬝ᵥ wlsA w lam P *ᵥ d = ∑ i, w i * d i ^ 2 + lam * (P *ᵥ d ⬝ᵥ P *ᵥ d) := by
  unfold wlsA
  rw [Matrix.add_mulVec, dotProduct_add, Matrix.smul_mulVec, dotProduct_smul, smul_eq_mul]
  congr 1
  · unfold dotProduct
    refine Finset.sum_congr rfl (fun i _ => ?_)
    rw [Matrix.mulVec_diagonal]; ring
  · rw [gram_form]

/-- the objective is the quadratic of `wlsA` up to the constant `Σ wᵢ yᵢ²` -/
theorem wlsObj_eq_quad (w y : n → K) (lam : K) (P : Matrix m n K) (τ : n → K) :
    wlsObj w y lam P τ = quad (wlsA w lam P) (fun i => w i * y i) τ + ∑ i, w i * y i ^ 2 := by
  unfold wlsObj quad
  rw [wlsA_form]
  unfold dotProduct
  simp only [Finset.mul_sum]
  have : ∑ i, w i * (y i - τ i) ^ 2 = ∑ i, w i * τ i ^ 2 - ∑ i, 2 * (w i * y i * τ i) + ∑ i, w i * y i ^ 2 := by
    rw [← Finset.sum_sub_distrib, ← Finset.sum_add_distrib]
    exact Finset.sum_congr rfl (fun i _ => by ring)
  rw [this]; ring

/-- **Exact excess** for weighted least squares with penalty and equality constraints `C τ = c`. -/
theorem wls_kkt_excess (w y : n → K) (lam : K) (P : Matrix m n K) (C : Matrix p n K) (τ : n → K) (μ : p → K)
    (hstat : wlsA w lam P *ᵥ τ + Cᵀ *ᵥ μ = fun i => w i * y i) (d : n → K) (hd : C *ᵥ d = 0) :
    wlsObj w y lam P (τ + d) = wlsObj w y lam P τ + (∑ i, w i * d i ^ 2 + lam * (P *ᵥ d ⬝ᵥ P *ᵥ d)) := by
  rw [wlsObj_eq_quad, wlsObj_eq_quad, kkt_excess _ (wlsA_symm w lam P) C _ τ μ hstat d hd, wlsA_form]
  ring

variable [LinearOrder K] [IsStrictOrderedRing K]

theorem wls_form_nonneg (w : n → K) (hw : ∀ i, 0 ≤ w i) (lam : K) (hlam : 0 ≤ lam) (P : Matrix m n K) (d : n → K) :
    0 ≤ d ⬝ᵥ wlsA w lam P *ᵥ d := by
  rw [wlsA_form]
  exact add_nonneg (Finset.sum_nonneg (fun i _ => mul_nonneg (hw i) (sq_nonneg _)))
    (mul_nonneg hlam (dot_self_nonneg _))

/-- for `lam > 0` the form vanishes only on directions invisible to the weights and to the penalty -/
theorem wls_form_eq_zero (w : n → K) (hw : ∀ i, 0 ≤ w i) (lam : K) (hlam : 0 < lam) (P : Matrix m n K) (d : n → K)
    (h : d ⬝ᵥ wlsA w lam P *ᵥ d = 0) : (∀ i, w i * d i ^ 2 = 0) ∧ P *ᵥ d = 0 := by
  rw [wlsA_form] at h
  have hnn : ∀ i ∈ Finset.univ, 0 ≤ w i * d i ^ 2 := fun i _ => mul_nonneg (hw i) (sq_nonneg _)
  obtain ⟨h1, h2⟩ := (add_eq_zero_iff_of_nonneg (Finset.sum_nonneg hnn)
    (mul_nonneg hlam.le (dot_self_nonneg (P *ᵥ d)))).1 h
  exact ⟨fun i => (Finset.sum_eq_zero_iff_of_nonneg hnn).1 h1 i (Finset.mem_univ i),
    dot_self_eq_zero ((mul_eq_zero.1 h2).resolve_left hlam.ne')⟩

/-- **Normal equations with multipliers ⇒ constrained minimiser** of `Σ wᵢ (yᵢ − τᵢ)² + lam ‖P τ‖²`. -/
theorem wls_kkt_min (w y : n → K) (hw : ∀ i, 0 ≤ w i) (lam : K) (hlam : 0 ≤ lam) (P : Matrix m n K)
    (C : Matrix p n K) (c : p → K) (τ : n → K) (μ : p → K)
    (hstat : wlsA w lam P *ᵥ τ + Cᵀ *ᵥ μ = fun i => w i * y i) (hfeas : C *ᵥ τ = c)
    (τ' : n → K) (hfeas' : C *ᵥ τ' = c) :
    wlsObj w y lam P τ ≤ wlsObj w y lam P τ' := by
  rw [wlsObj_eq_quad, wlsObj_eq_quad]
  exact add_le_add_left (kkt_min _ (wlsA_symm w lam P) C _ τ c μ
    (fun d _ => wls_form_nonneg w hw lam hlam P d) hstat hfeas τ' hfeas') _

/-- **Uniqueness**: if `lam > 0` and the only feasible direction that is invisible to the weights (`wᵢ dᵢ² = 0`) and
to the penalty (`P d = 0`) is `0`, every feasible `τ'` that is not worse than the KKT point equals it. -/
theorem wls_kkt_unique (w y : n → K) (hw : ∀ i, 0 ≤ w i) (lam : K) (hlam : 0 < lam) (P : Matrix m n K)
    (C : Matrix p n K) (c : p → K) (τ : n → K) (μ : p → K)
    (hpin : ∀ d : n → K, C *ᵥ d = 0 → (∀ i, w i * d i ^ 2 = 0) → P *ᵥ d = 0 → d = 0)
    (hstat : wlsA w lam P *ᵥ τ + Cᵀ *ᵥ μ = fun i => w i * y i) (hfeas : C *ᵥ τ = c)
    (τ' : n → K) (hfeas' : C *ᵥ τ' = c) (hle : wlsObj w y lam P τ' ≤ wlsObj w y lam P τ) :
    τ' = τ := by
  rw [wlsObj_eq_quad, wlsObj_eq_quad] at hle
  refine kkt_unique _ (wlsA_symm w lam P) C _ τ c μ
    (fun d _ => wls_form_nonneg w hw lam hlam.le P d)
    (fun d hd h => ?_) hstat hfeas τ' hfeas' (le_of_add_le_add_right hle)
  obtain ⟨h1, h2⟩ := wls_form_eq_zero w hw lam hlam P d h
  exact hpin d hd h1 h2

end WLS

/-! ### Ordinary least squares (DESIGN.md A.2) -/

section OLS

variable [LinearOrder K] [IsStrictOrderedRing K]

omit [LinearOrder K] [IsStrictOrderedRing K] in
/-- normal equations `Xᵀ (y − X b) = 0` ⇒ `b` minimises `‖y − X b‖²`; the excess is `‖X (b' − b)‖²`. -/
theorem ls_excess (X : Matrix m n K) (y : m → K) (b : n → K)
    (h : Xᵀ *ᵥ (y - X *ᵥ b) = 0) (b' : n → K) :
    (y - X *ᵥ b') ⬝ᵥ (y - X *ᵥ b') =
      (y - X *ᵥ b) ⬝ᵥ (y - X *ᵥ b) + (X *ᵥ (b' - b)) ⬝ᵥ (X *ᵥ (b' - b)) := by
  have e1 : y - X *ᵥ b' = (y - X *ᵥ b) - X *ᵥ (b' - b) := by rw [Matrix.mulVec_sub]; abel
  have e2 : (y - X *ᵥ b) ⬝ᵥ X *ᵥ (b' - b) = 0 := by
    rw [Matrix.dotProduct_mulVec, ← Matrix.mulVec_transpose, h, zero_dotProduct]
  have sq : ∀ r u : m → K, (r - u) ⬝ᵥ (r - u) = r ⬝ᵥ r - 2 * (r ⬝ᵥ u) + u ⬝ᵥ u := fun r u => by
    rw [sub_dotProduct, dotProduct_sub, dotProduct_sub, dotProduct_comm u r]; ring
  rw [e1, sq, e2, mul_zero, sub_zero]

theorem ls_min (X : Matrix m n K) (y : m → K) (b : n → K)
    (h : Xᵀ *ᵥ (y - X *ᵥ b) = 0) (b' : n → K) :
    (y - X *ᵥ b) ⬝ᵥ (y - X *ᵥ b) ≤ (y - X *ᵥ b') ⬝ᵥ (y - X *ᵥ b') := by
  rw [ls_excess X y b h b']
  exact le_add_of_nonneg_right (dot_self_nonneg _)

/-- with a trivial kernel (`X d = 0 ⇒ d = 0`, i.e. full column rank) the least-squares solution is unique -/
theorem ls_unique (X : Matrix m n K) (hX : ∀ d : n → K, X *ᵥ d = 0 → d = 0) (y : m → K) (b : n → K)
    (h : Xᵀ *ᵥ (y - X *ᵥ b) = 0) (b' : n → K)
    (hle : (y - X *ᵥ b') ⬝ᵥ (y - X *ᵥ b') ≤ (y - X *ᵥ b) ⬝ᵥ (y - X *ᵥ b)) : b' = b := by
  rw [ls_excess X y b h b', add_le_iff_nonpos_right] at hle
  exact sub_eq_zero.1 (hX _ (dot_self_eq_zero (le_antisymm hle (dot_self_nonneg _))))

end OLS

end IrisVerif.QuadMin
