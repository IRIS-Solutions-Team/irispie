/-
What a `do` block in `Except` or `Option` and a `List.mapM` into them say when they return, and at which element a `mapM` that fails
has failed.  The models' operations are written in these two monads, and their theorems open a run statement by statement: the lemma
files of the series, databox, grid, heap, sequential and temporal models and of the conversions, the property files C02, C10 to C14,
C17, C19, `KalmanVariants` and the bridges of C01, C12 and C14 use them.  Core Lean only.
-/

namespace IrisVerif

universe u v w

/-- `mapM` into a monad in which a `do` block returns only if its first statement has returned (`hbind`) and `pure` is injective
(`hpure`): both hold of `Except ε` and of `Option` -/
theorem mapM_eq_pure_iff {m : Type v → Type u} [Monad m] [LawfulMonad m] {α : Type w} {β : Type v}
    (hbind : ∀ {β γ : Type v} {x : m β} {f : β → m γ} {c : γ}, x >>= f = pure c ↔ ∃ b, x = pure b ∧ f b = pure c)
    (hpure : ∀ {β : Type v} {a b : β}, (pure a : m β) = pure b → a = b)
    {f : α → m β} {l : List α} {ys : List β} : l.mapM f = pure ys ↔ l.map f = ys.map pure := by
  induction l generalizing ys with
  | nil =>
    rw [List.mapM_nil, List.map_nil, eq_comm (a := []), List.map_eq_nil_iff]
    exact ⟨fun h => (hpure h).symm, fun h => by rw [h]⟩
  | cons a l ih =>
    rw [List.mapM_cons, hbind]
    constructor
    · rintro ⟨b, hb, h⟩
      obtain ⟨bs, hbs, h⟩ := hbind.1 h
      rw [← hpure h, List.map_cons, List.map_cons, hb, ih.1 hbs]
    · intro h
      cases ys with
      | nil => cases h
      | cons y ys =>
        rw [List.map_cons, List.map_cons, List.cons.injEq] at h
        exact ⟨y, h.1, hbind.2 ⟨ys, ih.2 h.2, rfl⟩⟩

section except
variable {ε : Type u} {α : Type w} {β γ : Type v}

theorem Except.bind_eq_ok {x : Except ε β} {f : β → Except ε γ} {c : γ} :
    x >>= f = .ok c ↔ ∃ b, x = .ok b ∧ f b = .ok c := by
  cases x <;> simp [bind, Except.bind]

theorem Except.bind_eq_error {x : Except ε β} {f : β → Except ε γ} {e : ε} :
    x >>= f = .error e ↔ x = .error e ∨ ∃ b, x = .ok b ∧ f b = .error e := by
  cases x <;> simp [bind, Except.bind]

theorem Except.bind_ne_error {x : Except ε β} {f : β → Except ε γ} {e : ε}
    (hx : x ≠ .error e) (hf : ∀ b, f b ≠ .error e) : x >>= f ≠ .error e :=
  fun h => (Except.bind_eq_error.1 h).elim hx fun ⟨b, _, hb⟩ => hf b hb

theorem Except.map_eq_ok {f : β → γ} {x : Except ε β} {c : γ} : x.map f = .ok c ↔ ∃ b, x = .ok b ∧ f b = c := by
  cases x <;> simp [Except.map]

variable {f : α → Except ε β} {l : List α} {ys : List β}

theorem mapM_eq_ok_iff : l.mapM f = .ok ys ↔ l.map f = ys.map .ok :=
  mapM_eq_pure_iff Except.bind_eq_ok Except.ok.inj

theorem mapM_ok_of_forall {g : α → β} (h : ∀ x ∈ l, f x = .ok (g x)) : l.mapM f = .ok (l.map g) :=
  mapM_eq_ok_iff.2 (by rw [List.map_map]; exact List.map_congr_left h)

theorem mapM_ok_length (h : l.mapM f = .ok ys) : ys.length = l.length := by
  simpa using (congrArg List.length (mapM_eq_ok_iff.1 h)).symm

theorem mapM_ok_mem (h : l.mapM f = .ok ys) {y : β} (hy : y ∈ ys) : ∃ x ∈ l, f x = .ok y :=
  List.mem_map.1 (show .ok y ∈ l.map f from mapM_eq_ok_iff.1 h ▸ List.mem_map_of_mem hy)

theorem mapM_ok_getElem? (h : l.mapM f = .ok ys) {i : Nat} {x : α} (hx : l[i]? = some x) :
    ∃ y, ys[i]? = some y ∧ f x = .ok y := by
  have e := congrArg (·[i]?) (mapM_eq_ok_iff.1 h)
  simp only [List.getElem?_map, hx, Option.map_some] at e
  obtain ⟨y, hy, hxy⟩ := Option.map_eq_some_iff.1 e.symm
  exact ⟨y, hy, hxy.symm⟩

-- `α` and `β` are bound anew, in one universe: each is the result type of one of the two passes
theorem mapM_roundtrip {α β : Type w} {f : α → Except ε β} {g : β → Except ε α} {l : List α} {ys : List β}
    (h : l.mapM f = .ok ys) (hg : ∀ x ∈ l, ∀ y, f x = .ok y → g y = .ok x) : ys.mapM g = .ok l := by
  induction l generalizing ys with
  | nil => cases h; rfl
  | cons a l ih =>
    rw [List.mapM_cons] at h
    obtain ⟨b, hb, h⟩ := Except.bind_eq_ok.1 h
    obtain ⟨bs, hbs, ⟨⟩⟩ := Except.bind_eq_ok.1 h
    rw [List.mapM_cons, hg a (List.mem_cons_self ..) b hb, ih hbs fun x hx => hg x (List.mem_cons_of_mem _ hx)]
    rfl

theorem mapM_error_mem {e : ε} (h : l.mapM f = .error e) : ∃ x ∈ l, f x = .error e := by
  induction l with
  | nil => cases h
  | cons a l ih =>
    rw [List.mapM_cons, Except.bind_eq_error] at h
    rcases h with h | ⟨b, _, h⟩
    · exact ⟨a, List.mem_cons_self, h⟩
    · rcases Except.bind_eq_error.1 h with h | ⟨bs, _, h⟩
      · exact (ih h).imp fun _ hx => ⟨List.mem_cons_of_mem _ hx.1, hx.2⟩
      · cases h

theorem mapM_ok_of_forall_ok (h : ∀ x ∈ l, ∃ y, f x = .ok y) : ∃ ys, l.mapM f = .ok ys := by
  cases hl : l.mapM f with
  | ok ys => exact ⟨ys, rfl⟩
  | error e =>
    obtain ⟨x, hx, he⟩ := mapM_error_mem hl
    obtain ⟨y, hy⟩ := h x hx
    rw [hy] at he
    cases he

/-- `mapM` reports the first failure: hence `he`, that no element fails with another error -/
theorem mapM_error_of_mem {e : ε} (hx : ∃ x ∈ l, f x = .error e) (he : ∀ x ∈ l, ∀ e', f x = .error e' → e' = e) :
    l.mapM f = .error e := by
  cases h : l.mapM f with
  | error e' =>
    obtain ⟨x, hm, hx'⟩ := mapM_error_mem h
    rw [he x hm e' hx']
  | ok ys =>
    obtain ⟨x, hm, hx⟩ := hx
    obtain ⟨i, hi⟩ := List.getElem?_of_mem hm
    obtain ⟨y, _, hy⟩ := mapM_ok_getElem? h hi
    rw [hx] at hy
    cases hy

end except

section option
variable {α : Type w} {β : Type v} {g : α → Option β} {l : List α} {out : List β}

theorem mapM_eq_some_iff : l.mapM g = some out ↔ l.map g = out.map some :=
  mapM_eq_pure_iff Option.bind_eq_some_iff Option.some.inj

theorem mapM_some_length (h : l.mapM g = some out) : out.length = l.length := by
  simpa using (congrArg List.length (mapM_eq_some_iff.1 h)).symm

theorem mapM_some_mem (h : l.mapM g = some out) {y : β} (hy : y ∈ out) : ∃ x ∈ l, g x = some y :=
  List.mem_map.1 (show some y ∈ l.map g from mapM_eq_some_iff.1 h ▸ List.mem_map_of_mem hy)

theorem mapM_isSome (h : ∀ x ∈ l, (g x).isSome = true) : (l.mapM g).isSome = true := by
  refine Option.isSome_iff_exists.2 ⟨l.pmap (fun x hx => (g x).get hx) h, mapM_eq_some_iff.2 ?_⟩
  rw [List.map_pmap]
  simp only [Option.some_get, List.pmap_eq_map]

end option

end IrisVerif
