/-
C02 — the scatter-map definitions of `Model/Expr.lean` characterised entry by entry.  All of them are walks that concatenate one
block of entries per element of a list and carry a running number; `stackedAux` and `termSpotsAux` also carry the total size of
the elements passed.  `mem_walk` treats that shape once (a walk that keeps the elements passing a test is the case of blocks
with at most one entry); only `dynidAux`, whose row counter steps on a hit, needs a step of its own (`dynidAux_snd`).  The
property-level statements built from them are in `Props/C02.lean`.
-/
import IrisVerif.Lemmas.Sorts
import IrisVerif.Model.Expr

namespace IrisVerif.AD

/-- the Jacobian cell an entry writes -/
def Entry.cell (e : Entry) : Nat × Nat := (e.lhsRow, e.lhsCol)

/-- a walk that concatenates one block per element: block `B a r o` of element `a` is given its number (counted from `r`) and
    the total size of the elements before it (counted from `o`).  The entries of the walk are those of the blocks -/
theorem mem_walk {α β : Type} {F : Nat → Nat → List α → List β} {B : α → Nat → Nat → List β} {len : α → Nat}
    (hnil : ∀ r o, F r o [] = []) (hcons : ∀ r o a l, F r o (a :: l) = B a r o ++ F (r + 1) (o + len a) l)
    (r o : Nat) (l : List α) (b : β) :
    b ∈ F r o l ↔ ∃ k, ∃ hk : k < l.length, b ∈ B l[k] (r + k) (o + ((l.take k).map len).sum) := by
  induction l generalizing r o with
  | nil => simp [hnil]
  | cons a l ih =>
    have e (k : Nat) : o + len a + ((l.take k).map len).sum = o + (((a :: l).take (k + 1)).map len).sum := by
      rw [List.take_succ_cons, List.map_cons, List.sum_cons, Nat.add_assoc]
    rw [hcons, List.mem_append, ih]
    constructor
    · rintro (hb | ⟨k, hk, hb⟩)
      · exact ⟨0, Nat.zero_lt_succ _, hb⟩
      · exact ⟨k + 1, Nat.succ_lt_succ hk, by rwa [Nat.add_assoc, Nat.add_comm 1, e] at hb⟩
    · rintro ⟨k, hk, hb⟩
      cases k with
      | zero => exact .inl hb
      | succ k => exact .inr ⟨k, Nat.lt_of_succ_lt_succ hk, by rwa [Nat.add_assoc, Nat.add_comm 1, e]⟩

theorem mem_numbered_append {α β : Type} {F : Nat → List α → List β} {B : α → Nat → List β}
    (hnil : ∀ r, F r [] = []) (hcons : ∀ r a l, F r (a :: l) = B a r ++ F (r + 1) l)
    (r : Nat) (l : List α) (b : β) :
    b ∈ F r l ↔ ∃ k, ∃ hk : k < l.length, b ∈ B l[k] (r + k) :=
  mem_walk (F := fun r _ => F r) (B := fun a r _ => B a r) (len := fun _ => 0) (fun r _ => hnil r) (fun r _ => hcons r) r 0 l b

/-- the elements that pass `p`, each with its number: blocks of at most one entry -/
theorem mem_numbered_filter {α β : Type} {F : Nat → List α → List β} {p : α → Prop} [DecidablePred p] {h : α → Nat → β}
    (hnil : ∀ r, F r [] = [])
    (hcons : ∀ r t ts, F r (t :: ts) = if p t then h t r :: F (r + 1) ts else F (r + 1) ts)
    (r : Nat) (l : List α) (b : β) :
    b ∈ F r l ↔ ∃ k, ∃ hk : k < l.length, p l[k] ∧ b = h l[k] (r + k) := by
  rw [mem_numbered_append (B := fun t k => if p t then [h t k] else []) hnil
    (fun r t ts => by rw [hcons]; split <;> rfl)]
  simp only [List.mem_ite_nil_right, List.mem_singleton]

/-- one equation's raw map, entry by entry: the `k`-th wrt-token, if it has a column, is sent from derivative row `r + k`
    to the column that carries it -/
theorem mem_rawMapAux (cols : List (Option Token)) (row r : Nat) (wrt : List Token) (en : Entry) :
    en ∈ rawMapAux cols row r wrt ↔
      ∃ k, ∃ hk : k < wrt.length, some wrt[k] ∈ cols ∧ en = ⟨row, cols.idxOf (some wrt[k]), r + k, 0⟩ := by
  simpa only [List.contains_iff_mem] using
    mem_numbered_filter (F := rawMapAux cols row) (p := fun t => cols.contains (some t) = true)
      (h := fun t k => ⟨row, cols.idxOf (some t), k, 0⟩) (fun _ => rfl) (fun _ _ _ => rfl) r wrt en

theorem mem_staticMapAux (cols : List (Option Token)) (row : Nat) (eqs : List (List Token × Nat)) (en : Entry) :
    en ∈ staticMapAux cols row eqs ↔ ∃ i, ∃ hi : i < eqs.length, en ∈ rawMapAux cols (row + i) eqs[i].2 eqs[i].1 :=
  mem_numbered_append (F := staticMapAux cols) (B := fun p i => rawMapAux cols i p.2 p.1) (fun _ => rfl) (fun _ _ _ => rfl)
    row eqs en

/-- `sort_tokens`' order as a relation -/
def TokenLe (a b : Token) : Prop := tokenLe a b = true

instance : DecidableRel TokenLe := fun a b => inferInstanceAs (Decidable (tokenLe a b = true))

theorem tokenLe_iff (a b : Token) : TokenLe a b ↔ (b.2 < a.2 ∨ (a.2 = b.2 ∧ a.1 ≤ b.1)) := by
  simp [TokenLe, tokenLe]

instance : Std.Total TokenLe := ⟨fun a b => by
  rw [tokenLe_iff, tokenLe_iff]
  omega⟩

instance : IsTrans Token TokenLe := ⟨fun a b c => by
  rw [tokenLe_iff, tokenLe_iff, tokenLe_iff]
  omega⟩

theorem sortTokens_eq (l : List Token) : sortTokens l = List.insertionSort TokenLe l :=
  foldr_insert_eq_insertionSort (r := TokenLe) (ins := insertToken) (fun _ => rfl) (fun _ _ _ => rfl) l

theorem shiftRange_eq (q : Nat) (lo : Int) (n : Nat) :
    shiftRange q lo n = (List.range n).map fun k : Nat => (q, lo + 1 + (k : Int)) := by
  induction n with
  | zero => rfl
  | succ n ih => rw [shiftRange, ih, List.range_succ, List.map_append, List.map_singleton]

theorem shiftRange_mem (q : Nat) (lo : Int) (n : Nat) (t : Token) :
    t ∈ shiftRange q lo n ↔ t.1 = q ∧ lo < t.2 ∧ t.2 ≤ lo + n := by
  rw [shiftRange_eq, List.mem_map]
  constructor
  · rintro ⟨k, hk, rfl⟩
    have := List.mem_range.mp hk
    exact ⟨rfl, by omega, by omega⟩
  · rintro ⟨rfl, h1, h2⟩
    exact ⟨(t.2 - lo - 1).toNat, List.mem_range.mpr (by omega), Prod.ext rfl (by dsimp only; omega)⟩

theorem shiftRange_nodup (q : Nat) (lo : Int) (n : Nat) : (shiftRange q lo n).Nodup := by
  rw [shiftRange_eq]
  exact List.nodup_range.map fun a b h => Int.natCast_inj.mp (Int.add_left_cancel (Prod.mk.inj h).2)

theorem mem_stackedForToken (spots : List Token) (numEqs eqn rhsRow : Nat) (tok : Token) (k : Nat) (cs : List Int)
    (en : Entry) :
    en ∈ stackedForToken spots numEqs eqn rhsRow tok k cs ↔
      ∃ j, ∃ hj : j < cs.length, shifted tok cs[j] ∈ spots ∧
        en = ⟨eqn + numEqs * (k + j), spots.idxOf (shifted tok cs[j]), rhsRow, k + j⟩ := by
  simpa only [List.contains_iff_mem] using
    mem_numbered_filter (F := stackedForToken spots numEqs eqn rhsRow tok) (p := fun c => spots.contains (shifted tok c) = true)
      (h := fun c k => ⟨eqn + numEqs * k, spots.idxOf (shifted tok c), rhsRow, k⟩) (fun _ => rfl) (fun _ _ _ => rfl) k cs en

theorem mem_stackedForEq (spots : List Token) (cols : List Int) (numEqs eqn r : Nat) (ts : List Token) (en : Entry) :
    en ∈ stackedForEq spots cols numEqs eqn r ts ↔
      ∃ p, ∃ hp : p < ts.length, en ∈ stackedForToken spots numEqs eqn (r + p) ts[p] 0 cols :=
  mem_numbered_append (F := stackedForEq spots cols numEqs eqn) (B := fun t r => stackedForToken spots numEqs eqn r t 0 cols)
    (fun _ => rfl) (fun _ _ _ => rfl) r ts en

/-- the equations' blocks follow each other: block `i` starts at equation row `eqn + i` and at the derivative row after the
    wrt-tokens of the equations before it -/
theorem mem_stackedAux (spots : List Token) (cols : List Int) (numEqs eqn off : Nat) (eqs : List (List Token)) (en : Entry) :
    en ∈ stackedAux spots cols numEqs eqn off eqs ↔ ∃ i, ∃ hi : i < eqs.length,
      en ∈ stackedForEq spots cols numEqs (eqn + i) (off + ((eqs.take i).map List.length).sum) eqs[i] :=
  mem_walk (F := stackedAux spots cols numEqs) (B := fun w eqn off => stackedForEq spots cols numEqs eqn off w)
    (fun _ _ => rfl) (fun _ _ _ _ => rfl) eqn off eqs en

/-- the row counter of `dynidAux` only numbers the output: what a row says (`i`, `j`) does not depend on it -/
theorem dynidAux_snd (tv : List Token) (row row' i : Nat) (ts : List Token) :
    (dynidAux tv row i ts).map (·.2) = (dynidAux tv row' i ts).map (·.2) := by
  induction ts generalizing row row' i with
  | nil => rfl
  | cons t ts ih =>
    simp only [dynidAux]
    split
    · rw [List.map_cons, List.map_cons, ih (row + 1) (row' + 1)]
    · exact ih row row' (i + 1)

/-- the pairs `(i, j)` of `dynidAux` are a numbered filter in `i`: after a hit the rest is walked with the row counter at `1`,
    which `dynidAux_snd` sets back to `0` -/
theorem mem_dynidAux_snd (tv : List Token) (i : Nat) (ts : List Token) (e : Nat × Nat) :
    e ∈ (dynidAux tv 0 i ts).map (·.2) ↔
      ∃ k, ∃ hk : k < ts.length, shifted ts[k] 1 ∈ tv ∧ e = (i + k, tv.idxOf (shifted ts[k] 1)) := by
  simpa only [List.contains_iff_mem] using
    mem_numbered_filter (F := fun i ts => (dynidAux tv 0 i ts).map (·.2)) (p := fun t => tv.contains (shifted t 1) = true)
      (h := fun t i => (i, tv.idxOf (shifted t 1))) (fun _ => rfl)
      (fun i t ts => by
        simp only [dynidAux]
        split <;> simp only [List.map_cons, dynidAux_snd tv 1 0]) i ts e

theorem mem_dynid_snd (tv : List Token) (e : Nat × Nat) :
    e ∈ (dynid tv).map (·.2) ↔ ∃ i, ∃ hi : i < tv.length, shifted tv[i] 1 ∈ tv ∧ e = (i, tv.idxOf (shifted tv[i] 1)) := by
  simpa only [dynid, Nat.zero_add] using mem_dynidAux_snd tv 0 tv e

theorem dynidAux_rows (tv : List Token) (row i : Nat) (ts : List Token) :
    (dynidAux tv row i ts).map (·.1) = List.range' row (dynidAux tv row i ts).length := by
  induction ts generalizing row i with
  | nil => simp [dynidAux]
  | cons t ts ih =>
    simp only [dynidAux]
    split
    · simp [ih (row + 1) (i + 1), List.range'_succ]
    · exact ih row (i + 1)

theorem mem_termForCol (keep : Nat → Int → Bool) (c : Int) (inx : Nat) (qs : List Nat) (e : Nat × Token) :
    e ∈ termForCol keep c inx qs ↔ ∃ p, ∃ hp : p < qs.length, keep qs[p] c = true ∧ e = (inx + p, (qs[p], c)) :=
  mem_numbered_filter (F := termForCol keep c) (p := fun q => keep q c = true) (h := fun q i => (i, (q, c)))
    (fun _ => rfl) (fun _ _ _ => rfl) inx qs e

theorem mem_termSpotsAux (qids : List Nat) (keep : Nat → Int → Bool) (inx : Nat) (cs : List Int) (e : Nat × Token) :
    e ∈ termSpotsAux qids keep inx cs ↔ ∃ k, ∃ hk : k < cs.length, ∃ p, ∃ hp : p < qids.length, keep qids[p] cs[k] = true ∧
      e = (inx + k * qids.length + p, (qids[p], cs[k])) := by
  rw [mem_walk (F := fun _ => termSpotsAux qids keep) (B := fun c _ inx => termForCol keep c inx qids)
    (len := fun _ => qids.length) (fun _ _ => rfl) (fun _ _ _ _ => rfl) 0 inx cs e]
  refine exists_congr fun k => exists_congr fun hk => ?_
  rw [List.map_const', List.sum_replicate_nat, List.length_take_of_le hk.le, mem_termForCol]

theorem mem_terminalJacMapAux (wrtSpots : List Token) (r : Nat) (ts : List Token) (e : Nat × Nat) :
    e ∈ terminalJacMapAux wrtSpots r ts ↔ ∃ k, ∃ hk : k < ts.length, ts[k] ∈ wrtSpots ∧ e = (wrtSpots.idxOf ts[k], r + k) := by
  simpa only [List.contains_iff_mem] using
    mem_numbered_filter (F := terminalJacMapAux wrtSpots) (p := fun t => wrtSpots.contains t = true)
      (h := fun t r => (wrtSpots.idxOf t, r)) (fun _ => rfl) (fun _ _ _ => rfl) r ts e

end IrisVerif.AD
