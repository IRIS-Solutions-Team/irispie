/-
Helper lemmas for C12 about the aggregate / disaggregate model (IrisVerif.Model.Conversions): the reductions, the
period-indexed view `Ser.get` under trimming and table construction, a table of `g` of blocks (`Lemmas/Blocks.lean`) as a
period-indexed map, the regular pairs (over the day line of `Lemmas/DayLine.lean`) with what `aggregateRegular` and
`disaggregate` return on them. Core Lean, no Mathlib.
-/
import IrisVerif.Model.Conversions
import IrisVerif.Lemmas.Monads
import IrisVerif.Lemmas.Refrequent
import IrisVerif.Lemmas.Blocks
import IrisVerif.Lemmas.DayLine


namespace IrisVerif.Conv
open IrisVerif.Dates IrisVerif.Gen.Dates

theorem addVal_none_left (x : Val) : addVal none x = none := by cases x <;> rfl
theorem mulVal_none_left (x : Val) : mulVal none x = none := by cases x <;> rfl
theorem addVal_none_right (x : Val) : addVal x none = none := by cases x <;> rfl
theorem mulVal_none_right (x : Val) : mulVal x none = none := by cases x <;> rfl

theorem foldl_of_mem_none (op : Val → Val → Val) (hl : ∀ x, op none x = none) (hr : ∀ x, op x none = none)
    (l : List Val) (a : Val) (h : none ∈ l) : l.foldl op a = none := by
  obtain ⟨s, t, rfl⟩ := List.append_of_mem h
  rw [List.foldl_append, List.foldl_cons, hr]
  clear h
  induction t with
  | nil => rfl
  | cons x xs ih => rw [List.foldl_cons, hl, ih]

theorem pySum_of_mem_none (l : List Val) (h : none ∈ l) : pySum l = none :=
  foldl_of_mem_none addVal addVal_none_left addVal_none_right l _ h
theorem npProd_of_mem_none (l : List Val) (h : none ∈ l) : npProd l = none :=
  foldl_of_mem_none mulVal mulVal_none_left mulVal_none_right l _ h
theorem stMean_of_mem_none (l : List Val) (h : none ∈ l) : stMean l = none := by
  simp [stMean, pySum_of_mem_none l h]

/-- core's `List.foldl_hom` with the mapped list on the left, the shape in which the folds of the model meet it -/
theorem foldl_map_hom {α β} (g : α → β) (op : α → α → α) (op' : β → β → β) (h : ∀ a b, g (op a b) = op' (g a) (g b))
    (w : List α) (a : α) : (w.map g).foldl op' (g a) = g (w.foldl op a) := by
  rw [List.foldl_map]
  exact List.foldl_hom g fun a b => (h a b).symm

theorem foldl_addVal_some (l : List Rat) (a : Rat) :
    (l.map some).foldl addVal (some a) = some (l.foldl (· + ·) a) :=
  foldl_map_hom some (· + ·) addVal (fun _ _ => rfl) l a

theorem foldl_mulVal_some (l : List Rat) (a : Rat) :
    (l.map some).foldl mulVal (some a) = some (l.foldl (· * ·) a) :=
  foldl_map_hom some (· * ·) mulVal (fun _ _ => rfl) l a

theorem foldl_replicate_idem {α} (f : α → α → α) (x : α) (h : f x x = x) (k : Nat) :
    (List.replicate k x).foldl f x = x := by
  induction k with
  | zero => rfl
  | succ k ih => rw [List.replicate_succ, List.foldl_cons, h, ih]

theorem pyMin_replicate (k : Nat) (x : Val) : pyMin (List.replicate (k + 1) x) = x :=
  foldl_replicate_idem (fun cur it => if ltVal it cur then it else cur) x (ite_self _) k

theorem pyMax_replicate (k : Nat) (x : Val) : pyMax (List.replicate (k + 1) x) = x :=
  foldl_replicate_idem (fun cur it => if ltVal cur it then it else cur) x (ite_self _) k

/-- `_aggregate_within_data` without `select`: optional discarding of NaN, NaN for an empty group, else the method -/
def aggPure (discard : Bool) (m : Method) (w : List Val) : Val :=
  let w := if discard then w.filter Option.isSome else w
  if w.isEmpty then none else m.apply w

theorem aggWithin_no_select (d : Bool) (m : Method) (w : List Val) : aggWithin none d m w = .ok (aggPure d m w) := rfl

theorem aggPure_false {w : List Val} (h : w ≠ []) (m : Method) : aggPure false m w = m.apply w :=
  if_neg (by rw [List.isEmpty_iff]; exact h)

theorem apply_replicate {m : Method} (hm : m = .first ∨ m = .last ∨ m = .min ∨ m = .max) (k : Nat) (x : Val) :
    m.apply (List.replicate (k + 1) x) = x := by
  rcases hm with rfl | rfl | rfl | rfl
  · simp [Method.apply, List.replicate_succ]
  · simp [Method.apply, List.getLast?_replicate]
  · exact pyMin_replicate k x
  · exact pyMax_replicate k x

theorem apply_replicate_none (m : Method) (k : Nat) : m.apply (List.replicate (k + 1) none) = none := by
  have hmem : (none : Val) ∈ List.replicate (k + 1) none := by simp
  cases m
  · exact stMean_of_mem_none _ hmem
  · exact pySum_of_mem_none _ hmem
  · exact npProd_of_mem_none _ hmem
  all_goals exact apply_replicate (by simp) k none

theorem aggPure_replicate_none (d : Bool) (m : Method) (k : Nat) : aggPure d m (List.replicate k none) = none := by
  cases k with
  | zero => cases d <;> simp [aggPure]
  | succ k =>
    cases d
    · rw [aggPure_false (by simp)]
      exact apply_replicate_none m k
    · simp [aggPure]

theorem map_range_eq_replicate {α} (k : Nat) (f : Nat → α) (x : α) (h : ∀ i, i < k → f i = x) :
    (List.range k).map f = List.replicate k x := by
  rw [List.map_congr_left (g := fun _ => x) fun i hi => h i (List.mem_range.1 hi), List.map_const', List.length_range]

/-- entry `v` of stored row `i`, NaN outside: `Ser.get` without the offset by `start` -/
def rowsGet (rows : List (List Val)) (v : Nat) (i : Nat) : Val := ((rows[i]?).bind (·[v]?)).join

theorem Ser.get_eq (s : Ser) (v : Nat) (t : Int) :
    s.get v t = if t < s.start then none else rowsGet s.rows v (t - s.start).toNat := rfl

theorem rowMissing_get (r : List Val) (h : rowMissing r = true) (v : Nat) : (r[v]?).join = none := by
  cases hv : r[v]? with
  | none => rfl
  | some x => exact Option.isNone_iff_eq_none.1 (List.all_eq_true.1 h x (List.mem_of_getElem? hv))

theorem rowsGet_cons_zero (r : List Val) (rs : List (List Val)) (v : Nat) : rowsGet (r :: rs) v 0 = (r[v]?).join := by
  simp [rowsGet]

theorem rowsGet_cons_succ (r : List Val) (rs : List (List Val)) (v i : Nat) : rowsGet (r :: rs) v (i + 1) = rowsGet rs v i := by
  simp [rowsGet]

theorem rowsGet_nil (v i : Nat) : rowsGet [] v i = none := by simp [rowsGet]

theorem rowsGet_drop (rows : List (List Val)) (k v i : Nat) : rowsGet (rows.drop k) v i = rowsGet rows v (k + i) := by
  simp [rowsGet, List.getElem?_drop]

theorem rowsGet_lead {rows : List (List Val)} {v i : Nat} (h : i < leadMissing rows) : rowsGet rows v i = none := by
  induction rows generalizing i with
  | nil => simp [leadMissing] at h
  | cons r rs ih =>
    unfold leadMissing at h
    split at h
    · rename_i hr
      cases i with
      | zero => rw [rowsGet_cons_zero]; exact rowMissing_get r hr v
      | succ i => rw [rowsGet_cons_succ]; exact ih (by omega)
    · omega

theorem rtrimRows_cons (r : List Val) (rs : List (List Val)) :
    rtrimRows (r :: rs) = if rtrimRows rs = [] ∧ rowMissing r = true then [] else r :: rtrimRows rs := by
  rw [rtrimRows]
  split
  · rename_i h
    simp only [h, true_and]
  · rename_i y ys h
    rw [h, if_neg (fun c => List.cons_ne_nil _ _ c.1)]

theorem rowsGet_rtrim (rows : List (List Val)) (v i : Nat) : rowsGet (rtrimRows rows) v i = rowsGet rows v i := by
  induction rows generalizing i with
  | nil => rfl
  | cons r rs ih =>
    rw [rtrimRows_cons]
    split
    · rename_i h
      cases i with
      | zero => rw [rowsGet_cons_zero, rowMissing_get r h.2, rowsGet_nil]
      | succ i => rw [rowsGet_cons_succ, ← ih, h.1, rowsGet_nil, rowsGet_nil]
    · cases i with
      | zero => rfl
      | succ i => rw [rowsGet_cons_succ, rowsGet_cons_succ, ih]

/-- **Trimming never changes the period-indexed map.** -/
theorem Ser.get_trim (s : Ser) (v : Nat) (t : Int) : s.trim.get v t = s.get v t := by
  simp only [Ser.get_eq, Ser.trim]
  rw [rowsGet_rtrim, rowsGet_drop]
  by_cases h : t < s.start + (leadMissing s.rows : Int)
  · rw [if_pos h]
    split
    · rfl
    · exact (rowsGet_lead (by omega)).symm
  · rw [if_neg h, if_neg (by omega)]
    congr 1
    omega

theorem Ser.trim_freq (s : Ser) : s.trim.freq = s.freq := rfl
theorem Ser.trim_nv (s : Ser) : s.trim.nv = s.nv := rfl

theorem rowsGet_table (n nv : Nat) (f : Nat → Nat → Val) (v i : Nat) :
    rowsGet ((List.range n).map fun j => (List.range nv).map fun w => f j w) v i
      = if i < n ∧ v < nv then f i v else none := by
  unfold rowsGet
  by_cases hi : i < n
  · by_cases hv : v < nv
    · simp [hi, hv]
    · simp [hi, hv]
  · simp [hi]

theorem Ser.get_outside (s : Ser) (v : Nat) (t : Int) (h : t < s.start ∨ s.endSerial < t) : s.get v t = none := by
  rw [Ser.get_eq]
  rcases h with h | h
  · simp [h]
  · split
    · rfl
    · unfold Ser.endSerial at h
      have : s.rows.length ≤ (t - s.start).toNat := by omega
      simp [rowsGet, List.getElem?_eq_none this]

theorem Ser.get_of_rows_nil {s : Ser} (h : s.rows = []) (v : Nat) (t : Int) : s.get v t = none := by
  rw [Ser.get_eq, h, rowsGet_nil, ite_self]

/-! ### aggregation by blocks

Both aggregation pipelines lay out, from the first target period of the start year, one row per target period holding the
within-period routine's value on the block of source periods that belongs to it (`Lemmas/Blocks.lean`). What the routine
does is a pure function `g` of the group: `aggPure d m` without `select`, `aggPure d m` after the positional choice with a
valid `select`. -/

theorem table_get (lo : Freq) (nv n : Nat) (newStart : Int) (F : Int → Nat → Val)
    (hout : ∀ T v, T < newStart ∨ newStart + n ≤ T → F T v = none) (v : Nat) (hv : v < nv) (T : Int) :
    (Ser.trim ⟨lo, nv, newStart, (List.range n).map fun (j : Nat) => (List.range nv).map fun v => F (newStart + j) v⟩).get v T
      = F T v := by
  rw [Ser.get_trim, Ser.get_eq]
  simp only [rowsGet_table]
  by_cases c1 : T < newStart
  · rw [if_pos c1, hout T v (Or.inl c1)]
  · by_cases c2 : (T - newStart).toNat < n
    · rw [if_neg c1, if_pos ⟨c2, hv⟩, show newStart + (((T - newStart).toNat : Nat) : Int) = T by omega]
    · rw [if_neg c1, if_neg (fun h => c2 h.1), hout T v (Or.inr (by omega))]

/-- **A conversion by blocks, as a period-indexed map.** Rows `newStart … newStart + n - 1` hold `g` of the values of
their blocks, and the blocks of these rows cover the series: then, trimming included, the value at *every* `T` (inside or
outside the stored rows) is `g` of the values of the block of `T`, provided `g` of an all-NaN group is NaN. -/
theorem blocks_get {lo : Int → Int} {len : Int → Nat} (hnext : ∀ T, lo (T + 1) = lo T + len T) (s : Ser) (f : Freq)
    (g : List Val → Val) (hg : ∀ T, g (List.replicate (len T) none) = none)
    (newStart : Int) (n : Nat) (h1 : lo newStart ≤ s.start) (h2 : s.endSerial < lo (newStart + n))
    (v : Nat) (hv : v < s.nv) (T : Int) :
    (Ser.trim ⟨f, s.nv, newStart, (List.range n).map fun (j : Nat) => (List.range s.nv).map fun v =>
        g ((blockOf lo len (newStart + j)).map (s.get v))⟩).get v T
      = g ((blockOf lo len T).map (s.get v)) := by
  apply table_get f s.nv n newStart (fun T v => g ((blockOf lo len T).map (s.get v))) _ v hv
  intro T v hT
  show g _ = none
  unfold blockOf
  rw [List.map_map, map_range_eq_replicate _ _ none, hg]
  intro i hi
  apply Ser.get_outside
  show lo T + (i : Int) < s.start ∨ s.endSerial < lo T + (i : Int)
  rcases hT with hT | hT
  · have := block_end_le hnext hT; left; omega
  · have := block_lo_mono hnext hT; right; omega

/-- (high, low) pairs of regular frequencies -/
def regularPairs : List (Freq × Freq) := [(.M, .Q), (.M, .H), (.M, .Y), (.Q, .H), (.Q, .Y), (.H, .Y)]

/-- number of high-frequency periods per low-frequency period -/
def factorOf (hi lo : Freq) : Nat := (hi.value / lo.value).toNat

theorem regularPairs_regular {hi lo : Freq} (hp : (hi, lo) ∈ regularPairs) :
    hi.isRegular = true ∧ lo.isRegular = true ∧ lo ≠ hi :=
  (by decide : ∀ p ∈ regularPairs, p.1.isRegular = true ∧ p.2.isRegular = true ∧ p.2 ≠ p.1) _ hp

/-- what the proofs below use of the six pairs: the finer frequency's value is a multiple by the ratio -/
theorem regularPairs_factor {hi lo : Freq} (hp : (hi, lo) ∈ regularPairs) :
    hi.value = lo.value * (factorOf hi lo : Nat) ∧ 0 < factorOf hi lo ∧ 0 < lo.value ∧ lo.value ≤ hi.value :=
  (by decide : ∀ p ∈ regularPairs, p.1.value = p.2.value * (factorOf p.1 p.2 : Nat) ∧ 0 < factorOf p.1 p.2 ∧ 0 < p.2.value ∧
    p.2.value ≤ p.1.value) _ hp

theorem factorOf_pos (hi lo : Freq) (hp : (hi, lo) ∈ regularPairs) : 0 < factorOf hi lo := (regularPairs_factor hp).2.1

theorem block_coords (t : Int) {k : Nat} (hk : 0 < k) : (t % k).toNat < k ∧ t / k * k + ((t % k).toNat : Nat) = t := by
  have h0 := Int.emod_nonneg t (Int.natCast_ne_zero.2 (Nat.ne_of_gt hk))
  have h1 := Int.emod_lt_of_pos t (Int.natCast_pos.2 hk)
  exact ⟨by omega, by rw [Int.toNat_of_nonneg h0, Int.ediv_mul_add_emod]⟩

macro "refreq_tac" h:ident : tactic => `(tactic|
  (simp [refrequent, toYmd, toYearSegment, toYearSegmentYear, toYearSegmentSeg, Freq.value, freqMonthly, freqQuarterly,
    freqHalfyearly, freqYearly, Int.fdiv_eq_ediv_of_nonneg, Int.fmod_eq_emod_of_nonneg, mdrTable, mdrM_end, mdrM_start,
    mdrM_middle, mdrQ_end, mdrQ_start, mdrQ_middle, mdrH_end, mdrH_start, mdrH_middle, lookupSeg,
    bind, Except.bind, pure, Except.pure, $h:ident, fromYmd, fromYearSegment, monthToSegment, monthToSegmentQ, monthToSegmentH,
    monthToSegmentY, serialFromYsf] <;> omega))

/-- **Regular → regular conversion is integer division of the serial** (all six pairs, all positions). -/
theorem refrequent_regular (hi lo : Freq) (hp : (hi, lo) ∈ regularPairs) (t : Int) (pos : Pos) :
    refrequent ⟨hi, t⟩ lo pos = .ok ⟨lo, t / (factorOf hi lo : Nat)⟩ := by
  obtain ⟨hhi, hlo, _⟩ := regularPairs_regular hp
  obtain ⟨hkh, -⟩ := regularPairs_factor hp
  exact C11.refrequent_coarser hlo hhi (by rw [hkh, Int.mul_comm]) t pos

/-- the first high-frequency period of a low-frequency period: the one that starts on the same day -/
theorem refrequent_finer_start (hi lo : Freq) (hp : (hi, lo) ∈ regularPairs) (T : Int) :
    refrequent ⟨lo, T⟩ hi .start = .ok ⟨hi, T * (factorOf hi lo : Nat)⟩ := by
  obtain ⟨hhi, hlo, _⟩ := regularPairs_regular hp
  obtain ⟨hkh, -⟩ := regularPairs_factor hp
  have e := C11.ordAt_start_refine hlo hhi (r := (factorOf hi lo : Nat)) (by rw [hkh, Int.mul_comm]) T
  have h := (C11.ordAt_order hi (C11.regular_calendar hhi) ((factorOf hi lo : Nat) * T) .start).2
  rw [C11.refrequent_iff lo hi (C11.regular_calendar hlo) (C11.regular_calendar hhi), Int.mul_comm T, e]
  exact ⟨Int.le_refl _, h⟩

/-- the arithmetic of padding a series `x … z` to whole years (`a`, `e` the years of `x`, `z`) of `kh = kl * k` periods
and regrouping by `k`: the padded range starts at a multiple of `k`, its length is `k` times the `(e - a + 1) * kl` output
rows, and it covers `x … z`. The left sides (`soy = a * kh + 1 - 1`, `total = (eoy - soy + 1).toNat` with
`eoy = e * kh + kh - 1`) are spelt as unfolding `aggregateRegular` leaves them, so that the clauses rewrite there. -/
theorem regroup_arith (kh kl : Int) (k : Nat) (hkh : kh = kl * k) (hpos : 0 < kh) (hkl : 0 < kl) (hk : 0 < k)
    (a e x z : Int) (hxz : x - 1 ≤ z) (ha : a * kh ≤ x) (he : z < (e + 1) * kh) :
    a * kh + 1 - 1 = a * kl * k ∧
    (e * kh + kh - 1 - (a * kh + 1 - 1) + 1).toNat % k = 0 ∧
    (e * kh + kh - 1 - (a * kh + 1 - 1) + 1).toNat / k = ((e - a + 1) * kl).toNat ∧
    a * kl * k ≤ x ∧ z < a * kl * k + (((e - a + 1) * kl).toNat : Nat) * (k : Int) := by
  have hae : 0 ≤ e - a + 1 := by
    have : a * kh ≤ (e + 1) * kh := by omega
    have := Int.le_of_mul_le_mul_right this hpos
    omega
  have hN : 0 ≤ (e - a + 1) * kl := Int.mul_nonneg hae (Int.le_of_lt hkl)
  have e1 : a * kh = a * kl * k := by rw [hkh, Int.mul_assoc]
  have etot : e * kh + kh - 1 - (a * kh + 1 - 1) + 1 = (e - a + 1) * kl * k := by
    rw [Int.mul_assoc, ← hkh, Int.add_mul, Int.sub_mul, Int.one_mul]; omega
  have eend : a * kl * k + (e - a + 1) * kl * k = (e + 1) * kh := by
    rw [← Int.add_mul, ← Int.add_mul, Int.mul_assoc, ← hkh]; congr 1; omega
  rw [etot, Int.toNat_mul hN (Int.natCast_nonneg k), Int.toNat_natCast, Nat.mul_mod_left, Nat.mul_div_cancel _ hk,
    Int.toNat_of_nonneg hN, eend, ← e1]
  exact ⟨by omega, rfl, rfl, ha, he⟩

/-- what `aggregateRegular` returns when the within-period routine computes `g` on groups of `factorOf hi lo` members:
the rows start at the first low-frequency period of the start year, row `T` holds `g` of the block `T * k … T * k + k - 1`,
and the blocks of the rows cover the series -/
theorem aggregateRegular_blocks (hi lo : Freq) (hp : (hi, lo) ∈ regularPairs) (s : Ser) (hs : s.freq = hi) (m : Method) (d : Bool)
    (select : Option (List Int)) (g : List Val → Val)
    (hg : ∀ w : List Val, w.length = factorOf hi lo → aggWithin select d m w = .ok (g w)) :
    ∃ (newStart : Int) (n : Nat),
      aggregateRegular s lo m d select
        = .ok (Ser.trim ⟨lo, s.nv, newStart, (List.range n).map fun (j : Nat) => (List.range s.nv).map fun v =>
            g ((blockOf (· * ((factorOf hi lo : Nat) : Int)) (fun _ => factorOf hi lo) (newStart + j)).map (s.get v))⟩) ∧
      newStart * (factorOf hi lo : Nat) ≤ s.start ∧ s.endSerial < (newStart + n) * (factorOf hi lo : Nat) := by
  obtain ⟨hhi, hlo, _⟩ := regularPairs_regular hp
  obtain ⟨hfac, h0, hlpos, hle⟩ := regularPairs_factor hp
  have hpos : 0 < hi.value := Int.lt_of_lt_of_le hlpos hle
  have hkh := Int.le_of_lt hpos
  have hkl : ¬ lo.value ≤ 0 := Int.not_le.2 hlpos
  have hk : (hi.value / lo.value).toNat = factorOf hi lo := rfl
  obtain ⟨e1, e2, e3, e4, e5⟩ := regroup_arith hi.value lo.value (factorOf hi lo) hfac hpos hlpos h0
    (s.start / hi.value) (s.endSerial / hi.value) s.start s.endSerial (by unfold Ser.endSerial; omega)
    (Int.ediv_mul_le _ (Int.ne_of_gt hpos)) (Int.lt_ediv_add_one_mul_self _ hpos)
  rw [e1] at e2 e3
  refine ⟨s.start / hi.value * lo.value, ((s.endSerial / hi.value - s.start / hi.value + 1) * lo.value).toNat, ?_, e4,
    by rw [Int.add_mul]; exact e5⟩
  -- the years are `serial / hi.value`, the first period of year `y` at a regular frequency `f` is `y * f.value`
  simp only [aggregateRegular, hs, toYearSegmentYear, Int.fdiv_eq_ediv_of_nonneg _ hkh, fromYearSegment_regular hhi,
    fromYearSegment_regular hlo, hkl, hk, if_false, bind, Except.bind, pure, Except.pure, e1]
  -- `e2`: the reshape guard passes; `e3`: the number of rows
  rw [if_neg (by rw [e2]; simp [Nat.ne_of_gt h0]), e3, Int.add_sub_cancel]
  rw [mapM_ok_of_forall fun (j : Nat) _ => mapM_ok_of_forall (g := fun v => g ((blockOf (· * ((factorOf hi lo : Nat) : Int))
    (fun _ => factorOf hi lo) (s.start / hi.value * lo.value + j)).map (s.get v))) fun v _ => ?_]
  rw [hg _ (by simp [regularGroup])]
  simp only [regularGroup, blockOf, List.map_map, Int.add_mul]
  rfl

theorem aggregate_eq_aggregateRegular (hi lo : Freq) (hp : (hi, lo) ∈ regularPairs) (s : Ser) (hs : s.freq = hi)
    (hne : s.rows ≠ []) (m : Method) (d : Bool) (select : Option (List Int)) :
    aggregate s lo m d select = aggregateRegular s lo m d select := by
  have he := List.isEmpty_eq_false_iff.2 hne
  obtain ⟨hreg, _, hne'⟩ := regularPairs_regular hp
  have hv : ¬ lo.value > hi.value := Int.not_lt.2 (regularPairs_factor hp).2.2.2
  simp only [aggregate, he, hs, hne', hv, hreg, if_true, if_false, Bool.false_eq_true]

/-- does stride offset `off` keep position `j` of a group? -/
def keeps (off : Option Nat) (j : Nat) : Bool :=
  match off with
  | none => true
  | some o => j == o

theorem replicate_none_get (nv v : Nat) : ((List.replicate nv (none : Val))[v]?).join = none := by
  by_cases h : v < nv
  · simp [h]
  · simp [h]

theorem getElem?_flatMap_block {α β} (f : α → List β) (k : Nat) (hf : ∀ a, (f a).length = k) (l : List α) (j i : Nat)
    (hi : i < k) : (l.flatMap f)[j * k + i]? = l[j]?.bind fun a => (f a)[i]? := by
  induction l generalizing j with
  | nil => rfl
  | cons a l ih =>
    rw [List.flatMap_cons]
    cases j with
    | zero =>
      rw [Nat.zero_mul, Nat.zero_add, List.getElem?_append_left (by rw [hf]; exact hi)]
      rfl
    | succ j =>
      rw [List.getElem?_append_right (by rw [hf, Nat.succ_mul]; omega), hf, Nat.succ_mul, Nat.add_right_comm,
        Nat.add_sub_cancel, ih]
      rfl

/-- `disaggRows` read in block coordinates: position `i` of the `j`-th block of `k` rows -/
theorem disaggRows_block {k : Nat} {off : Option Nat} {nv : Nat} {rows : List (List Val)} {v j i : Nat} (hi : i < k) :
    rowsGet (disaggRows k off nv rows) v (j * k + i) = if keeps off i then rowsGet rows v j else none := by
  unfold rowsGet disaggRows
  rw [getElem?_flatMap_block _ k (fun _ => by rw [List.length_map, List.length_range]) rows j i hi]
  cases rows[j]? with
  | none => simp
  | some r =>
    simp only [Option.bind_some, List.getElem?_map, List.getElem?_range hi, Option.map_some]
    cases off with
    | none => rfl
    | some o => by_cases hio : i = o <;> simp [keeps, hio, replicate_none_get]

macro "disagg_tac" h:ident hs:ident he:ident : tactic => `(tactic|
  (simp [disaggregate, $hs:ident, $he:ident, factorOf, toYmd, toYearSegment, toYearSegmentYear, toYearSegmentSeg, Freq.value, freqMonthly,
    freqQuarterly, freqHalfyearly, freqYearly, Int.fdiv_eq_ediv_of_nonneg, Int.fmod_eq_emod_of_nonneg, mdrTable,
    mdrQ_start, mdrH_start, mdrY_start, lookupSeg, bind, Except.bind, pure, Except.pure, $h:ident, fromYmd, fromYearSegment,
    monthToSegment, monthToSegmentQ, monthToSegmentH, monthToSegmentM, serialFromYsf]
   try (first | (congr 3; omega) | (congr 2; omega) | (congr 1; omega))))

/-- `disaggregate` to a finer regular frequency: the rows start at the first high-frequency period of the first
low-frequency period (the code converts the start by `refrequent … "start"`) -/
theorem disaggregate_eq (hi lo : Freq) (hp : (hi, lo) ∈ regularPairs) (s : Ser) (hs : s.freq = lo) (hne : s.rows ≠ [])
    (dm : DMethod) :
    disaggregate s hi dm = .ok (Ser.trim ⟨hi, s.nv, s.start * (factorOf hi lo : Nat),
      disaggRows (factorOf hi lo) (dm.offset (factorOf hi lo)) s.nv s.rows⟩) := by
  have he := List.isEmpty_eq_false_iff.2 hne
  obtain ⟨_, hlo, hne'⟩ := regularPairs_regular hp
  have hv : ¬ hi.value < lo.value := Int.not_lt.2 (regularPairs_factor hp).2.2.2
  have hst := refrequent_finer_start hi lo hp s.start
  rw [C11.refrequent_of_toYmd (toYmd_start hlo s.start)] at hst
  simp only [disaggregate, he, hs, Ne.symm hne', hv, toYmd_start hlo, hst, factorOf, bind, Except.bind, pure, Except.pure,
    if_false, Bool.false_eq_true]

end IrisVerif.Conv
