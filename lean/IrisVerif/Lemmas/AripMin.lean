/-
Helper lemmas for C12 (arip): the autoregressive difference matrix of `_create_basic_system_matrices` and the documented
smoothness criterion as `‖K x − c‖²`, so that "bordered KKT system ⇒ constrained minimiser" is the constrained least
squares of `Lemmas/QuadMin.lean`. Mathlib matrices over an arbitrary field. The intended range is `σ_t ≠ 0`: at a zero
`σ_{i+1}` Lean's `x / 0 = 0` makes row `i` of `arK`, entry `i` of `arC` and term `i` of `criterion` vanish together, so the
theorems hold there but say nothing about that step.
-/
import Mathlib.Data.Matrix.Mul
import Mathlib.Tactic.Ring

namespace IrisVerif.AripMin
open Matrix

variable {K : Type} [Field K]

/-- the `(N) × (N+1)` difference matrix of `_create_basic_system_matrices`:
row `i` has `1/σ_{i+1}` in column `i+1` and `-ρ/σ_{i+1}` in column `i` -/
def arK (N : Nat) (rho : K) (sigma : Fin (N + 1) → K) : Matrix (Fin N) (Fin (N + 1)) K :=
  fun i j => if j = i.succ then 1 / sigma i.succ else if j = i.castSucc then -rho / sigma i.succ else 0

/-- the constant column: `c / σ_{i+1}` -/
def arC (N : Nat) (const : K) (sigma : Fin (N + 1) → K) : Fin N → K := fun i => const / sigma i.succ

/-- the documented smoothness criterion `Σ_t ((x_{t+1} − ρ x_t − c) / σ_{t+1})²` -/
def criterion (N : Nat) (rho const : K) (sigma : Fin (N + 1) → K) (x : Fin (N + 1) → K) : K :=
  ∑ i : Fin N, ((x i.succ - rho * x i.castSucc - const) / sigma i.succ) ^ 2

theorem arK_mulVec (N : Nat) (rho : K) (sigma x : Fin (N + 1) → K) (i : Fin N) :
    (arK N rho sigma *ᵥ x) i = (x i.succ - rho * x i.castSucc) / sigma i.succ := by
  have hne : i.succ ≠ i.castSucc := (Fin.castSucc_lt_succ (i := i)).ne'
  rw [Matrix.mulVec, dotProduct, Finset.sum_eq_add i.succ i.castSucc hne
    (fun j _ h => by rw [arK, if_neg h.1, if_neg h.2, zero_mul]) (fun h => absurd (Finset.mem_univ _) h)
    (fun h => absurd (Finset.mem_univ _) h)]
  simp only [arK, if_pos, if_neg hne.symm]
  ring

theorem criterion_eq (N : Nat) (rho const : K) (sigma x : Fin (N + 1) → K) :
    criterion N rho const sigma x
      = (arK N rho sigma *ᵥ x - arC N const sigma) ⬝ᵥ (arK N rho sigma *ᵥ x - arC N const sigma) := by
  unfold criterion dotProduct
  apply Finset.sum_congr rfl
  intro i _
  simp only [Pi.sub_apply, arK_mulVec, arC]
  ring

end IrisVerif.AripMin
