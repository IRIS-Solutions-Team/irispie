/-
`a.Views M`: the executable matrix `a` has the dimensions of the Mathlib matrix `M` and reads as `M`.  One rule for
each operation of `QMat` that the bridges meet, named after it, so that the view of a model expression is the
expression of the rules in the same shape (`(hA.mul hB).add_of c`); the dimension equations that the `toMat_*` lemmas
of `Lemmas/QMatRefines.lean` ask for travel inside the rules.  The totalised operations take their dimensions from the
first operand: where less is known of the second than a `Views`, the `_of` form of a rule takes it as it is (`add_of`,
`sub_of`: nothing known; `mul_of`: its columns).  `a.ViewsVec v` is the same for a matrix of which only column 0 is
read, as a vector.
-/
import IrisVerif.Lemmas.QMatRefines

namespace IrisVerif.QMat

open Matrix

structure Views (a : QMat) {r c : Nat} (M : Matrix (Fin r) (Fin c) ℚ) : Prop where
  rows : a.rows = r
  cols : a.cols = c
  toMat : a.toMat r c = M

structure ViewsVec (a : QMat) {r : Nat} (v : Fin r → ℚ) : Prop where
  rows : a.rows = r
  cols : 0 < a.cols
  get : (fun i : Fin r => a.get i 0) = v

namespace Views
variable {a b : QMat} {r k c : Nat} {M : Matrix (Fin r) (Fin c) ℚ}

theorem of (hr : a.rows = r) (hc : a.cols = c) : Views a (a.toMat r c) := ⟨hr, hc, rfl⟩

theorem congr {N : Matrix (Fin r) (Fin c) ℚ} (h : Views a M) (e : M = N) : Views a N := e ▸ h

theorem ofFn (r c : Nat) (f : Nat → Nat → Rat) : Views (ofFn r c f) (Matrix.of fun (i : Fin r) (j : Fin c) => f i j) :=
  ⟨rfl, rfl, toMat_ofFn r c f⟩

theorem zero (r c : Nat) : Views (zero r c) (0 : Matrix (Fin r) (Fin c) ℚ) := ⟨rfl, rfl, toMat_zero r c r c⟩

theorem identity (n : Nat) : Views (identity n) (1 : Matrix (Fin n) (Fin n) ℚ) := ⟨rfl, rfl, toMat_identity n⟩

theorem transpose (h : Views a M) : Views a.transpose Mᵀ :=
  ⟨h.cols, h.rows, by rw [toMat_transpose a r c h.rows h.cols, h.toMat]⟩

theorem neg (h : Views a M) : Views (-a) (-M) := ⟨h.rows, h.cols, by rw [toMat_neg a r c h.rows h.cols, h.toMat]⟩

theorem smul (q : Rat) (h : Views a M) : Views (QMat.smul q a) (q • M) :=
  ⟨h.rows, h.cols, by rw [toMat_smul q a r c h.rows h.cols, h.toMat]⟩

theorem add_of (ha : Views a M) (b : QMat) : Views (a + b) (M + b.toMat r c) :=
  ⟨ha.rows, ha.cols, by rw [toMat_add a b r c ha.rows ha.cols, ha.toMat]⟩

theorem add {N : Matrix (Fin r) (Fin c) ℚ} (ha : Views a M) (hb : Views b N) : Views (a + b) (M + N) :=
  hb.toMat ▸ ha.add_of b

theorem sub_of (ha : Views a M) (b : QMat) : Views (a - b) (M - b.toMat r c) :=
  ⟨ha.rows, ha.cols, by rw [toMat_sub a b r c ha.rows ha.cols, ha.toMat]⟩

theorem sub {N : Matrix (Fin r) (Fin c) ℚ} (ha : Views a M) (hb : Views b N) : Views (a - b) (M - N) :=
  hb.toMat ▸ ha.sub_of b

theorem mul_of {M : Matrix (Fin r) (Fin k) ℚ} (ha : Views a M) (hc : b.cols = c) : Views (a * b) (M * b.toMat k c) :=
  ⟨ha.rows, hc, by rw [toMat_mul a b r k c ha.rows ha.cols hc, ha.toMat]⟩

theorem mul {M : Matrix (Fin r) (Fin k) ℚ} {N : Matrix (Fin k) (Fin c) ℚ} (ha : Views a M) (hb : Views b N) :
    Views (a * b) (M * N) :=
  hb.toMat ▸ ha.mul_of hb.cols

theorem pow {M : Matrix (Fin r) (Fin r) ℚ} (h : Views a M) (n : Nat) : Views (QMat.pow a n) (M ^ n) :=
  ⟨(pow_rows a n).trans h.rows, (pow_cols a (h.rows.trans h.cols.symm) n).trans h.cols,
    by rw [toMat_pow a r h.rows h.cols, h.toMat]⟩

/-- what the exact comparison `eqv` carries over -/
theorem of_eqv (ha : Views a M) (h : eqv a b = true) : Views b M := by
  obtain ⟨e, hr, hc⟩ := toMat_eq_of_eqv a b h r c ha.rows ha.cols
  exact ⟨hr, hc, e ▸ ha.toMat⟩

theorem fromBlocks {a b c d : QMat} {r₁ r₂ c₁ c₂ : Nat} {A : Matrix (Fin r₁) (Fin c₁) ℚ} {B : Matrix (Fin r₁) (Fin c₂) ℚ}
    {C : Matrix (Fin r₂) (Fin c₁) ℚ} {D : Matrix (Fin r₂) (Fin c₂) ℚ} (ha : Views a A) (hb : Views b B) (hc : Views c C)
    (hd : Views d D) :
    Views (vstack (hstack a b) (hstack c d))
      ((Matrix.fromBlocks A B C D).submatrix finSumFinEquiv.symm finSumFinEquiv.symm) :=
  ⟨by rw [vstack_rows, hstack_rows, hstack_rows, ha.rows, hc.rows], by rw [vstack_cols, hstack_cols, ha.cols, hb.cols],
    by rw [toMat_vstack_hstack a b c d r₁ r₂ c₁ c₂ ha.rows ha.cols hb.cols hc.rows hc.cols hd.cols, ha.toMat, hb.toMat,
      hc.toMat, hd.toMat]⟩

theorem kron {r₁ c₁ r₂ c₂ : Nat} {A : Matrix (Fin r₁) (Fin c₁) ℚ} {B : Matrix (Fin r₂) (Fin c₂) ℚ} (ha : Views a A)
    (hb : Views b B) :
    Views (kron a b) ((Matrix.kroneckerMap (· * ·) A B).submatrix finProdFinEquiv.symm finProdFinEquiv.symm) :=
  ⟨by rw [kron_rows, ha.rows, hb.rows], by rw [kron_cols, ha.cols, hb.cols],
    by rw [toMat_kron a b r₁ c₁ r₂ c₂ ha.rows ha.cols hb.rows hb.cols, ha.toMat, hb.toMat]⟩

/-- an answer of the checked solver: the dimensions of all three matrices and `A X = B` -/
theorem of_solveChecked {x : QMat} {n m : Nat} (h : solveChecked a b = some x) (hn : a.rows = n) (hm : b.cols = m) :
    Views a (a.toMat n n) ∧ Views b (b.toMat n m) ∧ Views x (x.toMat n m) ∧
      a.toMat n n * x.toMat n m = b.toMat n m := by
  obtain ⟨h1, h2, h3, h4, _, h6⟩ := solveChecked_sound a b x h
  subst hn hm
  exact ⟨.of rfl h1, .of h2 rfl, .of h3 h4, h6⟩

/-- … with column 0 of the right-hand side and of the answer read as vectors: `A x = b` -/
theorem of_solveChecked_vec {x : QMat} {n : Nat} (h : solveChecked a b = some x) (hn : a.rows = n) (hm : 0 < b.cols) :
    Views a (a.toMat n n) ∧ ViewsVec x (fun i : Fin n => x.get i 0) ∧
      a.toMat n n *ᵥ (fun i : Fin n => x.get i 0) = fun i : Fin n => b.get i 0 := by
  obtain ⟨ha, -, hx, e⟩ := of_solveChecked h hn rfl
  exact ⟨ha, ⟨hx.rows, hx.cols ▸ hm, rfl⟩, funext fun i => congrFun (congrFun e i) ⟨0, hm⟩⟩

/-- column 0 of a product, as a vector -/
theorem mulVec_of {M : Matrix (Fin r) (Fin k) ℚ} (ha : Views a M) (hc : 0 < b.cols) :
    ViewsVec (a * b) (M *ᵥ fun j : Fin k => b.get j 0) :=
  ⟨ha.rows, hc, by rw [col0_mul a b r k ha.rows ha.cols hc, ha.toMat]⟩

theorem mulVec {M : Matrix (Fin r) (Fin k) ℚ} {w : Fin k → ℚ} (ha : Views a M) (hb : ViewsVec b w) :
    ViewsVec (a * b) (M *ᵥ w) :=
  hb.get ▸ ha.mulVec_of hb.cols

end Views

namespace ViewsVec
variable {a b : QMat} {r : Nat} {v w : Fin r → ℚ}

theorem of (hr : a.rows = r) (hc : 0 < a.cols) : ViewsVec a fun i : Fin r => a.get i 0 := ⟨hr, hc, rfl⟩

theorem zero (r c : Nat) (hc : 0 < c) : ViewsVec (zero r c) (0 : Fin r → ℚ) :=
  ⟨rfl, hc, funext fun i => get_zero r c i 0⟩

theorem vstack {r₁ r₂ : Nat} {v : Fin r₁ → ℚ} {w : Fin r₂ → ℚ} (ha : ViewsVec a v) (ha1 : a.cols = 1)
    (hb : ViewsVec b w) : ViewsVec (vstack a b) (Sum.elim v w ∘ finSumFinEquiv.symm) :=
  ⟨by rw [vstack_rows, ha.rows, hb.rows], ha.cols,
    by rw [col0_vstack a b r₁ r₂ ha.rows hb.rows ha1, ha.get, hb.get]⟩

theorem smul (q : Rat) (h : ViewsVec a v) : ViewsVec (QMat.smul q a) (q • v) :=
  ⟨h.rows, h.cols, funext fun i => by
    rw [get_smul, if_pos ⟨h.rows ▸ i.isLt, h.cols⟩, ← h.get]; rfl⟩

theorem add_of (ha : ViewsVec a v) (b : QMat) : ViewsVec (a + b) (v + fun i : Fin r => b.get i 0) :=
  ⟨ha.rows, ha.cols, by rw [col0_add a b r ha.rows ha.cols, ha.get]⟩

theorem add (ha : ViewsVec a v) (hb : ViewsVec b w) : ViewsVec (a + b) (v + w) := hb.get ▸ ha.add_of b

theorem toMat_eq_zero (h : ViewsVec a v) (hv : v = 0) : a.toMat r 1 = 0 := by
  ext i j
  obtain rfl : j = 0 := Subsingleton.elim _ _
  exact (congrFun h.get i).trans (congrFun hv i)

end ViewsVec

end IrisVerif.QMat
