/-
Correctness of the exact linear solver `QMat.solve` (Gauss-Jordan elimination over ℚ with the first non-zero pivot,
`Model/QMat.lean`): soundness, completeness, and the exact characterisation of `none`.

The elimination functions of the model (`Model/QMat.lean`, section "Gauss-Jordan elimination": `swapRows`, `findPivot`,
`gaussJordan`) are `private`; they are re-stated here (`swapRows'`, `findPivot'`, `gaussJordan'`, `solve'` verbatim,
the body of the loop as `gjStep` with its parts `elimRows`, `elimRow` named) and
`solve_eq_solve' : QMat.solve a b = solve' a b` holds by `rfl` -- it stops checking if the two texts drift apart --
so every theorem below is about the executable `QMat.solve` itself.

Proof idea (no elementary matrices, no determinants until the very end): read the array of rows through its entry
function `ent d i j`; one elimination step replaces the rows by invertible combinations of the rows, so the set of
vectors annihilated by all rows (`Null`) is unchanged (`swap_null`, `elim_null`); the columns already processed are
unit vectors (`UC`).  After `n` steps the matrix is `[I | X]`, whose null space contains `(X e_l ; −e_l)`: hence `A X = B`
(soundness, `solve_eqv`).  If no pivot is found in column `c`, the vector `e_c − Σ_{j<c} E j c e_j` is annihilated by
all rows, hence by `A`: `A` is singular (completeness, `gjPrefix_progress`).  Conversely a vector annihilated by `A` is
annihilated by `[I | X]`, so it is zero (`gjPrefix_regular`): a returned answer certifies that `A` is non-singular.
"Trivial kernel" is said of vectors indexed by `Nat` (`Regular`); `regular_hstack_iff` is the one passage to `Fin` and
to the determinant.
-/
import IrisVerif.Lemmas.QMatViews

open Matrix

namespace IrisVerif.QMat

def swapRows' (d : Array (Array Rat)) (i j : Nat) : Array (Array Rat) :=
  if i = j then d else
    let ri := d.getD i #[]; let rj := d.getD j #[]
    (d.setIfInBounds i rj).setIfInBounds j ri

def findPivot' (d : Array (Array Rat)) (c : Nat) (from_ n : Nat) : Option Nat :=
  (List.range (n - from_)).map (· + from_) |>.find? (fun i => (d.getD i #[]).getD c 0 != 0)

/-- the row that clears entry `c` of `r` with the scaled pivot row `prow` -/
def elimRow (r prow : Array Rat) (c : Nat) : Array Rat :=
  if r.getD c 0 == 0 then r else (Array.range r.size).map (fun j => r.getD j 0 - r.getD c 0 * prow.getD j 0)

def elimRows (d : Array (Array Rat)) (c : Nat) : Array (Array Rat) :=
  let prow := d.getD c #[]
  let pv := prow.getD c 0
  let prow := prow.map (· / pv)
  let d := d.setIfInBounds c prow
  d.mapIdx fun i r => if i = c then r else elimRow r prow c

def gjStep (n : Nat) (d : Array (Array Rat)) (c : Nat) : Option (Array (Array Rat)) := do
  let p ← findPivot' d c c n
  pure (elimRows (swapRows' d c p) c)

def gaussJordan' (n : Nat) (d : Array (Array Rat)) : Option (Array (Array Rat)) :=
  (List.range n).foldlM (init := d) (gjStep n)

def solve' (a b : QMat) : Option QMat :=
  if a.rows != a.cols || a.rows != b.rows then none else
  match gaussJordan' a.rows (hstack a b).data with
  | none => none
  | some d => some (block ⟨a.rows, a.cols + b.cols, d⟩ 0 a.rows a.cols (a.cols + b.cols))

theorem solve_eq_solve' (a b : QMat) : solve a b = solve' a b := rfl

/-- entry `(i, j)` of an array of rows (0 outside) -/
def ent (d : Array (Array Rat)) (i j : Nat) : Rat := (d.getD i #[]).getD j 0

/-- `n` rows of length `w` -/
def Shaped (n w : Nat) (d : Array (Array Rat)) : Prop := d.size = n ∧ ∀ i, i < n → (d.getD i #[]).size = w

theorem getD_set (d : Array (Array Rat)) (i k : Nat) (r : Array Rat) (hi : i < d.size) :
    (d.setIfInBounds i r).getD k #[] = if k = i then r else d.getD k #[] := by
  rw [Array.getD_eq_getD_getElem?, Array.getElem?_setIfInBounds]
  by_cases h : k = i
  · rw [if_pos h.symm, if_pos hi, if_pos h, Option.getD_some]
  · rw [if_neg (Ne.symm h), if_neg h, Array.getD_eq_getD_getElem?]

theorem getD_mapIdx (d : Array (Array Rat)) (f : Nat → Array Rat → Array Rat) (k : Nat) (hk : k < d.size) :
    (d.mapIdx f).getD k #[] = f k (d.getD k #[]) := by
  simp [Array.getD_eq_getD_getElem?, hk]

theorem getD_map_div (r : Array Rat) (pv : Rat) (j : Nat) : (r.map (· / pv)).getD j 0 = r.getD j 0 / pv := by
  rw [Array.getD_eq_getD_getElem?, Array.getElem?_map, Array.getD_eq_getD_getElem?, ← Option.getD_map (· / pv),
    zero_div]

theorem findPivot'_some (d : Array (Array Rat)) (c n p : Nat) (h : findPivot' d c c n = some p) :
    c ≤ p ∧ p < n ∧ ent d p c ≠ 0 := by
  obtain ⟨k, hk, rfl⟩ := List.mem_map.1 (List.mem_of_find?_eq_some h)
  exact ⟨Nat.le_add_left c k, Nat.add_lt_of_lt_sub (List.mem_range.1 hk),
    bne_iff_ne.1 (List.find?_some (p := fun i => ent d i c != 0) h)⟩

theorem findPivot'_none (d : Array (Array Rat)) (c n : Nat) (h : findPivot' d c c n = none) :
    ∀ i, c ≤ i → i < n → ent d i c = 0 := by
  intro i h1 h2
  have := List.find?_eq_none.1 h i
    (List.mem_map.2 ⟨i - c, List.mem_range.2 (Nat.sub_lt_sub_right h1 h2), Nat.sub_add_cancel h1⟩)
  rwa [bne_iff_ne, not_not] at this

theorem swap_lt {n c p i : Nat} (hc : c < n) (hp : p < n) (hi : i < n) : Equiv.swap c p i < n := by
  rw [Equiv.swap_apply_def]
  split_ifs <;> assumption

theorem swapRows'_getD (d : Array (Array Rat)) (c p k : Nat) (hc : c < d.size) (hp : p < d.size) :
    (swapRows' d c p).getD k #[] = d.getD (Equiv.swap c p k) #[] := by
  unfold swapRows'
  by_cases hcp : c = p
  · rw [if_pos hcp, hcp, Equiv.swap_self, Equiv.refl_apply]
  · rw [if_neg hcp, getD_set _ _ _ _ (by rwa [Array.size_setIfInBounds]), getD_set _ _ _ _ hc]
    by_cases h1 : k = p
    · rw [if_pos h1, h1, Equiv.swap_apply_right]
    · rw [if_neg h1]
      by_cases h2 : k = c
      · rw [if_pos h2, h2, Equiv.swap_apply_left]
      · rw [if_neg h2, Equiv.swap_apply_of_ne_of_ne h2 h1]

def swapE (E : Nat → Nat → Rat) (c p : Nat) : Nat → Nat → Rat := fun i => E (Equiv.swap c p i)

theorem swapRows'_spec (n w : Nat) (d : Array (Array Rat)) (hd : Shaped n w d) (c p : Nat) (hc : c < n) (hp : p < n) :
    Shaped n w (swapRows' d c p) ∧ ent (swapRows' d c p) = swapE (ent d) c p := by
  obtain ⟨h1, h2⟩ := hd
  have hrow := fun k => swapRows'_getD d c p k (h1 ▸ hc) (h1 ▸ hp)
  refine ⟨⟨?_, fun i hi => ?_⟩, funext fun i => funext fun j => ?_⟩
  · unfold swapRows'
    split
    · exact h1
    · rw [Array.size_setIfInBounds, Array.size_setIfInBounds, h1]
  · rw [hrow]
    exact h2 _ (swap_lt hc hp hi)
  · rw [ent, hrow]
    rfl

theorem elimRow_size (r prow : Array Rat) (c : Nat) : (elimRow r prow c).size = r.size := by
  unfold elimRow
  split
  · rfl
  · rw [Array.size_map, Array.size_range]

/-- when the entry to clear is already 0 the row is kept, which is the same thing -/
theorem elimRow_getD (r prow : Array Rat) (c j : Nat) (hj : j < r.size) :
    (elimRow r prow c).getD j 0 = r.getD j 0 - r.getD c 0 * prow.getD j 0 := by
  unfold elimRow
  by_cases h0 : r.getD c 0 = 0
  · rw [if_pos (beq_iff_eq.2 h0), h0, zero_mul, sub_zero]
  · rw [if_neg (by rwa [beq_iff_eq]), getD_map_range, if_pos hj]

theorem elimRows_getD (d : Array (Array Rat)) (c k : Nat) (hc : c < d.size) (hk : k < d.size) :
    (elimRows d c).getD k #[] =
      if k = c then (d.getD c #[]).map (· / ent d c c)
      else elimRow (d.getD k #[]) ((d.getD c #[]).map (· / ent d c c)) c := by
  unfold elimRows
  rw [getD_mapIdx _ _ _ (by rwa [Array.size_setIfInBounds]), getD_set _ _ _ _ hc]
  by_cases hkc : k = c
  · rw [if_pos hkc, if_pos hkc, if_pos hkc]; rfl
  · rw [if_neg hkc, if_neg hkc, if_neg hkc]; rfl

/-- row `c` divided by its entry in column `c`, every other row minus its column-`c` entry times the new row `c` -/
def elimE (S : Nat → Nat → Rat) (c : Nat) : Nat → Nat → Rat :=
  fun i j => if i = c then S c j / S c c else S i j - S i c * (S c j / S c c)

theorem elimRows_spec (n w : Nat) (d : Array (Array Rat)) (hd : Shaped n w d) (c : Nat) (hc : c < n) :
    Shaped n w (elimRows d c) ∧ ∀ i j, i < n → j < w → ent (elimRows d c) i j = elimE (ent d) c i j := by
  obtain ⟨h1, h2⟩ := hd
  have hrow := fun k (hk : k < n) => elimRows_getD d c k (h1 ▸ hc) (h1 ▸ hk)
  refine ⟨⟨?_, fun i hi => ?_⟩, fun i j hi hj => ?_⟩
  · unfold elimRows
    rw [Array.size_mapIdx, Array.size_setIfInBounds, h1]
  · rw [hrow i hi]
    by_cases hic : i = c
    · rw [if_pos hic, Array.size_map]; exact h2 c hc
    · rw [if_neg hic, elimRow_size]; exact h2 i hi
  · unfold elimE
    rw [ent, hrow i hi]
    by_cases hic : i = c
    · rw [if_pos hic, if_pos hic]; exact getD_map_div _ _ j
    · rw [if_neg hic, if_neg hic, elimRow_getD _ _ _ _ ((h2 i hi).symm ▸ hj), getD_map_div]; rfl

theorem gjStep_eq (n : Nat) (d : Array (Array Rat)) (c : Nat) :
    gjStep n d c = (findPivot' d c c n).map fun p => elimRows (swapRows' d c p) c := by
  unfold gjStep
  cases findPivot' d c c n with
  | none => rfl
  | some p => rfl

theorem gjStep_spec (n w : Nat) (d d' : Array (Array Rat)) (hd : Shaped n w d) (c : Nat) (hc : c < n)
    (h : gjStep n d c = some d') :
    ∃ p, c ≤ p ∧ p < n ∧ ent d p c ≠ 0 ∧ Shaped n w d' ∧
      ∀ i j, i < n → j < w → ent d' i j = elimE (swapE (ent d) c p) c i j := by
  rw [gjStep_eq] at h
  obtain ⟨p, hp, rfl⟩ := Option.map_eq_some_iff.1 h
  obtain ⟨hcp, hpn, hne⟩ := findPivot'_some d c n p hp
  obtain ⟨hs, hent⟩ := swapRows'_spec n w d hd c p hc hpn
  obtain ⟨hs', hent'⟩ := elimRows_spec n w _ hs c hc
  rw [hent] at hent'
  exact ⟨p, hcp, hpn, hne, hs', hent'⟩

/-- row `i` applied to the vector `x` (`w` columns) -/
def dotRow (w : Nat) (E : Nat → Nat → Rat) (i : Nat) (x : Nat → Rat) : Rat := ∑ j ∈ Finset.range w, E i j * x j

/-- `x` is annihilated by the first `n` rows -/
def Null (n w : Nat) (E : Nat → Nat → Rat) (x : Nat → Rat) : Prop := ∀ i, i < n → dotRow w E i x = 0

/-- the first `k` columns are the unit vectors `e_0 … e_{k-1}` (on the first `n` rows) -/
def UC (n k : Nat) (E : Nat → Nat → Rat) : Prop := ∀ i j, i < n → j < k → E i j = if i = j then 1 else 0

theorem null_congr (n w : Nat) (E E' : Nat → Nat → Rat) (x : Nat → Rat) (h : ∀ i j, i < n → j < w → E i j = E' i j) :
    Null n w E x ↔ Null n w E' x := by
  unfold Null dotRow
  exact forall_congr' fun i => forall_congr' fun hi => by
    rw [Finset.sum_congr rfl fun j hj => by rw [h i j hi (Finset.mem_range.1 hj)]]

theorem swap_null (n w : Nat) (E : Nat → Nat → Rat) (c p : Nat) (hc : c < n) (hp : p < n) (x : Nat → Rat) :
    Null n w (swapE E c p) x ↔ Null n w E x := by
  constructor
  · intro h i hi
    have := h _ (swap_lt hc hp hi)
    rwa [dotRow, swapE, Equiv.swap_apply_self] at this
  · intro h i hi
    exact h _ (swap_lt hc hp hi)

theorem swap_UC (n : Nat) (E : Nat → Nat → Rat) (c p : Nat) (hc : c < n) (hcp : c ≤ p) (hp : p < n) (h : UC n c E) :
    UC n c (swapE E c p) := by
  intro i j hi hj
  rw [swapE, h _ j (swap_lt hc hp hi) hj]
  refine if_congr ?_ rfl rfl
  rw [Equiv.swap_apply_eq_iff, Equiv.swap_apply_of_ne_of_ne hj.ne (hj.trans_le hcp).ne]

theorem dotRow_elim_c (w : Nat) (S : Nat → Nat → Rat) (c : Nat) (x : Nat → Rat) :
    dotRow w (elimE S c) c x = dotRow w S c x / S c c := by
  unfold dotRow elimE
  simp only [if_true]
  rw [div_eq_mul_inv, Finset.sum_mul]
  exact Finset.sum_congr rfl (fun j _ => by ring)

theorem dotRow_elim_i (w : Nat) (S : Nat → Nat → Rat) (c i : Nat) (hi : i ≠ c) (x : Nat → Rat) :
    dotRow w (elimE S c) i x = dotRow w S i x - S i c * (dotRow w S c x / S c c) := by
  unfold dotRow elimE
  simp only [hi, if_false]
  rw [div_eq_mul_inv, Finset.sum_mul, Finset.mul_sum, ← Finset.sum_sub_distrib]
  exact Finset.sum_congr rfl (fun j _ => by ring)

theorem elim_null (n w : Nat) (S : Nat → Nat → Rat) (c : Nat) (hc : c < n) (hne : S c c ≠ 0) (x : Nat → Rat) :
    Null n w (elimE S c) x ↔ Null n w S x := by
  have key : dotRow w S c x = 0 → ∀ i, dotRow w (elimE S c) i x = dotRow w S i x := by
    intro hcz i
    by_cases hic : i = c
    · rw [hic, dotRow_elim_c, hcz, zero_div]
    · rw [dotRow_elim_i w S c i hic, hcz, zero_div, mul_zero, sub_zero]
  constructor
  · intro h i hi
    have hcz := h c hc
    rw [dotRow_elim_c, div_eq_zero_iff, or_iff_left hne] at hcz
    rw [← key hcz i]
    exact h i hi
  · intro h i hi
    rw [key (h c hc) i]
    exact h i hi

theorem elim_UC (n : Nat) (S : Nat → Nat → Rat) (c : Nat) (hc : c < n) (hne : S c c ≠ 0) (h : UC n c S) :
    UC n (c + 1) (elimE S c) := by
  intro i j hi hj
  unfold elimE
  by_cases hjc : j = c
  · subst hjc
    by_cases hij : i = j
    · rw [if_pos hij, if_pos hij, div_self hne]
    · rw [if_neg hij, if_neg hij, div_self hne, mul_one, sub_self]
  · have hj' : j < c := Nat.lt_of_le_of_ne (Nat.le_of_lt_succ hj) hjc
    rw [h c j hc hj', if_neg (Ne.symm hjc), zero_div, mul_zero, sub_zero]
    by_cases hic : i = c
    · rw [if_pos hic, if_neg (hic ▸ Ne.symm hjc)]
    · rw [if_neg hic, h i j hi hj']

theorem sum_UC (n k : Nat) (E : Nat → Nat → Rat) (h : UC n k E) (i : Nat) (hi : i < n) (g : Nat → Rat) :
    ∑ j ∈ Finset.range k, E i j * g j = if i < k then g i else 0 := by
  rw [Finset.sum_congr rfl fun j hj => by rw [h i j hi (Finset.mem_range.1 hj), ite_mul, one_mul, zero_mul],
    Finset.sum_ite_eq (Finset.range k) i g]
  exact if_congr Finset.mem_range rfl rfl

theorem dotRow_left (n w : Nat) (hnw : n ≤ w) (E : Nat → Nat → Rat) (i : Nat) (x : Nat → Rat)
    (hx : ∀ j, n ≤ j → x j = 0) : dotRow w E i x = ∑ j ∈ Finset.range n, E i j * x j := by
  unfold dotRow
  exact (Finset.sum_subset (Finset.range_mono hnw)
    (fun j _ hj => by rw [hx j (Nat.le_of_not_lt (mt Finset.mem_range.2 hj)), mul_zero])).symm

theorem dotRow_special (w k q : Nat) (hkq : k ≤ q) (hq : q < w) (E : Nat → Nat → Rat) (i : Nat) (v : Nat → Rat)
    (s : Rat) :
    dotRow w E i (fun j => if j < k then v j else if j = q then s else 0)
      = ∑ j ∈ Finset.range k, E i j * v j + E i q * s := by
  show ∑ j ∈ Finset.range w, E i j * (if j < k then v j else if j = q then s else 0) = _
  rw [← Finset.sum_range_add_sum_Ico _ (hkq.trans hq.le),
    Finset.sum_congr rfl fun j hj => by rw [if_pos (Finset.mem_range.1 hj)],
    Finset.sum_eq_single_of_mem q (Finset.mem_Ico.2 ⟨hkq, hq⟩) fun j hj hne => by
      rw [if_neg (Nat.not_lt.2 (Finset.mem_Ico.1 hj).1), if_neg hne, mul_zero],
    if_neg (Nat.not_lt.2 hkq), if_pos rfl]

/-- the first `k` elimination steps -/
def gjPrefix (n k : Nat) (d : Array (Array Rat)) : Option (Array (Array Rat)) := (List.range k).foldlM (gjStep n) d

theorem gaussJordan'_eq (n : Nat) (d : Array (Array Rat)) : gaussJordan' n d = gjPrefix n n d := rfl

theorem gjPrefix_succ (n k : Nat) (d : Array (Array Rat)) :
    gjPrefix n (k + 1) d = (gjPrefix n k d).bind (fun dk => gjStep n dk k) := by
  unfold gjPrefix
  rw [List.range_succ, List.foldlM_append]
  simp only [List.foldlM_cons, List.foldlM_nil, bind_pure]
  rfl

/-- the invariant of the elimination after `k` steps: shape, unit columns `0 … k-1`, unchanged null space -/
theorem gjPrefix_inv (n w : Nat) (hnw : n ≤ w) (d : Array (Array Rat)) (hd : Shaped n w d) (k : Nat) (hk : k ≤ n)
    (dk : Array (Array Rat)) (h : gjPrefix n k d = some dk) :
    Shaped n w dk ∧ UC n k (ent dk) ∧ ∀ x, Null n w (ent dk) x ↔ Null n w (ent d) x := by
  induction k generalizing dk with
  | zero =>
    obtain rfl : d = dk := Option.some.inj h
    exact ⟨hd, fun i j _ hj => absurd hj (Nat.not_lt_zero _), fun x => Iff.rfl⟩
  | succ k ih =>
    rw [gjPrefix_succ] at h
    obtain ⟨dprev, hprev, h⟩ := Option.bind_eq_some_iff.1 h
    have hkn : k < n := hk
    obtain ⟨hs, huc, hnull⟩ := ih hkn.le dprev hprev
    obtain ⟨p, hcp, hpn, hne, hs', hent⟩ := gjStep_spec n w dprev dk hs k hkn h
    have hne' : swapE (ent dprev) k p k k ≠ 0 := by rwa [swapE, Equiv.swap_apply_left]
    refine ⟨hs', ?_, fun x => ?_⟩
    · intro i j hi hj
      rw [hent i j hi (hj.trans_le (hk.trans hnw))]
      exact elim_UC n _ k hkn hne' (swap_UC n _ k p hkn hcp hpn huc) i j hi hj
    · rw [null_congr n w (ent dk) _ x hent, elim_null n w _ k hkn hne' x, swap_null n w _ k p hkn hpn x]
      exact hnull x

/-- the left `n × n` block has a trivial kernel -/
def Regular (n w : Nat) (E : Nat → Nat → Rat) : Prop :=
  ∀ x : Nat → Rat, (∀ j, n ≤ j → x j = 0) → Null n w E x → ∀ j, j < n → x j = 0

theorem gjPrefix_regular (n w : Nat) (hnw : n ≤ w) (d : Array (Array Rat)) (hd : Shaped n w d)
    (dn : Array (Array Rat)) (h : gjPrefix n n d = some dn) : Regular n w (ent d) := by
  obtain ⟨_, huc, hnull⟩ := gjPrefix_inv n w hnw d hd n (Nat.le_refl n) dn h
  intro x hx hn j hj
  have := (hnull x).2 hn j hj
  rwa [dotRow_left n w hnw _ _ _ hx, sum_UC n n _ huc j hj, if_pos hj] at this

/-- progress: if the left block of the original matrix has a trivial kernel, every step finds a pivot -/
theorem gjPrefix_progress (n w : Nat) (hnw : n ≤ w) (d : Array (Array Rat)) (hd : Shaped n w d)
    (hns : Regular n w (ent d)) (k : Nat) (hk : k ≤ n) : ∃ dk, gjPrefix n k d = some dk := by
  induction k with
  | zero => exact ⟨d, rfl⟩
  | succ k ih =>
    have hkn : k < n := hk
    obtain ⟨dprev, hprev⟩ := ih hkn.le
    obtain ⟨hs, huc, hnull⟩ := gjPrefix_inv n w hnw d hd k hkn.le dprev hprev
    rw [gjPrefix_succ, hprev, Option.bind_some]
    cases hstep : gjStep n dprev k with
    | some dk => exact ⟨dk, rfl⟩
    | none =>
      exfalso
      rw [gjStep_eq, Option.map_eq_none_iff] at hstep
      have hz := findPivot'_none dprev k n hstep
      -- the vector `e_k − Σ_{j<k} E j k e_j`
      have hxn : Null n w (ent dprev) (fun j => if j < k then - ent dprev j k else if j = k then 1 else 0) := by
        intro i hi
        rw [dotRow_special w k k (le_refl k) (hkn.trans_le hnw), sum_UC n k (ent dprev) huc i hi, mul_one]
        by_cases hik : i < k
        · rw [if_pos hik, neg_add_cancel]
        · rw [if_neg hik, hz i (Nat.le_of_not_lt hik) hi, add_zero]
      have := hns _ (fun j hj => by rw [if_neg (hkn.trans_le hj).not_gt, if_neg (hkn.trans_le hj).ne'])
        ((hnull _).1 hxn) k hkn
      rw [if_neg (lt_irrefl k), if_pos rfl] at this
      exact one_ne_zero this

theorem shaped_hstack (a b : QMat) (hsq : a.cols = a.rows) : Shaped a.rows (a.rows + b.cols) (hstack a b).data := by
  obtain ⟨h1, h2⟩ := (wellShaped_iff (hstack a b)).1 (wellShaped_hstack a b)
  refine ⟨h1, fun i hi => ?_⟩
  have hi' : i < (hstack a b).data.size := h1.symm ▸ hi
  rw [Array.getD_eq_getD_getElem?, Array.getElem?_eq_getElem hi', Option.getD_some, h2 i hi', hstack_cols, hsq]

theorem ent_hstack_left (a b : QMat) (hsq : a.cols = a.rows) (i k : Nat) (hi : i < a.rows) (hk : k < a.rows) :
    ent (hstack a b).data i k = a.get i k :=
  get_hstack_left a b i k hi (hsq ▸ hk)

theorem ent_hstack_right (a b : QMat) (hsq : a.cols = a.rows) (i l : Nat) (hi : i < a.rows) (hl : l < b.cols) :
    ent (hstack a b).data i (a.rows + l) = b.get i l :=
  hsq ▸ get_hstack_right a b i l hi hl

theorem solve_of_square (a b : QMat) (hsq : a.cols = a.rows) (hbr : b.rows = a.rows) :
    solve a b = (gjPrefix a.rows a.rows (hstack a b).data).map fun d =>
      block ⟨a.rows, a.cols + b.cols, d⟩ 0 a.rows a.cols (a.cols + b.cols) := by
  rw [solve_eq_solve']
  unfold solve'
  rw [if_neg (by simp [hsq, hbr]), gaussJordan'_eq]
  cases gjPrefix a.rows a.rows (hstack a b).data with
  | none => rfl
  | some d => rfl

theorem solve_some (a b x : QMat) (h : solve a b = some x) :
    ∃ d, gjPrefix a.rows a.rows (hstack a b).data = some d ∧
      ∀ i l, i < a.rows → l < b.cols → x.get i l = ent d i (a.rows + l) := by
  obtain ⟨hsq, hbr, _⟩ := solve_dims a b x h
  rw [solve_of_square a b hsq hbr] at h
  obtain ⟨d, hd, rfl⟩ := Option.map_eq_some_iff.1 h
  refine ⟨d, hd, fun i l hi hl => ?_⟩
  rw [get_block, if_pos ⟨hi, (Nat.add_sub_cancel_left a.cols b.cols).symm ▸ hl⟩, Nat.zero_add, hsq]
  rfl

theorem solve_eqv (a b x : QMat) (h : solve a b = some x) : eqv (a * x) b = true := by
  obtain ⟨hsq, hbr, _, h4, _⟩ := solve_dims a b x h
  obtain ⟨d, hd, hx⟩ := solve_some a b x h
  obtain ⟨_, huc, hnull⟩ := gjPrefix_inv a.rows (a.rows + b.cols) (Nat.le_add_right _ _) _ (shaped_hstack a b hsq)
    a.rows (Nat.le_refl _) d hd
  refine (eqv_iff_get (a * x) b).2 ⟨hbr.symm, h4, fun i l hi hl => ?_⟩
  have hl' : l < b.cols := h4 ▸ hl
  -- the vector `(X e_l ; −e_l)` is annihilated by `[I | X]`, hence by `[A | B]`
  have hy : Null a.rows (a.rows + b.cols) (ent d)
      (fun j => if j < a.rows then ent d j (a.rows + l) else if j = a.rows + l then -1 else 0) := by
    intro r hr
    rw [dotRow_special _ a.rows (a.rows + l) (Nat.le_add_right _ _) (Nat.add_lt_add_left hl' _),
      sum_UC a.rows a.rows (ent d) huc r hr, if_pos hr, mul_neg_one, add_neg_cancel]
  have h0 := (hnull _).1 hy i hi
  rw [dotRow_special _ a.rows (a.rows + l) (Nat.le_add_right _ _) (Nat.add_lt_add_left hl' _), mul_neg_one,
    add_neg_eq_zero, ent_hstack_right a b hsq i l hi hl'] at h0
  rw [get_mul, if_pos ⟨hi, hl⟩, hsq, ← h0]
  refine Finset.sum_congr rfl (fun k hk => ?_)
  have hk' := Finset.mem_range.1 hk
  rw [ent_hstack_left a b hsq i k hi hk', hx k l hk' hl']

/-- the exact re-check of `solveChecked` never fails: `solveChecked` is `solve` -/
theorem solveChecked_eq_solve (a b : QMat) : solveChecked a b = solve a b := by
  unfold solveChecked
  cases h : solve a b with
  | none => rfl
  | some x => exact if_pos (solve_eqv a b x h)

/-- Soundness of the executable `QMat.solve` (no re-check needed): a returned `x` satisfies `A X = B` exactly. -/
theorem solve_sound (a b x : QMat) (h : solve a b = some x) :
    a.cols = a.rows ∧ b.rows = a.rows ∧ x.rows = a.rows ∧ x.cols = b.cols ∧ x.wellShaped = true ∧
      a.toMat a.rows a.rows * x.toMat a.rows b.cols = b.toMat a.rows b.cols :=
  solveChecked_sound a b x ((solveChecked_eq_solve a b).trans h)

/-- the system vector restricted to the left block: for `y` vanishing from `n` on, `[A | B] y = A y` -/
theorem null_hstack_left (a b : QMat) (hsq : a.cols = a.rows) (y : Nat → Rat) (hy : ∀ j, a.rows ≤ j → y j = 0) :
    Null a.rows (a.rows + b.cols) (ent (hstack a b).data) y ↔
      a.toMat a.rows a.rows *ᵥ (fun j : Fin a.rows => y j) = 0 := by
  have hrow : ∀ i : Fin a.rows, dotRow (a.rows + b.cols) (ent (hstack a b).data) i y
      = (a.toMat a.rows a.rows *ᵥ (fun j : Fin a.rows => y j)) i := by
    intro i
    rw [dotRow_left a.rows _ (Nat.le_add_right _ _) _ _ _ hy]
    simp only [Matrix.mulVec, dotProduct, toMat_apply]
    rw [Fin.sum_univ_eq_sum_range (fun k => a.get i k * y k) a.rows]
    exact Finset.sum_congr rfl fun k hk => by rw [ent_hstack_left a b hsq i k i.isLt (Finset.mem_range.1 hk)]
  constructor
  · intro h
    funext i
    rw [← hrow i]
    exact h i i.isLt
  · intro h i hi
    rw [hrow ⟨i, hi⟩, h]
    rfl

theorem regular_hstack_iff (a b : QMat) (hsq : a.cols = a.rows) :
    Regular a.rows (a.rows + b.cols) (ent (hstack a b).data) ↔ IsUnit (a.toMat a.rows a.rows).det := by
  rw [← Matrix.isUnit_iff_isUnit_det, ← Matrix.mulVec_injective_iff_isUnit]
  refine Iff.trans ?_ (injective_iff_map_eq_zero (a.toMat a.rows a.rows).mulVecLin).symm
  constructor
  · intro hr v hv
    have hy0 : ∀ j, a.rows ≤ j → (if hj : j < a.rows then v ⟨j, hj⟩ else 0) = 0 := fun j hj => dif_neg (Nat.not_lt.2 hj)
    have hyv : (fun j : Fin a.rows => if hj : (j : Nat) < a.rows then v ⟨j, hj⟩ else 0) = v :=
      funext fun j => dif_pos j.isLt
    funext i
    have := hr _ hy0 ((null_hstack_left a b hsq _ hy0).2 (hyv.symm ▸ hv)) i i.isLt
    rwa [dif_pos i.isLt] at this
  · intro hinj y hy0 hn j hj
    exact congrFun (hinj _ ((null_hstack_left a b hsq y hy0).1 hn)) ⟨j, hj⟩

/-- a returned answer certifies non-singularity: `solve` answers only for non-singular `A` -/
theorem solve_isUnit_det (a b x : QMat) (h : solve a b = some x) : IsUnit (a.toMat a.rows a.rows).det := by
  obtain ⟨hsq, _⟩ := solve_dims a b x h
  obtain ⟨d, hd, _⟩ := solve_some a b x h
  exact (regular_hstack_iff a b hsq).1
    (gjPrefix_regular a.rows _ (Nat.le_add_right _ _) _ (shaped_hstack a b hsq) d hd)

/-- Completeness of the executable `QMat.solve`: for a square non-singular `A` and a right-hand side with as many
rows, `solve` returns an answer -- and it is `A⁻¹ B`. -/
theorem solve_complete (a b : QMat) (hsq : a.cols = a.rows) (hbr : b.rows = a.rows)
    (hdet : IsUnit (a.toMat a.rows a.rows).det) :
    ∃ x, solve a b = some x ∧ x.toMat a.rows b.cols = (a.toMat a.rows a.rows)⁻¹ * b.toMat a.rows b.cols := by
  obtain ⟨d, hd⟩ := gjPrefix_progress a.rows (a.rows + b.cols) (Nat.le_add_right _ _) _ (shaped_hstack a b hsq)
    ((regular_hstack_iff a b hsq).2 hdet) a.rows (Nat.le_refl _)
  have hsolve : solve a b = some (block ⟨a.rows, a.cols + b.cols, d⟩ 0 a.rows a.cols (a.cols + b.cols)) := by
    rw [solve_of_square a b hsq hbr, hd, Option.map_some]
  refine ⟨_, hsolve, ?_⟩
  obtain ⟨-, -, -, -, -, h6⟩ := solve_sound a b _ hsolve
  rw [← h6, ← Matrix.mul_assoc, Matrix.nonsing_inv_mul _ hdet, Matrix.one_mul]

/-- exact characterisation: `solve` answers iff the shapes fit and `A` is non-singular;
`none` (the models' `err:singular`) means exactly "not square / wrong right-hand side / singular" -/
theorem solve_isSome_iff (a b : QMat) :
    (solve a b).isSome = true ↔ a.cols = a.rows ∧ b.rows = a.rows ∧ IsUnit (a.toMat a.rows a.rows).det := by
  constructor
  · intro h
    obtain ⟨x, hx⟩ := Option.isSome_iff_exists.1 h
    obtain ⟨h1, h2, _⟩ := solve_dims a b x hx
    exact ⟨h1, h2, solve_isUnit_det a b x hx⟩
  · rintro ⟨h1, h2, h3⟩
    obtain ⟨x, hx, _⟩ := solve_complete a b h1 h2 h3
    rw [hx, Option.isSome_some]

theorem solve_eq_none_iff (a b : QMat) (hsq : a.cols = a.rows) (hbr : b.rows = a.rows) :
    solve a b = none ↔ (a.toMat a.rows a.rows).det = 0 := by
  rw [← Option.not_isSome_iff_eq_none, solve_isSome_iff, isUnit_iff_ne_zero, not_and, not_and, not_not]
  exact ⟨fun h => h hsq hbr, fun h _ _ => h⟩

theorem solveChecked_complete (a b : QMat) (hsq : a.cols = a.rows) (hbr : b.rows = a.rows)
    (hdet : IsUnit (a.toMat a.rows a.rows).det) :
    ∃ x, solveChecked a b = some x ∧
      x.toMat a.rows b.cols = (a.toMat a.rows a.rows)⁻¹ * b.toMat a.rows b.cols := by
  rw [solveChecked_eq_solve]; exact solve_complete a b hsq hbr hdet

theorem solveChecked_isSome_iff (a b : QMat) :
    (solveChecked a b).isSome = true ↔ a.cols = a.rows ∧ b.rows = a.rows ∧ IsUnit (a.toMat a.rows a.rows).det := by
  rw [solveChecked_eq_solve]; exact solve_isSome_iff a b

/-- the same with the dimension named by the caller -/
theorem solveChecked_isSome_iff_of (a b : QMat) {n : Nat} (hr : a.rows = n) (hc : a.cols = n) (hb : b.rows = n) :
    (solveChecked a b).isSome = true ↔ IsUnit (a.toMat n n).det := by
  subst hr
  rw [solveChecked_isSome_iff]
  exact ⟨fun h => h.2.2, fun h => ⟨hc, hb, h⟩⟩

theorem solveChecked_isUnit_det (a b x : QMat) (h : solveChecked a b = some x) :
    IsUnit (a.toMat a.rows a.rows).det :=
  ((solveChecked_isSome_iff a b).1 (by rw [h, Option.isSome_some])).2.2

/-- what an answer of the checked solver is, completely: the shapes fit, `A` is non-singular and the answer is
`A⁻¹ B` (dimensions named by the caller) -/
theorem solveChecked_eq_some_iff (a b x : QMat) {n m : Nat} (hn : a.rows = n) (hm : b.cols = m) :
    solveChecked a b = some x ↔ a.cols = n ∧ b.rows = n ∧ x.wellShaped = true ∧ IsUnit (a.toMat n n).det ∧
      x.Views ((a.toMat n n)⁻¹ * b.toMat n m) := by
  subst hn hm
  constructor
  · intro h
    have hd := solveChecked_isUnit_det a b x h
    obtain ⟨h1, h2, h3, h4, h5, h6⟩ := solveChecked_sound a b x h
    refine ⟨h1, h2, h5, hd, { rows := h3, cols := h4, toMat := ?_ }⟩
    rw [← h6, ← Matrix.mul_assoc, Matrix.nonsing_inv_mul _ hd, Matrix.one_mul]
  · rintro ⟨h1, h2, h5, hd, hx⟩
    obtain ⟨y, hy, hy7⟩ := solveChecked_complete a b h1 h2 hd
    obtain ⟨_, _, g3, g4, g5, _⟩ := solveChecked_sound a b y hy
    rw [hy, Option.some.injEq]
    exact ext_of_get y x g5 h5 (g3.trans hx.rows.symm) (g4.trans hx.cols.symm) fun i j hi hj =>
      congrFun (congrFun (hy7.trans hx.toMat.symm) ⟨i, g3 ▸ hi⟩) ⟨j, g4 ▸ hj⟩

theorem solveChecked_eq_inv_mul (a b x : QMat) (h : solveChecked a b = some x)
    (hdet : IsUnit (a.toMat a.rows a.rows).det) :
    x.toMat a.rows b.cols = (a.toMat a.rows a.rows)⁻¹ * b.toMat a.rows b.cols := by
  obtain ⟨-, -, -, -, hx⟩ := (solveChecked_eq_some_iff a b x rfl rfl).1 h
  exact hx.toMat

/-- an answer of the checked solver is the only well-shaped solution -/
theorem solveChecked_eq_of_solves (a b x y : QMat) (hx : solveChecked a b = some x)
    (hy : a.rows = y.rows ∧ b.cols = y.cols ∧ y.wellShaped = true ∧
      a.toMat a.rows a.rows * y.toMat a.rows b.cols = b.toMat a.rows b.cols) : x = y := by
  obtain ⟨h1, h2, _, hd, _⟩ := (solveChecked_eq_some_iff a b x rfl rfl).1 hx
  refine Option.some.inj (hx.symm.trans ((solveChecked_eq_some_iff a b y rfl rfl).2
    ⟨h1, h2, hy.2.2.1, hd, hy.1.symm, hy.2.1.symm, ?_⟩))
  rw [← hy.2.2.2, Matrix.nonsing_inv_mul_cancel_left _ _ hd]

theorem solveChecked_unique (a b x y : QMat) (hx : solveChecked a b = some x)
    (hy : a.rows = y.rows ∧ b.cols = y.cols ∧ y.wellShaped = true ∧
      a.toMat a.rows a.rows * y.toMat a.rows b.cols = b.toMat a.rows b.cols)
    (hdet : IsUnit (a.toMat a.rows a.rows).det) : x = y :=
  solveChecked_eq_of_solves a b x y hx hy

theorem inverse_complete (a : QMat) (hsq : a.cols = a.rows) (hdet : IsUnit (a.toMat a.rows a.rows).det) :
    ∃ x, inverse a = some x ∧ x.toMat a.rows a.rows = (a.toMat a.rows a.rows)⁻¹ := by
  unfold inverse
  obtain ⟨x, hx, he⟩ := solveChecked_complete a (identity a.rows) hsq rfl hdet
  refine ⟨x, hx, ?_⟩
  rw [identity_cols, toMat_identity, Matrix.mul_one] at he
  exact he

theorem inverse_isSome_iff (a : QMat) :
    (inverse a).isSome = true ↔ a.cols = a.rows ∧ IsUnit (a.toMat a.rows a.rows).det := by
  unfold inverse
  rw [solveChecked_isSome_iff]
  exact ⟨fun h => ⟨h.1, h.2.2⟩, fun h => ⟨h.1, rfl, h.2⟩⟩

example : (solve (ofRows [[2, 1], [1, 3]]) (ofRows [[1, 0, 4], [2, 5, 0]])).isSome = true := by decide +kernel
-- a 3 × 3 system needing a row swap: the answer is `(-1, -1, 1)`
example : (solve (ofRows [[0, 1, 2], [1, 0, 3], [4, -3, 8]]) (ofRows [[1], [2], [7]])).map
    (fun x => decide (x.get 0 0 = -1 ∧ x.get 1 0 = -1 ∧ x.get 2 0 = 1)) = some true := by decide +kernel
example : (solve (ofRows [[1, 2], [2, 4]]) (ofRows [[1], [2]])).isSome = false := by decide +kernel   -- singular
example : IsUnit ((ofRows [[2, 1], [1, 3]]).toMat 2 2).det := by
  rw [isUnit_iff_ne_zero, Matrix.det_fin_two]
  simp only [toMat_apply]
  decide +kernel

end IrisVerif.QMat
