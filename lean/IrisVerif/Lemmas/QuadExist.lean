/-
Existence side of `Lemmas/QuadMin.lean` (kept separate because it needs determinants / inverses):
a definite quadratic form has a non-singular matrix, and the bordered (saddle-point) matrix
`[[A, Cᵀ], [C, 0]]` is non-singular when `A` is definite on the feasible directions and `C` has full row rank
(`Cᵀ μ = 0 ⇒ μ = 0`), and singular when it has not.  Over any field; no order is needed for these statements.
-/
import IrisVerif.Lemmas.QuadMin
import Mathlib.LinearAlgebra.Matrix.NonsingularInverse

namespace IrisVerif.QuadMin

open Matrix

variable {n p : Type} [Fintype n] [Fintype p] [DecidableEq n] [DecidableEq p]
variable {K : Type} [Field K]

theorem isUnit_det_of_ker (M : Matrix n n K) (h : ∀ v : n → K, M *ᵥ v = 0 → v = 0) : IsUnit M.det :=
  (Matrix.isUnit_iff_isUnit_det M).1 (Matrix.mulVec_injective_iff_isUnit.1 fun x y hxy =>
    sub_eq_zero.1 (h (x - y) (by rw [Matrix.mulVec_sub, hxy, sub_self])))

/-- `d·Ad = 0 ⇒ d = 0` makes `A` non-singular -/
theorem isUnit_det_of_definite (A : Matrix n n K) (hpd : ∀ d : n → K, d ⬝ᵥ A *ᵥ d = 0 → d = 0) :
    IsUnit A.det :=
  isUnit_det_of_ker A fun d h => hpd d (by rw [h, dotProduct_zero])

/-- **The bordered matrix is non-singular** when the form is definite on the feasible directions and `C` has full
row rank: for `(x, μ)` in its kernel, `x` is feasible with `x·Ax = −x·Cᵀμ = 0`, so `x = 0`, and then `Cᵀ μ = 0`. -/
theorem bordered_isUnit_det (A : Matrix n n K) (C : Matrix p n K)
    (hpd : ∀ d : n → K, C *ᵥ d = 0 → d ⬝ᵥ A *ᵥ d = 0 → d = 0)
    (hC : ∀ μ : p → K, Cᵀ *ᵥ μ = 0 → μ = 0) :
    IsUnit (Matrix.fromBlocks A Cᵀ C 0).det := by
  refine isUnit_det_of_ker _ fun v hv => ?_
  rw [← Sum.elim_comp_inl_inr v, ← Sum.elim_zero_zero, bordered_iff] at hv
  obtain ⟨hstat, hfeas⟩ := hv
  have hx : v ∘ Sum.inl = 0 := hpd _ hfeas (by
    rw [eq_neg_of_add_eq_zero_left hstat, dotProduct_neg, dot_transpose_mulVec_of_feasible C _ _ hfeas, neg_zero])
  rw [hx, Matrix.mulVec_zero, zero_add] at hstat
  rw [← Sum.elim_comp_inl_inr v, hx, hC _ hstat, Sum.elim_zero_zero]

/-- conversely, dependent constraint rows make the bordered matrix singular, whatever `A` is -/
theorem bordered_singular_of_dependent (A : Matrix n n K) (C : Matrix p n K) (μ : p → K) (hμ : μ ≠ 0) (h : Cᵀ *ᵥ μ = 0) :
    ¬ IsUnit (Matrix.fromBlocks A Cᵀ C 0).det := by
  intro hu
  have hinj := Matrix.mulVec_injective_iff_isUnit.2 ((Matrix.isUnit_iff_isUnit_det _).2 hu)
  have h0 : Matrix.fromBlocks A Cᵀ C 0 *ᵥ Sum.elim (0 : n → K) μ = Matrix.fromBlocks A Cᵀ C 0 *ᵥ 0 := by
    rw [Matrix.mulVec_zero, ← Sum.elim_zero_zero, bordered_iff]
    exact ⟨by rw [Matrix.mulVec_zero, zero_add, h], Matrix.mulVec_zero _⟩
  exact hμ (funext fun r => congrFun (hinj h0) (Sum.inr r))

/-- for a form definite on the feasible directions the bordered matrix is non-singular exactly when `C` has full row rank -/
theorem bordered_isUnit_det_iff (A : Matrix n n K) (C : Matrix p n K)
    (hpd : ∀ d : n → K, C *ᵥ d = 0 → d ⬝ᵥ A *ᵥ d = 0 → d = 0) :
    IsUnit (Matrix.fromBlocks A Cᵀ C 0).det ↔ ∀ μ : p → K, Cᵀ *ᵥ μ = 0 → μ = 0 :=
  ⟨fun hu μ h => by_contra fun hμ => bordered_singular_of_dependent A C μ hμ h hu, bordered_isUnit_det A C hpd⟩

/-- **Existence of the KKT point**: under the same two conditions the saddle-point system has a solution for every
right-hand side `(b, c)`. -/
theorem kkt_exists (A : Matrix n n K) (C : Matrix p n K)
    (hpd : ∀ d : n → K, C *ᵥ d = 0 → d ⬝ᵥ A *ᵥ d = 0 → d = 0)
    (hC : ∀ μ : p → K, Cᵀ *ᵥ μ = 0 → μ = 0) (b : n → K) (c : p → K) :
    ∃ (x : n → K) (μ : p → K), A *ᵥ x + Cᵀ *ᵥ μ = b ∧ C *ᵥ x = c := by
  obtain ⟨v, hv⟩ := Matrix.mulVec_surjective_iff_isUnit.2
    ((Matrix.isUnit_iff_isUnit_det _).2 (bordered_isUnit_det A C hpd hC)) (Sum.elim b c)
  refine ⟨v ∘ Sum.inl, v ∘ Sum.inr, ?_⟩
  rw [← bordered_iff, Sum.elim_comp_inl_inr]
  exact hv

end IrisVerif.QuadMin
