/-
Property C01: the block algebra of `fords/solutions.py: _solve_transition_equations` (+ `detach_stable_from_unit_roots`,
`_square_from_triangular`).  From `Q A Z = S`, `Q B Z = T̃` (upper block-triangular, stable block first), `Q` left-invertible, and
inverses of exactly the blocks the code divides by (`Z21`, `T̃22`, `S22 + T̃22`, `S11`), the matrices the code computes satisfy
`E1 = E2 = E3 = 0` of `Props/C01.lean` (`certificate_qz`) and make every claimed row hold in every period along every simulated
path, anticipated shocks included (`equations_hold_qz`) -- any dimensions, any lead structure (`LeadIdentities`), any commutative
ring.  Not derived: the matrix equalities `E4_a = 0`, `W = 0` themselves (the anticipated part is proved in the semantic form).

The stacked system in the coordinates `ζ = Z w` is the pair of block equations of the transformed system (`QZ.stacked_iff`): read
from right to left for existence here, from left to right for uniqueness in `Props/C01Final.lean`.
-/
import IrisVerif.Props.C01
import Mathlib.Data.Matrix.Block
import Mathlib.Tactic.FinCases
import Mathlib.Tactic.NormNum

open Matrix

set_option linter.unusedSectionVars false

namespace IrisVerif.C01

section blocks
variable {K : Type} [CommRing K]

theorem mulVec_cancel {m n : Type} [Fintype m] [Fintype n] [DecidableEq m] {M : Matrix m n K} {Mi : Matrix n m K}
    (h : M * Mi = 1) (x : m → K) : M *ᵥ (Mi *ᵥ x) = x := by
  rw [Matrix.mulVec_mulVec, h, Matrix.one_mulVec]

theorem mulVec_left_cancel {m n : Type} [Fintype m] [Fintype n] [DecidableEq n] {M : Matrix m n K} {Mi : Matrix n m K}
    (h : Mi * M = 1) {a b : n → K} (hab : M *ᵥ a = M *ᵥ b) : a = b := by
  rw [← mulVec_cancel h a, hab, mulVec_cancel h]

/-- `left_div(M, N)` negated, as the code forms `G`, `Ru`, `Tg`, `J`: multiplying back by `M` gives `-N` -/
theorem mulVec_neg_inv_mul {m n p : Type} [Fintype m] [Fintype n] [Fintype p] [DecidableEq m] {M : Matrix m n K}
    {Mi : Matrix n m K} (h : M * Mi = 1) (N : Matrix m p K) (x : p → K) : M *ᵥ (-(Mi * N) *ᵥ x) = -(N *ᵥ x) := by
  rw [Matrix.neg_mulVec, Matrix.mulVec_neg, ← Matrix.mulVec_mulVec, mulVec_cancel h]

theorem stacked_iff_transformed {r z w : Type} [Fintype r] [Fintype z] [Fintype w] [DecidableEq r]
    {Q : Matrix w r K} {Qi : Matrix r w K} {A B : Matrix r z K} {Z : Matrix z w K} {S T : Matrix w w K}
    (hQ : Qi * Q = 1) (hS : Q * A * Z = S) (hT : Q * B * Z = T) (x' x : w → K) (c : r → K) :
    A *ᵥ (Z *ᵥ x') + B *ᵥ (Z *ᵥ x) + c = 0 ↔ S *ᵥ x' + T *ᵥ x + Q *ᵥ c = 0 := by
  subst hS hT
  have e : Q *ᵥ (A *ᵥ (Z *ᵥ x') + B *ᵥ (Z *ᵥ x) + c) = (Q * A * Z) *ᵥ x' + (Q * B * Z) *ᵥ x + Q *ᵥ c := by
    simp only [Matrix.mulVec_add, Matrix.mulVec_mulVec, Matrix.mul_assoc]
  rw [← e]
  exact ⟨fun h => by rw [h, Matrix.mulVec_zero], fun h => mulVec_left_cancel hQ (h.trans (Matrix.mulVec_zero Q).symm)⟩

/-- both sides unfold, component by component, to the same sums -/
theorem triangular_blocks_iff {n₁ n₂ : Type} [Fintype n₁] [Fintype n₂]
    (S11 T11 : Matrix n₁ n₁ K) (S12 T12 : Matrix n₁ n₂ K) (S22 T22 : Matrix n₂ n₂ K)
    (x' x : n₁ → K) (y' y : n₂ → K) (c : n₁ ⊕ n₂ → K) :
    fromBlocks S11 S12 0 S22 *ᵥ Sum.elim x' y' + fromBlocks T11 T12 0 T22 *ᵥ Sum.elim x y + c = 0 ↔
      S11 *ᵥ x' + S12 *ᵥ y' + T11 *ᵥ x + T12 *ᵥ y + c ∘ Sum.inl = 0 ∧ S22 *ᵥ y' + T22 *ᵥ y + c ∘ Sum.inr = 0 := by
  simp only [funext_iff, Sum.forall, Matrix.fromBlocks_mulVec, Sum.elim_comp_inl, Sum.elim_comp_inr, Pi.add_apply,
    Sum.elim_inl, Sum.elim_inr, Matrix.zero_mulVec, zero_add, Pi.zero_apply, Function.comp_apply, add_assoc]

theorem mulVec_sumElim {m n₁ n₂ : Type} [Fintype n₁] [Fintype n₂] (M : Matrix m (n₁ ⊕ n₂) K) (f : n₁ → K) (x : n₂ → K)
    (i : m) : (M *ᵥ Sum.elim f x) i = ∑ j, M i (Sum.inl j) * f j + ∑ j, M i (Sum.inr j) * x j := by
  simp only [Matrix.mulVec, dotProduct, Fintype.sum_sum_type, Sum.elim_inl, Sum.elim_inr]

theorem mulVec_of_row_single {m n : Type} [Fintype n] [DecidableEq n] (M : Matrix m n K) (i : m) (k : n) (c : K)
    (h : ∀ j, M i j = if j = k then c else 0) (z : n → K) : (M *ᵥ z) i = c * z k := by
  simp [Matrix.mulVec, dotProduct, h]

end blocks

/-- exact QZ data of the stacked system `A ζ[t] + B ζ[t-1] + C + D u[t] = 0`; `ζ = (leads ; ξ)` is indexed by `nf ⊕ nb`,
the transformed vector `(stable ; unstable)` by `nb ⊕ nf` (`num_stable = num_backwards`), rows by `nr`.
`left_div(M, Y)` of the code is `Mi * Y` for the given inverse `Mi` of `M`.  Only `Z21` needs a two-sided inverse (`hZ21'`): the
state `ξ = Z21 γ` has to determine `γ`. -/
structure QZ (nr nf nb nu : Type) [Fintype nr] [Fintype nf] [Fintype nb] [Fintype nu]
    [DecidableEq nr] [DecidableEq nf] [DecidableEq nb] (K : Type) [CommRing K] where
  A : Matrix nr (nf ⊕ nb) K
  B : Matrix nr (nf ⊕ nb) K
  C : nr → K
  D : Matrix nr nu K
  Q : Matrix (nb ⊕ nf) nr K
  Qi : Matrix nr (nb ⊕ nf) K
  S11 : Matrix nb nb K
  S12 : Matrix nb nf K
  S22 : Matrix nf nf K
  T11 : Matrix nb nb K
  T12 : Matrix nb nf K
  T22 : Matrix nf nf K
  Z11 : Matrix nf nb K
  Z12 : Matrix nf nf K
  Z21 : Matrix nb nb K
  Z22 : Matrix nb nf K
  S11i : Matrix nb nb K
  T22i : Matrix nf nf K
  ST22i : Matrix nf nf K
  Z21i : Matrix nb nb K
  hQ : Qi * Q = 1
  hS : Q * A * fromBlocks Z11 Z12 Z21 Z22 = fromBlocks S11 S12 0 S22
  hT : Q * B * fromBlocks Z11 Z12 Z21 Z22 = fromBlocks T11 T12 0 T22
  hS11 : S11 * S11i = 1
  hT22 : T22 * T22i = 1
  hST22 : (S22 + T22) * ST22i = 1
  hZ21 : Z21 * Z21i = 1
  hZ21' : Z21i * Z21 = 1

namespace QZ

variable {nr nf nb nu : Type} [Fintype nr] [Fintype nf] [Fintype nb] [Fintype nu]
variable [DecidableEq nr] [DecidableEq nf] [DecidableEq nb]
variable {K : Type} [CommRing K] (d : QZ nr nf nb nu K)

/-! ### what `_solve_transition_equations` computes -/

/-- `Z`; `Q_CC1`, `Q_CC2`, `Q_DD1`, `Q_DD2` of the code are the stable / unstable rows of `Q C` and `Q D` -/
def Zm : Matrix (nf ⊕ nb) (nb ⊕ nf) K := fromBlocks d.Z11 d.Z12 d.Z21 d.Z22
def QC1 : nb → K := fun i => (d.Q *ᵥ d.C) (Sum.inl i)
def QC2 : nf → K := fun i => (d.Q *ᵥ d.C) (Sum.inr i)
def QD1 : Matrix nb nu K := (d.Q * d.D).submatrix Sum.inl id
def QD2 : Matrix nf nu K := (d.Q * d.D).submatrix Sum.inr id
/-- `G = -Z21 \ Z22` -/
def G : Matrix nb nf K := -(d.Z21i * d.Z22)
/-- `Ru = -T22 \ Q_DD2` -/
def Ru : Matrix nf nu K := -(d.T22i * d.QD2)
/-- `Ku = -(S22 + T22) \ Q_CC2` -/
def Ku : nf → K := -(d.ST22i *ᵥ d.QC2)
/-- `Xg0 = S11 \ (T11 G + T12)` -/
def Xg0 : Matrix nb nf K := d.S11i * (d.T11 * d.G + d.T12)
/-- `Xg1 = G + S11 \ S12` -/
def Xg1 : Matrix nb nf K := d.G + d.S11i * d.S12
/-- `Tg = -S11 \ T11` -/
def Tg : Matrix nb nb K := -(d.S11i * d.T11)
/-- `Rg = -Xg0 Ru - S11 \ Q_DD1` -/
def Rg : Matrix nb nu K := -(d.Xg0 * d.Ru) - d.S11i * d.QD1
/-- `Kg = -(Xg0 + Xg1) Ku - S11 \ Q_CC1` -/
def Kg : nb → K := -((d.Xg0 + d.Xg1) *ᵥ d.Ku) - d.S11i *ᵥ d.QC1
/-- `J = -T22 \ S22` (not the measurement-shock matrix `Jm` of `measurement_equations_hold`) -/
def Jm : Matrix nf nf K := -(d.T22i * d.S22)
/-- `Xg = Xg1 + Xg0 J` -/
def Xg : Matrix nb nf K := d.Xg1 + d.Xg0 * d.Jm

/-! ### the square solution (`Ug = Z21`; the Schur rotation cancels, see `square_from_triangular_qz`) -/

def Tsq : Matrix nb nb K := d.Z21 * d.Tg * d.Z21i
def Psq : Matrix nb nu K := d.Z21 * d.Rg
def Ksq : nb → K := d.Z21 *ᵥ d.Kg
def Xsq : Matrix nb nf K := d.Z21 * d.Xg

/-! ### the stacked system in transformed coordinates

Everything is done once, with anticipated shocks: the unstable block is `un = Ku + φ`, `φ` the forward state, `s` the total
shock of the period; `φ = 0` is the case of unanticipated shocks only (the `_ant_qz` statements carry `φ`, their `_qz` namesakes
are the case `φ = 0`). -/

theorem stacked_iff (x' x : nb → K) (y' y : nf → K) (s : nu → K) :
    d.A *ᵥ (d.Zm *ᵥ Sum.elim x' y') + d.B *ᵥ (d.Zm *ᵥ Sum.elim x y) + d.C + d.D *ᵥ s = 0 ↔
      d.S11 *ᵥ x' + d.S12 *ᵥ y' + d.T11 *ᵥ x + d.T12 *ᵥ y + d.QC1 + d.QD1 *ᵥ s = 0 ∧
      d.S22 *ᵥ y' + d.T22 *ᵥ y + d.QC2 + d.QD2 *ᵥ s = 0 := by
  have h1 : (d.Q *ᵥ (d.C + d.D *ᵥ s)) ∘ Sum.inl = d.QC1 + d.QD1 *ᵥ s := by
    rw [Matrix.mulVec_add, Matrix.mulVec_mulVec]
    rfl
  have h2 : (d.Q *ᵥ (d.C + d.D *ᵥ s)) ∘ Sum.inr = d.QC2 + d.QD2 *ᵥ s := by
    rw [Matrix.mulVec_add, Matrix.mulVec_mulVec]
    rfl
  rw [add_assoc _ d.C, stacked_iff_transformed (Z := d.Zm) d.hQ d.hS d.hT, triangular_blocks_iff, h1, h2, ← add_assoc,
    ← add_assoc]

theorem lower_block_Ku : d.S22 *ᵥ d.Ku + d.T22 *ᵥ d.Ku + d.QC2 = 0 := by
  rw [← Matrix.add_mulVec, Ku, Matrix.mulVec_neg, mulVec_cancel d.hST22, neg_add_cancel]

theorem lower_block_ant_qz (s : nu → K) (φ : nf → K) :
    d.S22 *ᵥ (d.Ku + φ) + d.T22 *ᵥ (d.Ku + d.Jm *ᵥ φ + d.Ru *ᵥ s) + d.QC2 + d.QD2 *ᵥ s = 0 := by
  have hK : d.QC2 = -(d.S22 *ᵥ d.Ku + d.T22 *ᵥ d.Ku) := eq_neg_of_add_eq_zero_right d.lower_block_Ku
  have hJ : d.T22 *ᵥ (d.Jm *ᵥ φ) = -(d.S22 *ᵥ φ) := mulVec_neg_inv_mul d.hT22 d.S22 φ
  have hR : d.T22 *ᵥ (d.Ru *ᵥ s) = -(d.QD2 *ᵥ s) := mulVec_neg_inv_mul d.hT22 d.QD2 s
  rw [Matrix.mulVec_add, Matrix.mulVec_add, Matrix.mulVec_add, hJ, hR, hK]
  abel

theorem lower_block_qz (u : nu → K) :
    d.S22 *ᵥ d.Ku + d.T22 *ᵥ (d.Ku + d.Ru *ᵥ u) + d.QC2 + d.QD2 *ᵥ u = 0 := by
  simpa only [Matrix.mulVec_zero, add_zero] using lower_block_ant_qz d u 0

theorem S11_Xg0_mulVec (x : nf → K) : d.S11 *ᵥ (d.Xg0 *ᵥ x) = d.T11 *ᵥ (d.G *ᵥ x) + d.T12 *ᵥ x := by
  rw [Xg0, ← Matrix.mulVec_mulVec, mulVec_cancel d.hS11, Matrix.add_mulVec, ← Matrix.mulVec_mulVec]

theorem S11_Xg1_mulVec (x : nf → K) : d.S11 *ᵥ (d.Xg1 *ᵥ x) = d.S11 *ᵥ (d.G *ᵥ x) + d.S12 *ᵥ x := by
  rw [Xg1, Matrix.add_mulVec, Matrix.mulVec_add, ← Matrix.mulVec_mulVec, mulVec_cancel d.hS11]

/-- multiplied by `S11`, every block the code obtains by `S11 \ ·` turns back into what was divided; the rest is additive -/
theorem upper_block_ant_qz (γ : nb → K) (s : nu → K) (φ : nf → K) :
    d.S11 *ᵥ (d.Tg *ᵥ γ + d.Kg + d.Rg *ᵥ s - d.Xg *ᵥ φ + d.G *ᵥ (d.Ku + φ)) + d.S12 *ᵥ (d.Ku + φ)
      + d.T11 *ᵥ (γ + d.G *ᵥ (d.Ku + d.Jm *ᵥ φ + d.Ru *ᵥ s)) + d.T12 *ᵥ (d.Ku + d.Jm *ᵥ φ + d.Ru *ᵥ s)
      + d.QC1 + d.QD1 *ᵥ s = 0 := by
  have hT : d.S11 *ᵥ (d.Tg *ᵥ γ) = -(d.T11 *ᵥ γ) := mulVec_neg_inv_mul d.hS11 d.T11 γ
  have hK : d.S11 *ᵥ d.Kg = -(d.S11 *ᵥ (d.Xg0 *ᵥ d.Ku) + d.S11 *ᵥ (d.Xg1 *ᵥ d.Ku)) - d.QC1 := by
    rw [Kg, Matrix.mulVec_sub, Matrix.mulVec_neg, Matrix.add_mulVec, Matrix.mulVec_add, mulVec_cancel d.hS11]
  have hR : d.S11 *ᵥ (d.Rg *ᵥ s) = -(d.S11 *ᵥ (d.Xg0 *ᵥ (d.Ru *ᵥ s))) - d.QD1 *ᵥ s := by
    rw [Rg, Matrix.sub_mulVec, Matrix.neg_mulVec, Matrix.mulVec_sub, Matrix.mulVec_neg, ← Matrix.mulVec_mulVec,
      ← Matrix.mulVec_mulVec, mulVec_cancel d.hS11]
  have hX : d.S11 *ᵥ (d.Xg *ᵥ φ) = d.S11 *ᵥ (d.Xg1 *ᵥ φ) + d.S11 *ᵥ (d.Xg0 *ᵥ (d.Jm *ᵥ φ)) := by
    rw [Xg, Matrix.add_mulVec, Matrix.mulVec_add, ← Matrix.mulVec_mulVec]
  simp only [Matrix.mulVec_add, Matrix.mulVec_sub, hT, hK, hR, hX, S11_Xg0_mulVec, S11_Xg1_mulVec]
  abel

theorem upper_block_qz (γ : nb → K) (u : nu → K) :
    d.S11 *ᵥ (d.Tg *ᵥ γ + d.Kg + d.Rg *ᵥ u + d.G *ᵥ d.Ku) + d.S12 *ᵥ d.Ku
      + d.T11 *ᵥ (γ + d.G *ᵥ (d.Ku + d.Ru *ᵥ u)) + d.T12 *ᵥ (d.Ku + d.Ru *ᵥ u) + d.QC1 + d.QD1 *ᵥ u = 0 := by
  simpa only [Matrix.mulVec_zero, sub_zero, add_zero] using upper_block_ant_qz d γ u 0

/-- lead part of the stacked vector `Z (γ + G un ; un)` -/
def lead (γ : nb → K) (un : nf → K) : nf → K := d.Z11 *ᵥ (γ + d.G *ᵥ un) + d.Z12 *ᵥ un

/-- `ξ = Ug γ` whatever the unstable block: `Z (γ + G un ; un) = (lead ; Z21 γ)` because `Z21 G + Z22 = 0` -/
theorem Zm_mulVec_qz (γ : nb → K) (un : nf → K) :
    d.Zm *ᵥ Sum.elim (γ + d.G *ᵥ un) un = Sum.elim (d.lead γ un) (d.Z21 *ᵥ γ) := by
  have hG : d.Z21 *ᵥ (d.G *ᵥ un) = -(d.Z22 *ᵥ un) := mulVec_neg_inv_mul d.hZ21 d.Z22 un
  rw [Zm, Matrix.fromBlocks_mulVec, Sum.elim_comp_inl, Sum.elim_comp_inr, Matrix.mulVec_add d.Z21, hG, neg_add_cancel_right]
  rfl

/-- forward solution: the lead tokens as a function of the state, on the expectation-consistent path (`un = Ku`); `C01.phi` is
something else, the forward state `φ` -/
def Phi (ξ : nb → K) : nf → K := d.lead (d.Z21i *ᵥ ξ) d.Ku

/-- forward solution with anticipated information: lead tokens given the state and the forward state `φ` -/
def PhiA (ξ : nb → K) (φ : nf → K) : nf → K := d.lead (d.Z21i *ᵥ ξ) (d.Ku + φ)

theorem Z21i_Z21_mulVec (γ : nb → K) : d.Z21i *ᵥ (d.Z21 *ᵥ γ) = γ := mulVec_cancel d.hZ21' γ

theorem next_state_ant_qz (ξ : nb → K) (s : nu → K) (φ : nf → K) :
    d.Z21 *ᵥ (d.Tg *ᵥ (d.Z21i *ᵥ ξ) + d.Kg + d.Rg *ᵥ s - d.Xg *ᵥ φ) = d.Tsq *ᵥ ξ + d.Ksq + d.Psq *ᵥ s - d.Xsq *ᵥ φ := by
  simp only [Tsq, Ksq, Psq, Xsq, Matrix.mulVec_add, Matrix.mulVec_sub, ← Matrix.mulVec_mulVec]

/-- **The stacked system (ALL rows, dynamic identities included) holds along the algorithm's solution**: total shock
`s = u + v[t]`, forward state `φ[t]`, next state `ξ' = T ξ + K + P s - X φ[t]`; the current stacked vector is `(Φ ξ' ; ξ')` and the
`ξ` part of the previous one is `ξ`. -/
theorem system_holds_ant_qz (ξ : nb → K) (s : nu → K) (φ : nf → K) :
    d.A *ᵥ Sum.elim (d.PhiA (d.Tsq *ᵥ ξ + d.Ksq + d.Psq *ᵥ s - d.Xsq *ᵥ φ) φ) (d.Tsq *ᵥ ξ + d.Ksq + d.Psq *ᵥ s - d.Xsq *ᵥ φ)
      + d.B *ᵥ Sum.elim (d.lead (d.Z21i *ᵥ ξ) (d.Ku + d.Jm *ᵥ φ + d.Ru *ᵥ s)) ξ + d.C + d.D *ᵥ s = 0 := by
  have h := (d.stacked_iff _ _ _ _ s).mpr ⟨upper_block_ant_qz d (d.Z21i *ᵥ ξ) s φ, lower_block_ant_qz d s φ⟩
  rw [Zm_mulVec_qz, Zm_mulVec_qz, mulVec_cancel d.hZ21] at h
  rw [PhiA, ← next_state_ant_qz, Z21i_Z21_mulVec]
  exact h

end QZ

section leads
variable {nr nf nb nu nc : Type} [Fintype nr] [Fintype nf] [Fintype nb] [Fintype nu] [Fintype nc]
variable [DecidableEq nr] [DecidableEq nf] [DecidableEq nb] [DecidableEq nu]
variable {K : Type} [CommRing K] (d : QZ nr nf nb nu K)

/-- the dynamic identities of `_create_dynid_matrices` for the lead tokens: row `idr i` says
`ζ[t](prev i) - ζ[t-1](lead i) = 0`, where `prev i` is the token of the same variable one shift lower
(the zero-shift token `src i` of the solution vector when `sh i = 1`, another lead otherwise) -/
structure LeadIdentities (sh : nf → ℕ) (src : nf → nb) (prev : nf → nf ⊕ nb) (idr : nf → nr) : Prop where
  prev_b : ∀ i b, prev i = Sum.inr b → sh i = 1 ∧ src i = b
  prev_f : ∀ i i', prev i = Sum.inl i' → sh i = sh i' + 1 ∧ src i = src i'
  rowA : ∀ i j, d.A (idr i) j = if j = prev i then 1 else 0
  rowB : ∀ i j, d.B (idr i) j = if j = Sum.inl i then -1 else 0
  rowC : ∀ i, d.C (idr i) = 0
  rowD : ∀ i k, d.D (idr i) k = 0

variable {sh : nf → ℕ} {src : nf → nb} {prev : nf → nf ⊕ nb} {idr : nf → nr}

theorem cont_shift_g (T : Matrix nb nb K) (Kc : nb → K) (g : ℕ → nb → K) (j : ℕ) (x : nb → K) :
    cont T Kc (fun a => g (a + 1)) j (T *ᵥ x + Kc + g 1) = cont T Kc g (j + 1) x := by
  induction j with
  | zero => simp [cont]
  | succ j ih =>
    rw [cont, ih]
    rfl

/-- row `idr i` of the stacked system: the lead token `i` today is the token `prev i` of tomorrow's stacked vector -/
theorem PhiA_step_qz (hl : LeadIdentities d sh src prev idr) (ξ : nb → K) (φ φ' : nf → K) (v' : nu → K)
    (hφ : φ = d.Jm *ᵥ φ' + d.Ru *ᵥ v') (i : nf) :
    d.PhiA ξ φ i = Sum.elim (d.PhiA (d.Tsq *ᵥ ξ + d.Ksq + d.Psq *ᵥ v' - d.Xsq *ᵥ φ') φ')
      (d.Tsq *ᵥ ξ + d.Ksq + d.Psq *ᵥ v' - d.Xsq *ᵥ φ') (prev i) := by
  have h := congrFun (d.system_holds_ant_qz ξ v' φ') (idr i)
  have hD : (d.D *ᵥ v') (idr i) = 0 := Finset.sum_eq_zero fun k _ => mul_eq_zero_of_left (hl.rowD i k) _
  rw [Pi.add_apply, Pi.add_apply, Pi.add_apply, mulVec_of_row_single d.A _ _ 1 (hl.rowA i),
    mulVec_of_row_single d.B _ _ (-1) (hl.rowB i), hl.rowC, hD, Sum.elim_inl, add_zero, add_zero, one_mul, neg_one_mul, Pi.zero_apply,
    add_neg_eq_zero] at h
  rw [QZ.PhiA, hφ, ← add_assoc]
  exact h.symm

/-- the forward solution IS the lead read from the model-consistent continuation, for every lead depth (induction on depth) -/
theorem PhiA_eq_cont_qz (hl : LeadIdentities d sh src prev idr) (i : nf) (ξ : nb → K) (v : ℕ → nu → K) (φ : ℕ → nf → K)
    (hφ : ∀ b, φ b = d.Jm *ᵥ φ (b + 1) + d.Ru *ᵥ v (b + 1)) :
    d.PhiA ξ (φ 0) i = cont d.Tsq d.Ksq (fun a => d.Psq *ᵥ v a - d.Xsq *ᵥ φ a) (sh i) ξ (src i) := by
  induction hi : sh i generalizing i ξ v φ with
  | zero =>
    rcases hp : prev i with i' | b
    · have := (hl.prev_f i i' hp).1; omega
    · have := (hl.prev_b i b hp).1; omega
  | succ n ih =>
    rw [PhiA_step_qz d hl ξ (φ 0) (φ 1) (v 1) (hφ 0) i, ← cont_shift_g, add_sub_assoc]
    rcases hp : prev i with i' | b
    · obtain ⟨h1, h2⟩ := hl.prev_f i i' hp
      rw [Sum.elim_inl, ih i' _ (fun b => v (b + 1)) (fun b => φ (b + 1)) (fun b => hφ (b + 1)) (by omega), h2]
    · obtain ⟨h1, h2⟩ := hl.prev_b i b hp
      obtain rfl : n = 0 := by omega
      rw [Sum.elim_inr, h2]
      rfl

theorem Phi_eq_cont_qz (hl : LeadIdentities d sh src prev idr) :
    ∀ (n : ℕ) (i : nf), sh i = n → ∀ ξ : nb → K, d.Phi ξ i = cont d.Tsq d.Ksq (fun _ => 0) n ξ (src i) := by
  rintro _ i rfl ξ
  have h := PhiA_eq_cont_qz d hl i ξ (fun _ => 0) (fun _ => 0) (fun _ => by simp)
  simpa [QZ.PhiA, QZ.Phi] using h

variable (cr : nc → nr)

/-- `cr` sends a claimed row (`nc`) to its row of the stacked system (`nr`) -/
def Afq : Matrix nc nf K := Matrix.of fun r i => d.A (cr r) (Sum.inl i)
def Abq : Matrix nc nb K := Matrix.of fun r b => d.A (cr r) (Sum.inr b)
def Bbq : Matrix nc nb K := Matrix.of fun r b => d.B (cr r) (Sum.inr b)
def Ccq : nc → K := fun r => d.C (cr r)
def Ddq : Matrix nc nu K := Matrix.of fun r k => d.D (cr r) k

/-- **Every claimed row holds**: state `ξ`, unanticipated shock `u`, anticipated shocks `v[a]` and forward states `φ[a]`
(`a` periods ahead) obeying the backward recursion of the unstable block; leads read from the continuation
(claimed rows: `B` reads `ζ[t-1]` in its `ξ` part only -- `bLead = 0` of the executable certificate). -/
theorem resid_zero_ant_qz (hl : LeadIdentities d sh src prev idr) (hB0 : ∀ r i, d.B (cr r) (Sum.inl i) = 0)
    (ξ : nb → K) (u : nu → K) (g : ℕ → nb → K) (v : ℕ → nu → K) (φ : ℕ → nf → K)
    (hg : ∀ a, g a = d.Psq *ᵥ v a - d.Xsq *ᵥ φ a) (hφ : ∀ b, φ b = d.Jm *ᵥ φ (b + 1) + d.Ru *ᵥ v (b + 1)) :
    resid (Afq d cr) (Abq d cr) (Bbq d cr) (Ccq d cr) (Ddq d cr)
      (leadRead d.Tsq d.Ksq g sh src (d.Tsq *ᵥ ξ + d.Ksq + d.Psq *ᵥ u + g 0))
      (d.Tsq *ᵥ ξ + d.Ksq + d.Psq *ᵥ u + g 0) ξ (u + v 0) = 0 := by
  have hx : d.Tsq *ᵥ ξ + d.Ksq + d.Psq *ᵥ u + g 0 = d.Tsq *ᵥ ξ + d.Ksq + d.Psq *ᵥ (u + v 0) - d.Xsq *ᵥ φ 0 := by
    rw [hg, Matrix.mulVec_add, ← add_sub_assoc, add_assoc _ (d.Psq *ᵥ u)]
  have hlead : ∀ x, leadRead d.Tsq d.Ksq g sh src x = d.PhiA x (φ 0) := fun x => funext fun i => by
    rw [PhiA_eq_cont_qz d hl i x v φ hφ, ← funext hg]
    rfl
  rw [hx, hlead]
  funext r
  show (Afq d cr *ᵥ _) r + (Abq d cr *ᵥ _) r + (Bbq d cr *ᵥ ξ) r + d.C (cr r) + (d.D *ᵥ (u + v 0)) (cr r) = 0
  -- `(Afq d cr *ᵥ f) r` is by definition `∑ j, d.A (cr r) (Sum.inl j) * f j`, likewise `Abq`, `Bbq`: the goal is row `cr r` of the
  -- stacked system with `A` cut into lead and state columns and the lead columns of `B` dropped (`hB0`)
  have h := congrFun (d.system_holds_ant_qz ξ (u + v 0) (φ 0)) (cr r)
  rw [Pi.add_apply, Pi.add_apply, Pi.add_apply, mulVec_sumElim, mulVec_sumElim] at h
  simp only [hB0, zero_mul, Finset.sum_const_zero, zero_add] at h
  exact h

/-- **The algorithm's output is a solution**: with exact QZ identities and the named blocks invertible, along every path
simulated with `T, K, P` and the forward expansion `R_k = -X J^(k-1) Ru` of the computed `X, J, Ru`, every claimed row holds in
every period -- every initial condition, every unanticipated and every finite-horizon anticipated shock path. -/
theorem equations_hold_qz (hl : LeadIdentities d sh src prev idr) (hB0 : ∀ r i, d.B (cr r) (Sum.inl i) = 0)
    (H : ℕ) (x0 : nb → K) (u v : ℕ → nu → K) (hv : ∀ s, H < s → v s = 0) (t : ℕ) :
    residAt d.Tsq d.Ksq d.Psq sh src (Afq d cr) (Abq d cr) (Bbq d cr) (Ccq d cr) (Ddq d cr) x0 u v
      (impact d.Psq d.Xsq d.Jm d.Ru H v) t = 0 :=
  resid_zero_ant_qz d cr hl hB0 (path d.Tsq d.Ksq d.Psq x0 u _ t) (u (t + 1)) (fun b => impact d.Psq d.Xsq d.Jm d.Ru H v (t + 1 + b))
    (fun b => v (t + 1 + b)) (fun b => phi d.Jm d.Ru H v (t + 1 + b))
    (fun b => impact_expansion d.Psq d.Xsq d.Jm d.Ru H v hv (t + 1 + b)) (fun b => phi_rec d.Jm d.Ru H v hv (t + 1 + b))

theorem equations_hold_unanticipated_qz (hl : LeadIdentities d sh src prev idr) (hB0 : ∀ r i, d.B (cr r) (Sum.inl i) = 0)
    (x0 : nb → K) (u : ℕ → nu → K) (t : ℕ) :
    residAt d.Tsq d.Ksq d.Psq sh src (Afq d cr) (Abq d cr) (Bbq d cr) (Ccq d cr) (Ddq d cr) x0 u (fun _ => 0) (fun _ => 0) t = 0 := by
  have h := equations_hold_qz d cr hl hB0 0 x0 u (fun _ => 0) (fun _ _ => rfl) t
  rwa [impact_zero] at h

/-- **`_solve_transition_equations` produces a certified solution**: with exact QZ identities and the named blocks
invertible, the square solution `T = Z21 Tg Z21⁻¹`, `K = Z21 Kg`, `P = Z21 Rg` satisfies `E1 = 0`, `E2 = 0`, `E3 = 0`. -/
theorem certificate_qz (hl : LeadIdentities d sh src prev idr) (hB0 : ∀ r i, d.B (cr r) (Sum.inl i) = 0) :
    E1 d.Tsq sh src (Afq d cr) (Abq d cr) (Bbq d cr) = 0 ∧
    E2 d.Tsq d.Ksq sh src (Afq d cr) (Abq d cr) (Ccq d cr) = 0 ∧
    E3 d.Tsq d.Psq sh src (Afq d cr) (Abq d cr) (Ddq d cr) = 0 :=
  certificate_of_first_period (h := fun x0 u => equations_hold_unanticipated_qz d cr hl hB0 x0 u 0)

end leads

/-! ### `detach_stable_from_unit_roots` + `_square_from_triangular`: the rotation cancels; `T Ua = Ua Ta` -/

section square
variable {nb nu nj : Type} [Fintype nb] [Fintype nu] [Fintype nj] [DecidableEq nb]
variable {K : Type} [CommRing K]

/-- square/triangular consistency: `T = Ua Ta Ua⁻¹` gives `T Ua = Ua Ta` (checked numerically by stream `square-triangular`) -/
theorem square_triangular_consistency (Ua Uai Ta : Matrix nb nb K) (h : Uai * Ua = 1) :
    (Ua * Ta * Uai) * Ua = Ua * Ta := by
  rw [Matrix.mul_assoc, h, Matrix.mul_one]

/-- with `Tg = u Ta uᵀ` (`u` orthogonal: Schur), `Ua = Ug u`, `Ra = uᵀ Rg`, `Ka = uᵀ Kg`, `Xa = uᵀ Xg`, the square solution
`T = Ua Ta Ua⁻¹`, `R = Ua Ra`, `K = Ua Ka`, `X = Ua Xa` does not depend on the rotation: it is `Ug Tg Ug⁻¹`, `Ug Rg`, `Ug Kg`, `Ug Xg` -/
theorem square_from_triangular_qz (Ug Ugi Tg u : Matrix nb nb K) (Rg : Matrix nb nu K) (Kg : nb → K) (Xg : Matrix nb nj K)
    (hu : u * uᵀ = 1) :
    (Ug * u) * (uᵀ * Tg * u) * (uᵀ * Ugi) = Ug * Tg * Ugi ∧ (Ug * u) * (uᵀ * Rg) = Ug * Rg ∧
    (Ug * u) *ᵥ (uᵀ *ᵥ Kg) = Ug *ᵥ Kg ∧ (Ug * u) * (uᵀ * Xg) = Ug * Xg := by
  have e : ∀ {m : Type} [Fintype m] (Y : Matrix nb m K), (Ug * u) * (uᵀ * Y) = Ug * Y := by
    intro m _ Y
    rw [Matrix.mul_assoc, ← Matrix.mul_assoc u, hu, Matrix.one_mul]
  refine ⟨?_, e Rg, ?_, e Xg⟩
  · calc (Ug * u) * (uᵀ * Tg * u) * (uᵀ * Ugi)
        = Ug * ((u * uᵀ) * Tg * (u * uᵀ)) * Ugi := by simp only [Matrix.mul_assoc]
      _ = Ug * Tg * Ugi := by rw [hu, Matrix.one_mul, Matrix.mul_one]
  · rw [Matrix.mulVec_mulVec, Matrix.mul_assoc, hu, Matrix.mul_one]

end square

/-! ### Non-vacuity: an exact generalised Schur form of a forward-looking model meets every hypothesis -/

section example_qz

/-- `x = 3/8 x{-1} + 1/2 x{+1} + 1 + e` with an exact (non-orthogonal) generalised Schur form: eigenvectors (1,2) [root 1/2], (3,2) [root 3/2] -/
def exQZ : QZ (Fin 2) (Fin 1) (Fin 1) (Fin 1) ℚ where
  A := Matrix.of ![Sum.elim ![1/2] ![-1], Sum.elim ![0] ![1]]
  B := Matrix.of ![Sum.elim ![0] ![3/8], Sum.elim ![-1] ![0]]
  C := ![1, 0]
  D := !![1; 0]
  Q := Matrix.of (Sum.elim ![![1, 0]] ![![4/3, 1]])
  Qi := Matrix.of ![Sum.elim ![1] ![0], Sum.elim ![-4/3] ![1]]
  S11 := !![-3/2]
  S12 := !![-1/2]
  S22 := !![4/3]
  T11 := !![3/4]
  T12 := !![3/4]
  T22 := !![-2]
  Z11 := !![1]
  Z12 := !![3]
  Z21 := !![2]
  Z22 := !![2]
  S11i := !![-2/3]
  T22i := !![-1/2]
  ST22i := !![-3/2]
  Z21i := !![1/2]
  hQ := by
    ext i j; fin_cases i <;> fin_cases j <;> simp [Matrix.mul_apply, Fintype.sum_sum_type, Matrix.one_apply] <;> norm_num
  hS := by
    ext i j
    rcases i with i | i <;> rcases j with j | j <;> fin_cases i <;> fin_cases j <;>
      simp [Matrix.mul_apply, Fintype.sum_sum_type, Fin.sum_univ_two] <;> norm_num
  hT := by
    ext i j
    rcases i with i | i <;> rcases j with j | j <;> fin_cases i <;> fin_cases j <;>
      simp [Matrix.mul_apply, Fintype.sum_sum_type, Fin.sum_univ_two] <;> norm_num
  hS11 := by ext i j; fin_cases i; fin_cases j; simp [Matrix.mul_apply]; norm_num
  hT22 := by ext i j; fin_cases i; fin_cases j; simp [Matrix.mul_apply]; norm_num
  hST22 := by ext i j; fin_cases i; fin_cases j; simp [Matrix.mul_apply]; norm_num
  hZ21 := by ext i j; fin_cases i; fin_cases j; simp [Matrix.mul_apply]
  hZ21' := by ext i j; fin_cases i; fin_cases j; simp [Matrix.mul_apply]

theorem exQZ_leads : LeadIdentities exQZ (fun _ => 1) (fun _ => 0) (fun _ => Sum.inr 0) (fun _ => 1) where
  prev_b := by decide +kernel
  prev_f := by decide +kernel
  rowA := by decide +kernel
  rowB := by decide +kernel
  rowC := by decide +kernel
  rowD := by decide +kernel

example : exQZ.Tsq = !![1/2] ∧ exQZ.Ksq = ![4] ∧ exQZ.Psq = !![4/3] := by
  decide +kernel

example : ∀ (x0 : Fin 1 → ℚ) (u : ℕ → Fin 1 → ℚ) (t : ℕ),
    residAt exQZ.Tsq exQZ.Ksq exQZ.Psq (fun _ => 1) (fun _ => 0) (Afq exQZ (fun _ : Fin 1 => (0 : Fin 2)))
      (Abq exQZ (fun _ => 0)) (Bbq exQZ (fun _ => 0)) (Ccq exQZ (fun _ => 0)) (Ddq exQZ (fun _ => 0)) x0 u (fun _ => 0) (fun _ => 0) t = 0 :=
  equations_hold_unanticipated_qz exQZ (fun _ => 0) exQZ_leads (by decide +kernel)

example : ∀ (H : ℕ) (x0 : Fin 1 → ℚ) (u v : ℕ → Fin 1 → ℚ), (∀ s, H < s → v s = 0) → ∀ t : ℕ,
    residAt exQZ.Tsq exQZ.Ksq exQZ.Psq (fun _ => 1) (fun _ => 0) (Afq exQZ (fun _ : Fin 1 => (0 : Fin 2)))
      (Abq exQZ (fun _ => 0)) (Bbq exQZ (fun _ => 0)) (Ccq exQZ (fun _ => 0)) (Ddq exQZ (fun _ => 0)) x0 u v
      (impact exQZ.Psq exQZ.Xsq exQZ.Jm exQZ.Ru H v) t = 0 :=
  fun H x0 u v hv t =>
    equations_hold_qz exQZ (fun _ => 0) exQZ_leads (by decide +kernel) H x0 u v hv t

end example_qz

end IrisVerif.C01
