/-
The model object as a state machine refines its stateless specification (`Model/KalmanObject.lean`): for every history of
operations, every observation is the pure function of the parameters in force and of the solution; the memo invariant
("cache entry k is term k") is stated separately and preserved by every operation, in particular when a cache is EXTENDED.
Core Lean only.
-/
import IrisVerif.Model.KalmanObject
import IrisVerif.Lemmas.Machines

namespace IrisVerif.KalmanObject

/-- memo invariant of one cache: `Machine.IsPrefix (term X J Ru) cache` written out, as `extend X J Ru` is
`Machine.extend (term X J Ru)` written out, so the two lemmas of Lemmas/Machines.lean apply as they stand -/
def CacheOk (X J Ru : QMat) (cache : List QMat) : Prop := cache = (List.range cache.length).map (term X J Ru)

theorem extend_ok {X J Ru : QMat} {cache : List QMat} (h : CacheOk X J Ru cache) (fwd : Nat) :
    CacheOk X J Ru (extend X J Ru cache fwd) := Machine.extend_isPrefix h fwd

/-- the first `fwd` entries of the extended cache are exactly the terms `0 … fwd-1`, whatever was cached before -/
theorem extend_take (X J Ru : QMat) (cache : List QMat) (fwd : Nat) (h : CacheOk X J Ru cache) :
    (extend X J Ru cache fwd).take fwd = (List.range fwd).map (term X J Ru) := Machine.extend_take h fwd

/-- invariant of the object: both memos are correct for their own system (`X` resp. `Xa`) -/
def Inv (o : Obj) : Prop := CacheOk o.X o.J o.Ru o.cacheSq ∧ CacheOk o.Xa o.J o.Ru o.cacheTri

theorem step_inv (o : Obj) (op : Op) (h : Inv o) :
    Inv (step o op).1 ∧ (step o op).1.X = o.X ∧ (step o op).1.Xa = o.Xa ∧ (step o op).1.J = o.J ∧ (step o op).1.Ru = o.Ru
      ∧ (step o op).1.params = paramsStep o.params op := by
  -- only the two expansion requests touch a memo, each its own
  cases op with
  | expandSq fwd => exact ⟨⟨extend_ok h.1 fwd, h.2⟩, rfl, rfl, rfl, rfl, rfl⟩
  | expandTri fwd => exact ⟨⟨h.1, extend_ok h.2 fwd⟩, rfl, rfl, rfl, rfl, rfl⟩
  | _ => exact ⟨h, rfl, rfl, rfl, rfl, rfl⟩

/-- **refinement to the stateless specification**: for every history, every observation of the state machine (stds used by a
filter run; expansion matrices returned to the simulator / the filter) is the pure function of the parameters in force and of the
solution — independent of which calls were made before, of how far the memos had been filled, and of `copy` -/
theorem run_refines_spec : ∀ (ops : List Op) (o : Obj), Inv o → run o ops = spec o.X o.Xa o.J o.Ru o.params ops := by
  intro ops
  induction ops with
  | nil => intro o _; rfl
  | cons op rest ih =>
    intro o h
    obtain ⟨hi, hX, hXa, hJ, hRu, hp⟩ := step_inv o op h
    show (step o op).2 :: run (step o op).1 rest = _ :: spec o.X o.Xa o.J o.Ru (paramsStep o.params op) rest
    rw [ih _ hi, hX, hXa, hJ, hRu, hp]
    congr 1
    cases op with
    | expandSq fwd => exact congrArg Out.mats (extend_take _ _ _ _ _ h.1)
    | expandTri fwd => exact congrArg Out.mats (extend_take _ _ _ _ _ h.2)
    | _ => rfl

/-- a freshly solved object (empty memos) satisfies the invariant -/
theorem fresh_inv (p : Params) (X Xa J Ru : QMat) : Inv ⟨p, X, Xa, J, Ru, [], []⟩ := ⟨rfl, rfl⟩

/-- non-vacuity: a history that extends a memo (2 then 4) and changes stds in between, on a concrete object -/
example : run ⟨⟨[1], [1]⟩, QMat.identity 1, QMat.identity 1, QMat.identity 1, QMat.identity 1, [], []⟩
      [.expandTri 2, .rescale 2, .filter, .expandTri 4]
    = spec (QMat.identity 1) (QMat.identity 1) (QMat.identity 1) (QMat.identity 1) ⟨[1], [1]⟩
      [.expandTri 2, .rescale 2, .filter, .expandTri 4] :=
  run_refines_spec _ _ (fresh_inv _ _ _ _ _)

end IrisVerif.KalmanObject
