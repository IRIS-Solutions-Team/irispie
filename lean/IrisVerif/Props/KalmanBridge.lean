/-
Bridge between the executable Kalman model (`Model/Kalman.lean`, `QMat`) and the Mathlib-matrix statements of
Props/C08.lean / Props/C03.lean, through `Lemmas/QMatViews.lean` (`Views`: one rule per `QMat` operation, `of_eqv`) and
`inverse_sound` of `Lemmas/QMatRefines.lean`.

What is proved here:
* the exact runtime checks of the model are SOUND for the Mathlib views of the executable output: whenever
  `measurementHolds c b = true` / `transitionHolds s b₀ b₁ = true`, the measurement / transition identity of Props/C08.lean holds
  between the `toMat` views of the very `QMat` values the model returned.  The driver's flags `mid` / `tid` (compared on every
  harness case) are the conjunctions `allMeasurement` / `allTransition` of these checks over the periods of a reply (`tid` is not
  computed for the rounded run); the step from a conjunction to its periods is not taken here.  The shape of `c.y` resp. of
  `T b₀.a + K + P b₁.u` is certified by the check (`Views.of_eqv`); `c.D`, `s.K` and the numbers of rows of the vectors multiplied
  (`b.a`, `b.w`, `b₀.a`, `b₁.u`) are under no hypothesis: they are read through the totalised `toMat`, as the model's own `+`
  and `*` read them;
* `predictStep` delivers the hypothesis the theorems take: if `predictStep s a Q p = .ok c` then `c.Fi = symmetrize x` for an
  `x` with `inverse c.F = some x`, hence `toMat c.F * toMat c.Fi = 1` and `toMat c.Fi` symmetric (`inverse_sound`).
What is NOT proved: the full refinement "`toMat` of every field of `predictStep` / `oneStepBack` = the corresponding expression of
`Lemmas/Kalman.lean`"; with it the C08 identities would follow for the executable output without the runtime flags.
-/
import IrisVerif.Model.Kalman
import IrisVerif.Lemmas.QMatViews
import IrisVerif.Lemmas.Kalman
import Mathlib.Tactic.NormNum
import Mathlib.Algebra.Order.Field.Rat

open Matrix

namespace IrisVerif.GenTieC03
open IrisVerif IrisVerif.QMat IrisVerif.Kalman

/-- what a successful `predictStep` returns (read off the definition) -/
theorem predictStep_ok (s : Sys) (a1p Q1p : QMat) (p : PeriodIn) (c : PeriodCache)
    (h : predictStep s a1p Q1p p = .ok c) :
    let Z := s.Z.selectRows p.obs
    let H := s.H.selectRows p.obs
    let D := s.D.selectRows p.obs
    let covU := covOfStd p.stdU
    let covW := covOfStd p.stdW
    let Q0 := symmetrize (s.T * Q1p * s.T.transpose + s.P * covU * s.P.transpose)
    let F := symmetrize (Z * Q0 * Z.transpose + H * covW * H.transpose)
    ∃ x, QMat.inverse F = some x ∧
      c = (let Fi := symmetrize x
           let a0 := s.T * a1p + s.K + s.P * p.u0
           let y0 := Z * a0 + D + H * p.w0
           let ZtFi := Z.transpose * Fi
           let G := Q0 * ZtFi
           let Q1 := symmetrize (Q0 - G * Z * Q0)
           let pe := p.y - y0
           let a1 := a0 + G * pe
           { numObs := p.obs.length, Z, H, D, y := p.y, u0 := p.u0, w0 := p.w0, a0, y0, pe, Q0, F, Fi, ZtFi, G, Q1, a1,
             PcovU := s.P * covU, HcovW := H * covW }) := by
  intro Z H D covU covW Q0 F
  unfold predictStep at h
  simp only at h
  -- the shape guard, then the `match` on `QMat.inverse F`: only its branch `some x` returns
  split at h
  · cases h
  · split at h
    · rename_i x hx
      exact ⟨x, hx, (Except.ok.inj h).symm⟩
    · cases h

end IrisVerif.GenTieC03

namespace IrisVerif.KalmanBridge
open IrisVerif IrisVerif.Kalman IrisVerif.QMat

/-- soundness of the driver's exact measurement check: the identity `Z a₂ + H w₂ + D = y` of `C08.measurement_identity` holds for
the Mathlib views of the executable output (`m` observed rows, `n` states, `nw` measurement shocks) -/
theorem measurementHolds_sound (c : PeriodCache) (b : Back) (h : measurementHolds c b = true) (m n nw : Nat)
    (hZr : c.Z.rows = m) (hZc : c.Z.cols = n) (hHr : c.H.rows = m) (hHc : c.H.cols = nw) (hac : b.a.cols = 1)
    (hwc : b.w.cols = 1) :
    c.Z.toMat m n * b.a.toMat n 1 + c.H.toMat m nw * b.w.toMat nw 1 + c.D.toMat m 1 = c.y.toMat m 1 := by
  -- `of_eqv` carries the view of the left side of the check over to `c.y`
  have hl := (((Views.of hZr hZc).mul_of hac).add ((Views.of hHr hHc).mul_of hwc)).add_of c.D
  exact (hl.of_eqv h).toMat.symm

/-- soundness of the driver's exact transition check: `a₂(t) = T a₂(t-1) + K + P u₂(t)` (`C08.transition_identity`) for the
Mathlib views of the executable output (`n` states, `nu` transition shocks) -/
theorem transitionHolds_sound (s : Sys) (b0 b1 : Back) (h : transitionHolds s b0 b1 = true) (n nu : Nat)
    (har : b1.a.rows = n) (hac : b1.a.cols = 1) (hTr : s.T.rows = n) (hTc : s.T.cols = n) (h0c : b0.a.cols = 1)
    (hPr : s.P.rows = n) (hPc : s.P.cols = nu) (huc : b1.u.cols = 1) :
    b1.a.toMat n 1 = s.T.toMat n n * b0.a.toMat n 1 + s.K.toMat n 1 + s.P.toMat n nu * b1.u.toMat nu 1 := by
  -- the right side of the check has the view of `b1.a` (`of_eqv`), and its own view operation by operation
  have hl := (Views.of har hac).of_eqv h
  have hr := (((Views.of hTr hTc).mul_of h0c).add_of s.K).add ((Views.of hPr hPc).mul_of huc)
  exact hl.toMat.symm.trans hr.toMat

/-- of what `GenTieC03.predictStep_ok` reads off a successful `predictStep`, the part the bridge needs: `c.F` is a `symmetrize`,
and `c.Fi` is the symmetrised exact inverse of `c.F` (`QMat.inverse` re-checks `F * x = 1`) -/
theorem predictStep_F_Fi (s : Sys) (a Q : QMat) (p : PeriodIn) (c : PeriodCache) (h : predictStep s a Q p = .ok c) :
    (∃ X, c.F = symmetrize X ∧ X.cols = (symmetrize X).rows) ∧ ∃ x, QMat.inverse c.F = some x ∧ c.Fi = symmetrize x := by
  obtain ⟨x, hx, rfl⟩ := GenTieC03.predictStep_ok s a Q p c h
  exact ⟨⟨_, rfl, by simp [symmetrize]⟩, x, hx, rfl⟩

theorem symmetrize_toMat (X : QMat) {r : Nat} (hr : X.rows = r) (hc : X.cols = r) :
    (symmetrize X).toMat r r = (1 / 2 : ℚ) • (X.toMat r r + (X.toMat r r)ᵀ) :=
  (((Views.of hr hc).add (Views.of hr hc).transpose).smul _).toMat

/-- `1/2` as the inverse of `2`, so that the view of `symmetrize` is `KalmanAbs.symm` by unfolding -/
local instance : Invertible (2 : ℚ) := ⟨1 / 2, by norm_num, by norm_num⟩

theorem symmetrize_toMat_symm (X : QMat) {r : Nat} (hr : X.rows = r) (hc : X.cols = r) :
    ((symmetrize X).toMat r r)ᵀ = (symmetrize X).toMat r r := by
  rw [symmetrize_toMat X hr hc]
  exact KalmanAbs.symm_transpose _

theorem symmetrize_toMat_of_symm (X : QMat) {r : Nat} (hr : X.rows = r) (hc : X.cols = r)
    (h : (X.toMat r r)ᵀ = X.toMat r r) : (symmetrize X).toMat r r = X.toMat r r := by
  rw [symmetrize_toMat X hr hc]
  exact KalmanAbs.symm_of_symmetric _ h

/-- for the executable output of `predictStep`: the views of `c.F` and `c.Fi` satisfy exactly the hypotheses
`F * Fi = 1`, `Fiᵀ = Fi` under which `C08.measurement_identity`, `C03.filter_is_conditioning`, … are proved -/
theorem predictStep_F_mul_Fi (s : Sys) (a Q : QMat) (p : PeriodIn) (c : PeriodCache)
    (h : predictStep s a Q p = .ok c) :
    c.F.toMat c.F.rows c.F.rows * c.Fi.toMat c.F.rows c.F.rows = 1
    ∧ (c.Fi.toMat c.F.rows c.F.rows)ᵀ = c.Fi.toMat c.F.rows c.F.rows := by
  obtain ⟨⟨X, hX, hXc⟩, x, hx, hFi⟩ := predictStep_F_Fi s a Q p c h
  obtain ⟨hFc, hxr, hxc, _, hr⟩ := inverse_sound c.F x hx
  -- `c.F` is a `symmetrize`, so its view is symmetric
  have hFs : (c.F.toMat c.F.rows c.F.rows)ᵀ = c.F.toMat c.F.rows c.F.rows := by
    rw [hX]
    exact symmetrize_toMat_symm X rfl hXc
  have hxs : (x.toMat c.F.rows c.F.rows)ᵀ = x.toMat c.F.rows c.F.rows := KalmanAbs.inverse_symm _ _ hFs hr
  have e : c.Fi.toMat c.F.rows c.F.rows = x.toMat c.F.rows c.F.rows := by
    rw [hFi]
    exact symmetrize_toMat_of_symm x hxr hxc hxs
  rw [e]
  exact ⟨hr, hxs⟩

end IrisVerif.KalmanBridge
