/-
C14, composition with the proved completeness of `QMat.solve` (`Lemmas/QMatSolve.lean`,
`QMatSolveBridge.filterData_isSome_iff`): the executable model *returns* the unique constrained Hodrick-Prescott minimiser
whenever `λ > 0`, two observations exist and the constraints are independent — hypotheses on the input only — and it refuses
(`none` = `err:singular`) exactly when the constraints are dependent.  Also: the rejection branch of the span resolution,
the rows of the bordered right-hand side, and the locality of the lonf certificate over variants.
-/
import IrisVerif.Props.C14Span
import IrisVerif.Props.BridgeC14

namespace IrisVerif.C14Compose

open Matrix IrisVerif IrisVerif.HP IrisVerif.HPModel IrisVerif.HPMatrix IrisVerif.C14 IrisVerif.QMat

/-- the determinant the solver looks at is the determinant of the theorem-level `hpF` -/
theorem det_sysMatrix_eq (n : Nat) (lam : Rat) (lw cw : List Nat) (y : Array (Option Rat))
    (hl : ∀ a, a < lw.length → lw.getD a 0 < n) (hc : ∀ a, a < cw.length → cw.getD a 0 < n) :
    ((sysMatrix n lam lw cw y).toMat (n + lw.length + cw.length) (n + lw.length + cw.length)).det
      = (hpF (K := ℚ) (obsOf n y) lam (posF n lw hl) (posF n cw hc)).det := by
  rw [← sysMatrix_view n lam lw cw y hl hc, Matrix.det_submatrix_equiv_self]

/-- independence of the constraints, on the lists the model works with -/
def Independent (n : Nat) (lw cw : List Nat) (hl : ∀ a, a < lw.length → lw.getD a 0 < n)
    (hc : ∀ a, a < cw.length → cw.getD a 0 < n) : Prop :=
  Function.Injective (posF n lw hl) ∧ Function.Injective (posF n cw hc) ∧
    ∀ i i', (posF n lw hl i).val < (posF n lw hl i').val →
      ∃ j, (posF n lw hl i).val < j ∧ j ≤ (posF n lw hl i').val ∧ ∀ k, (posF n cw hc k).val ≠ j

/-- **The model answers iff the constraints are independent** (`λ > 0`, two observations): `err:singular` is returned for
dependent constraints and for nothing else. -/
theorem filterData_isSome_iff_independent (lg ex : Rat → Rat) (n : Nat) (lam : Rat) (hlam : 0 < lam) (lw cw : List Nat)
    (ld cd : List Rat) (y : Array (Option Rat)) (hy : y.size = n) (hld : ld.length = lw.length) (hcd : cd.length = cw.length)
    (hl : ∀ a, a < lw.length → lw.getD a 0 < n) (hc : ∀ a, a < cw.length → cw.getD a 0 < n)
    (hc0 : ∀ a, a < cw.length → 0 < cw.getD a 0)
    (s t : Fin n) (hst : s ≠ t) (hs : obsOf n y s = true) (ht : obsOf n y t = true) :
    (filterData lg ex n lam lw cw ld cd y).isSome = true ↔ Independent n lw cw hl hc := by
  rw [QMatSolveBridge.filterData_isSome_iff lg ex n lam lw cw ld cd y hy hld hcd, det_sysMatrix_eq n lam lw cw y hl hc]
  exact hp_nonsingular_iff_independent (obsOf n y) lam hlam s t hst hs ht _ _ (fun k => hc0 k.val k.isLt)

/-- **End to end, input-level hypotheses only**: for `λ > 0`, a data column of the right length with two observations,
constraint positions inside the span (changes not at the first period), matching value lists and independent constraints,
the executable model **returns** a trend, and that trend meets every constraint exactly, minimises the Hodrick-Prescott
objective among all sequences meeting them, and is the only such sequence.
(Composition of `solve_complete`/`filterData_isSome_iff`, `hp_nonsingular_iff_independent`, `model_trend_is_the_minimiser`.) -/
theorem model_returns_the_minimiser (n : Nat) (lam : Rat) (hlam : 0 < lam) (lw cw : List Nat) (ld cd : List Rat)
    (y : Array (Option Rat)) (hy : y.size = n) (hld : ld.length = lw.length) (hcd : cd.length = cw.length)
    (hl : ∀ a, a < lw.length → lw.getD a 0 < n) (hc : ∀ a, a < cw.length → cw.getD a 0 < n)
    (hc0 : ∀ a, a < cw.length → 0 < cw.getD a 0)
    (s t : Fin n) (hst : s ≠ t) (hs : obsOf n y s = true) (ht : obsOf n y t = true)
    (hind : Independent n lw cw hl hc) :
    ∃ f, filterData id id n lam lw cw ld cd y = some f ∧
      let τ : Fin n → ℚ := fun t => f.trend.getD t.val 0
      let obs := obsOf n y
      let yv : Fin n → ℚ := fun t => (y.getD t.val none).getD 0
      let feasible : (Fin n → ℚ) → Prop := fun σ =>
        (∀ a : Fin lw.length, σ (posF n lw hl a) = ld.getD a.val 0) ∧
        (∀ a : Fin cw.length, σ (posF n cw hc a) - σ (pred (posF n cw hc a)) = cd.getD a.val 0)
      feasible τ ∧ (∀ σ, feasible σ → hpObj obs yv lam τ ≤ hpObj obs yv lam σ) ∧
        (∀ σ, feasible σ → hpObj obs yv lam σ ≤ hpObj obs yv lam τ → σ = τ) := by
  have hsome := (filterData_isSome_iff_independent id id n lam hlam lw cw ld cd y hy hld hcd hl hc hc0 s t hst hs ht).2 hind
  obtain ⟨f, hf⟩ := Option.isSome_iff_exists.1 hsome
  refine ⟨f, hf, ?_⟩
  obtain ⟨h1, h2, h3⟩ := model_trend_is_the_minimiser n lam hlam lw cw ld cd y hy hld hcd hl hc hc0 f hf
  exact ⟨h1, h2, fun σ hσ hle => h3 s t hst hs ht σ hσ hle⟩

/-- at most one level and at most one change constraint are independent, wherever they are -/
theorem independent_of_le_one {n : Nat} {lw cw : List Nat} {hl : ∀ a, a < lw.length → lw.getD a 0 < n}
    {hc : ∀ a, a < cw.length → cw.getD a 0 < n} (h1 : lw.length ≤ 1) (h2 : cw.length ≤ 1) : Independent n lw cw hl hc := by
  have := Fin.subsingleton_iff_le_one.2 h1
  have := Fin.subsingleton_iff_le_one.2 h2
  refine ⟨Function.injective_of_subsingleton _, Function.injective_of_subsingleton _, fun i i' h => ?_⟩
  rw [Subsingleton.elim i i'] at h
  exact absurd h (lt_irrefl _)

/-- non-vacuity of `Independent`: a level constraint at period 3 and a change constraint at period 1 -/
example : Independent 4 [3] [1] (by decide) (by decide) := independent_of_le_one (by decide) (by decide)

/-- whether the model answers depends on the system matrix only: not on the data values, the constraint values or `log` -/
theorem filterData_isSome_congr (lg ex lg' ex' : Rat → Rat) (n : Nat) (lam : Rat) (lw cw : List Nat)
    (ld cd ld' cd' : List Rat) (y y' : Array (Option Rat)) (hy : y.size = n) (hy' : y'.size = n)
    (hld : ld.length = lw.length) (hcd : cd.length = cw.length) (hld' : ld'.length = lw.length)
    (hcd' : cd'.length = cw.length) (h : ∀ i, (y.getD i none).isSome = (y'.getD i none).isSome) :
    (filterData lg ex n lam lw cw ld cd y).isSome = (filterData lg' ex' n lam lw cw ld' cd' y').isSome := by
  rw [Bool.eq_iff_iff, QMatSolveBridge.filterData_isSome_iff lg ex n lam lw cw ld cd y hy hld hcd,
    QMatSolveBridge.filterData_isSome_iff lg' ex' n lam lw cw ld' cd' y' hy' hld' hcd',
    model_sysMatrix_pattern_only n lam lw cw y y' h]

/-- non-vacuity of `C14.model_log_trend_plus_gap_in_logs`: `lg z = z / 2`, `ex z = 2 z` satisfy `lg (ex z) = z` and are not
the identity; the model answers on a concrete instance with a level and a change constraint (the system matrix is the one of
`C14.filterData_example`) -/
example : (∀ z : Rat, (fun z => z / 2) ((fun z => 2 * z) z) = z) ∧
    (filterData (fun z => z / 2) (fun z => 2 * z) 4 1 [3] [1] [7] [2] #[some 0, some 1, none, some 9]).isSome = true := by
  refine ⟨fun z => by ring, ?_⟩
  rw [filterData_isSome_congr _ _ id id 4 1 [3] [1] [7] [2] [7] [2] _ #[some 0, some 1, none, some 9] rfl rfl rfl rfl rfl rfl
    (fun _ => rfl)]
  have := congrArg Option.isSome C14.filterData_example
  rwa [Option.isSome_map] at this

/-- **`dataHpf` answers** (the function the driver runs against irispie): for `λ > 0`, two observations in every variant
and independent constraints — as `setup` prepares them from the request — every variant is filtered successfully, and by
`BridgeC14.dataHpf_trend_is_the_minimiser` every returned (unclipped) trend is the unique constrained minimiser.  All other
side conditions are derived from `setup` (`BridgeC14.setup_side_conditions`). -/
theorem dataHpf_answers (r : Request) (hlam : 0 < r.lam)
    (hobs : ∀ col ∈ r.dcols, ∃ s t : Fin (setup r).n, s ≠ t ∧
      obsOf (setup r).n ((Ser.mk r.dstart col).fromUntil (setup r).lo (setup r).hi) s = true ∧
      obsOf (setup r).n ((Ser.mk r.dstart col).fromUntil (setup r).lo (setup r).hi) t = true)
    (hind : Independent (setup r).n (setup r).lw (setup r).cw
      (BridgeC14.setup_side_conditions r).2.2.1 (BridgeC14.setup_side_conditions r).2.2.2.1) :
    (dataHpf id id r).isSome = true := by
  obtain ⟨h1, h2, h3, h4, h5, h6⟩ := BridgeC14.setup_side_conditions r
  rw [C14.model_span_only_clips id id r, Option.isSome_map]
  refine mapM_isSome fun col hcol => ?_
  obtain ⟨s, t, hst, hs, ht⟩ := hobs col hcol
  exact (filterData_isSome_iff_independent id id (setup r).n r.lam hlam (setup r).lw (setup r).cw (setup r).ld (setup r).cd
    _ (h6 col) h1 h2 h3 h4 h5 s t hst hs ht).2 hind

/-- a backward span with step `-3` that reaches beyond the data on both sides: the run is dated from the smallest requested
period and has one value per period up to the largest (`dataHpf_output_length`, `dataHpf_trend_length`); that the filter
answers on the widened span is `dataHpf_answers` -/
example : (dataHpfReq id id ⟨1, 0, 4, [#[some 0, some 1, none, some 9]], some ⟨3, #[some 7]⟩, some ⟨1, #[some 2]⟩, none⟩
    (SpanReq.range (some 5) (some (-1)) (-3))).map (·.map (fun R => (R.start, R.trend.map Array.size)))
      = some (some (-1, [7])) := by
  -- the request is kept opaque (`r`), so that the general theorems apply without unfolding it; it is put back
  -- (`subst hr`) only inside the finite side conditions
  generalize hr : (⟨1, 0, 4, [#[some 0, some 1, none, some 9]], some ⟨3, #[some 7]⟩, some ⟨1, #[some 2]⟩, none⟩ : Request) = r
  have hh : (SpanReq.range (some 5) (some (-1)) (-3)).hull r.dstart (r.dstart + r.dlen - 1) = some (-1, 5) := by
    subst hr; decide +kernel
  obtain ⟨res, hres⟩ := Option.isSome_iff_exists.1 (dataHpf_answers { r with span := some (-1, 5) } (by subst hr; exact one_pos)
    (by subst hr; decide +kernel) (independent_of_le_one (by subst hr; decide +kernel) (by subst hr; decide +kernel)))
  obtain ⟨h1, h2, _⟩ := C14Span.dataHpf_output_length id id r (-1) 5 (by decide) res hres
  have h3 : res.trend.length = 1 := (C14Span.dataHpf_trend_length id id _ res hres).trans (by subst hr; rfl)
  have h4 : res.trend.map Array.size = List.replicate 1 7 :=
    List.eq_replicate_iff.2 ⟨by rw [List.length_map, h3], fun b hb => by
      obtain ⟨v, hv, rfl⟩ := List.mem_map.1 hb
      exact h2 v hv⟩
  unfold dataHpfReq
  rw [hh, Option.map_some, hres, Option.map_some, Option.map_some, h1, h4]
  rfl

example : (((HPObject.init 4 1 [3] [1]).run id id [7] [2] [#[some 0, some 1, none, some 9], #[some 1, none, some 2, some 3]]).2.map
    Option.isSome) = [true, true] := by
  -- the first variant is the instance of `C14.filterData_example`; the second has two observations and the same constraints
  have hA : (filterData id id 4 1 [3] [1] [7] [2] #[some 0, some 1, none, some 9]).isSome = true := by
    have := congrArg Option.isSome C14.filterData_example
    rwa [Option.isSome_map] at this
  have hB : (filterData id id 4 1 [3] [1] [7] [2] #[some 1, none, some 2, some 3]).isSome = true :=
    (filterData_isSome_iff_independent id id 4 1 one_pos [3] [1] [7] [2] _ rfl rfl rfl (by decide) (by decide) (by decide)
      0 2 (by decide) rfl rfl).2 (independent_of_le_one (by decide) (by decide))
  simp only [(C14Span.run_is_map id id [7] [2] _ _).2, List.map_cons, List.map_nil, C14Span.step_output, hA, hB]

/-- dependent constraints (levels at periods 1 and 2 plus the change at period 2) are refused: `err:singular` -/
example : filterData id id 4 1 [1, 2] [2] [5, 8] [3] #[some 0, some 1, none, some 9] = none := by
  rw [← Option.not_isSome_iff_eq_none, filterData_isSome_iff_independent id id 4 1 one_pos [1, 2] [2] [5, 8] [3] _ rfl rfl rfl
    (by decide) (by decide) (by decide) 0 1 (by decide) rfl rfl]
  -- level 1 – change 2 – level 2 is a cycle: the only period between the two levels carries a change constraint
  rintro ⟨_, _, h⟩
  obtain ⟨j, h1, h2, h3⟩ := h ⟨0, by decide⟩ ⟨1, by decide⟩ (by decide)
  change 1 < j at h1
  change j ≤ 2 at h2
  exact h3 ⟨0, by decide⟩ (show 2 = j by omega)

/-! ## the rejection branch of the span resolution -/

/-- **the span resolution rejects exactly the empty selection and the zero step** (the code raises there) -/
theorem dataHpfReq_none_iff (lg ex : Rat → Rat) (r : Request) (s : SpanReq) :
    dataHpfReq lg ex r s = none ↔
      (s.elems r.dstart (r.dstart + r.dlen - 1) = none ∨ s.elems r.dstart (r.dstart + r.dlen - 1) = some []) := by
  unfold dataHpfReq SpanReq.hull
  cases he : s.elems r.dstart (r.dstart + r.dlen - 1) with
  | none => simp
  | some l =>
    cases l with
    | nil => simp [hullOf]
    | cons a l => simp [hullOf]

theorem elems_none_iff (dlo dhi : Int) (s : SpanReq) :
    s.elems dlo dhi = none ↔ ∃ a b, s = SpanReq.range a b 0 := by
  cases s with
  | dots => simp [SpanReq.elems]
  | periods l => simp [SpanReq.elems]
  | range a b step =>
    by_cases h : step = 0
    · subst h; simp [SpanReq.elems]
    · simp [SpanReq.elems, h]

example : dataHpfReq id id ⟨1, 0, 4, [#[some 0, some 1, none, some 9]], none, none, none⟩ (SpanReq.periods []) = none := by
  decide +kernel
example : dataHpfReq id id ⟨1, 0, 4, [#[some 0, some 1, none, some 9]], none, none, none⟩ (SpanReq.range (some 0) (some 3) 0) = none := by
  decide +kernel

/-! ## rows of the bordered right-hand side; the logarithm is applied exactly once to each of them -/

/-- **data block**: row `t` holds `lg y_t` (zero at a missing observation) -/
theorem rhs_data_row (lg : Rat → Rat) (y : Array (Option Rat)) (ld cd : List Rat) (t : Nat) (ht : t < y.size) :
    (rhs lg y ld cd).getD t 0 = (match y.getD t none with | some v => lg v | none => 0) :=
  rhs_get_data lg y ld cd t ht

/-- **level block**: row `n + i` holds (the logarithm of) level value `i` -/
theorem rhs_level_row (lg : Rat → Rat) (y : Array (Option Rat)) (ld cd : List Rat) (i : Nat) (hi : i < ld.length) :
    (rhs lg y ld cd).getD (y.size + i) 0 = lg (ld.getD i 0) :=
  rhs_get_level lg y ld cd i hi

/-- **change block**: row `n + #levels + j` holds (the logarithm of) change value `j` — after, not over, the level values -/
theorem rhs_change_row (lg : Rat → Rat) (y : Array (Option Rat)) (ld cd : List Rat) (j : Nat) (hj : j < cd.length) :
    (rhs lg y ld cd).getD (y.size + ld.length + j) 0 = lg (cd.getD j 0) :=
  rhs_get_change lg y ld cd j hj

/-- the right-hand side has one row per period and per constraint, nothing else -/
theorem rhs_rows (lg : Rat → Rat) (y : Array (Option Rat)) (ld cd : List Rat) :
    (rhs lg y ld cd).size = y.size + ld.length + cd.length := rhs_size lg y ld cd

/-- **the constraint values are the same for every variant and are logged inside each variant's own right-hand side**: the
object's variant loop passes the *unlogged* `ld`, `cd` to every step, and output `k` is the filter of variant `k` with
exactly these values (so the logarithm reaches data, levels and changes once per variant — not once per call, not twice). -/
theorem run_constraints_per_variant (lg ex : Rat → Rat) (n : Nat) (lam : Rat) (lw cw : List Nat) (ld cd : List Rat)
    (ys : List (Array (Option Rat))) :
    ((HPObject.init n lam lw cw).run lg ex ld cd ys).2 = ys.map (filterData lg ex n lam lw cw ld cd) := by
  simp only [(C14Span.run_is_map lg ex ld cd _ ys).2, C14Span.step_output]

example : rhs (fun z => z / 2) #[some 4, none, some 6] [10, 12] [2] = #[2, 0, 3, 5, 6, 1] := by decide +kernel

/-! ## lonf: the certificate over variants is a map -/

/-- certificates of all variants of a lonf call -/
def l1CertificateAll (order : Nat) (lam : Rat) (vs : List (Array (Option Rat) × QVec × Array (Option Rat))) :
    List (Option L1Cert) :=
  vs.map (fun v => l1Certificate order lam v.1 v.2.1 v.2.2)

/-- **variant locality of the lonf certificate**: certificate `k` is a function of variant `k`'s data, trend and gap only -/
theorem l1CertificateAll_local (order : Nat) (lam : Rat) (vs : List (Array (Option Rat) × QVec × Array (Option Rat))) (k : Nat) :
    (l1CertificateAll order lam vs)[k]? = (vs[k]?).map (fun v => l1Certificate order lam v.1 v.2.1 v.2.2) := by
  unfold l1CertificateAll; rw [List.getElem?_map]

end IrisVerif.C14Compose
