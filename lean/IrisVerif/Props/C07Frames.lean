/-
C07, the plan object and the loops around the conditional simulation (`IrisVerif.Model.PlanFrames`; no Mathlib matrices, and of
this file `Props/C07.lean` uses `write_set` only): the expansion memo as a state machine, the loop over frames on an
immutable input (each frame reads the original input, transformed once; composition of per-frame statements into the whole-span
statement), the forms in which plan dates are handed over, the executable inverse `QMat.inverse` used by the model's `predict`,
method spellings, the variant loop and swaps with several pairs.
-/
import Mathlib.Data.List.Range
import IrisVerif.Model.PlanFrames
import IrisVerif.Lemmas.Machines

namespace IrisVerif.C07Frames

open IrisVerif IrisVerif.Plans

section Memo

variable {α : Type}

/-- the memo's invariant: entry `k` is `f k` (for the solution object: `memo[k] = -X J^k Ru`); it is `Machine.IsPrefix f memo` -/
def MemoOk (f : Nat → α) (memo : List α) : Prop := memo = (List.range memo.length).map f

theorem memoOk_nil (f : Nat → α) : MemoOk f [] := rfl

theorem memoExpand_eq (f : Nat → α) (p0 : α) (memo : List α) (fwd : Nat) :
    memoExpand f p0 memo fwd = (Machine.extend f memo fwd, p0 :: (Machine.extend f memo fwd).take fwd) := rfl

theorem memoExpand_ok (f : Nat → α) (p0 : α) (memo : List α) (fwd : Nat) (h : MemoOk f memo) :
    MemoOk f (memoExpand f p0 memo fwd).1 := by
  rw [memoExpand_eq]
  exact Machine.extend_isPrefix h fwd

/-- every call returns the stateless formula `[R0, f 0, …, f (forward-1)]`, whatever was asked before -/
theorem memoExpand_out (f : Nat → α) (p0 : α) (memo : List α) (fwd : Nat) (h : MemoOk f memo) :
    (memoExpand f p0 memo fwd).2 = p0 :: (List.range fwd).map f := by
  rw [memoExpand_eq, Machine.extend_take h fwd]

/-- refinement over call histories: on one solution object, the results of any sequence of calls are those of
the pure function of the parameters -/
theorem memoRun_pure (f : Nat → α) (p0 : α) (fwds : List Nat) :
    ∀ memo, MemoOk f memo → memoRun f p0 memo fwds = fwds.map (fun fwd => p0 :: (List.range fwd).map f) :=
  Machine.IsRun.eq_map (stepA := memoExpand f p0) ⟨fun _ => rfl, fun _ _ _ => rfl⟩ (MemoOk f) _
    (fun memo fwd h => ⟨memoExpand_out f p0 memo fwd h, memoExpand_ok f p0 memo fwd h⟩) fwds

/-- for the solution object: any history of `expand_square_solution(forward)` returns `[R_0, …, R_forward]` of
`_get_solution_expansion` (`R_0 = P`, `R_k = -X J^(k-1) Ru`) -/
theorem expandHistory_eq (s : Sol) (fwds : List Nat) :
    s.expandHistory fwds = fwds.map (fun fwd => (List.range (fwd + 1)).map s.R) := by
  unfold Sol.expandHistory
  rw [memoRun_pure _ _ _ [] (memoOk_nil _)]
  apply List.map_congr_left
  intro fwd _
  rw [List.range_succ_eq_map, List.map_cons, List.map_map]
  -- `s.R 0 = s.P` and `s.R (k + 1) = s.memoEntry k`, both by definition
  rfl

example : memoRun (fun k => 10 * k) 7 [] [2, 0, 3, 1] = [[7, 0, 10], [7], [7, 0, 10, 20], [7, 0]] := by decide +kernel

end Memo

section Frames

variable {α β : Type}

theorem writeBack_inside {main out : Nat → α} {fr : Frame} {t : Nat} (h : fr.contains t = true) :
    writeBack main out fr t = out t := if_pos h

theorem writeBack_outside {main out : Nat → α} {fr : Frame} {t : Nat} (h : fr.contains t = false) :
    writeBack main out fr t = main t := if_neg (Bool.eq_false_iff.1 h)

theorem simulateFrames_untouched (run : Frame → β → (Nat → α) → (Nat → α)) (input : β) (frames : List Frame) (t : Nat)
    (h : ∀ fr ∈ frames, fr.contains t = false) (main : Nat → α) : simulateFrames run input frames main t = main t :=
  List.foldlRecOn (motive := fun m : Nat → α => m t = main t) frames _ rfl fun m hm fr hfr => by
    rw [writeBack_outside (h fr hfr), hm]

/-- locality of the frame loop: the final value of column `t` is the one computed by the (last) frame containing `t`, run on
the ORIGINAL input and on the main data as left by the frames before it -/
theorem simulateFrames_at (run : Frame → β → (Nat → α) → (Nat → α)) (input : β) (pre post : List Frame) (fr : Frame) (t : Nat)
    (main : Nat → α) (hin : fr.contains t = true) (hpost : ∀ f ∈ post, f.contains t = false) :
    simulateFrames run input (pre ++ fr :: post) main t
      = run fr input (simulateFrames run input pre main) t := by
  rw [simulateFrames, List.foldl_append, List.foldl_cons]
  exact (simulateFrames_untouched run input post t hpost _).trans (writeBack_inside hin)

/-- composition of the per-frame statements into the whole-span statement.  `Good t v` is any per-column statement
("the exogenized variables of column t equal their inputs", "column t satisfies the transition identity", …).  If every frame,
on whatever main data it is run, delivers `Good` in the columns of its own slice, and the slices are pairwise disjoint (the frames
tile the span), then the final data are `Good` in every column covered by a frame. -/
theorem whole_span_of_frames (run : Frame → β → (Nat → α) → (Nat → α)) (input : β) (frames : List Frame) (main : Nat → α)
    (Good : Nat → α → Prop)
    (hframe : ∀ fr ∈ frames, ∀ (m : Nat → α) (t : Nat), fr.contains t = true → Good t (run fr input m t))
    (hdisj : frames.Pairwise (fun f g => ∀ t, ¬ (f.contains t = true ∧ g.contains t = true)))
    (fr : Frame) (hfr : fr ∈ frames) (t : Nat) (ht : fr.contains t = true) :
    Good t (simulateFrames run input frames main t) := by
  obtain ⟨pre, post, rfl⟩ := List.append_of_mem hfr
  have hlater : ∀ f ∈ post, ∀ t, ¬ (fr.contains t = true ∧ f.contains t = true) :=
    (List.pairwise_cons.1 (List.pairwise_append.1 hdisj).2.1).1
  have hpost : ∀ f ∈ post, f.contains t = false := fun f hf => Bool.eq_false_iff.2 fun hc => hlater f hf t ⟨ht, hc⟩
  rw [simulateFrames_at run input pre post fr t main ht hpost]
  exact hframe fr hfr _ t ht

/-- each frame reads the original input: if no frame step modifies the shared input, the stateful loop is the loop on an
immutable input (induction over frames) -/
theorem simulateFramesSt_pure (step : Frame → β → (Nat → α) → β × (Nat → α))
    (hpure : ∀ fr inp m, (step fr inp m).1 = inp) (frames : List Frame) :
    ∀ (input : β) (main : Nat → α),
      simulateFramesSt step input frames main
        = (input, simulateFrames (fun fr inp m => (step fr inp m).2) input frames main) := by
  induction frames with
  | nil => intro _ _; rfl
  | cons fr rest ih =>
    intro input main
    simp only [simulateFramesSt, simulateFrames, List.foldl_cons]
    rw [hpure, ih]
    rfl

/-- `_simulate_conditional` with the logarithm taken on a copy of the input: in every frame, whatever came before, the conditioning step receives
the original input logarithmized exactly once -/
theorem stepCopy_frames (lg : α → α) (isLog : Nat → Bool)
    (cond : Frame → (Nat → Nat → α) → (Nat → α) → (Nat → α)) (frames : List Frame) (input : Nat → Nat → α) (main : Nat → α) :
    simulateFramesSt (stepCopy lg isLog cond) input frames main
      = (input, simulateFrames (fun fr inp m => cond fr (logRows lg isLog inp) m) input frames main) :=
  simulateFramesSt_pure _ (fun _ _ _ => rfl) frames input main

/-- the in-place variant hands `lg (lg x)` to the second frame: with two frames the second one is run on the input
logarithmized twice -/
theorem stepInPlace_second_frame (lg : α → α) (isLog : Nat → Bool)
    (cond : Frame → (Nat → Nat → α) → (Nat → α) → (Nat → α)) (f1 f2 : Frame) (input : Nat → Nat → α) (main : Nat → α) :
    (simulateFramesSt (stepInPlace lg isLog cond) input [f1, f2] main).2
      = writeBack (writeBack main (cond f1 (logRows lg isLog input) main) f1)
          (cond f2 (logRows lg isLog (logRows lg isLog input))
            (writeBack main (cond f1 (logRows lg isLog input) main) f1)) f2 := rfl

/-- non-vacuity: two tiling frames, the frame result records which input value the frame saw; the loop on a copy shows `lg x`
in both frames, the in-place loop `lg (lg x)` in the second -/
example :
    let cond : Frame → (Nat → Nat → Nat) → (Nat → Nat) → (Nat → Nat) := fun _ inp _ t => inp 0 t
    let frames := [(⟨0, 1⟩ : Frame), ⟨2, 3⟩]
    ((List.range 4).map (simulateFramesSt (stepCopy (· + 100) (fun _ => true) cond) (fun _ t => t) frames (fun _ => 0)).2
      = [100, 101, 102, 103]) ∧
    ((List.range 4).map (simulateFramesSt (stepInPlace (· + 100) (fun _ => true) cond) (fun _ t => t) frames (fun _ => 0)).2
      = [100, 101, 202, 203]) := by decide +kernel

end Frames

section Dates

/-- a span counts the multiples of its step `d > 0` up to `c` as `i * d` for `i < c / d + 1` -/
theorem mem_multiples (c d x : Int) (hd : 0 < d) :
    (∃ i : Nat, i < (c / d + 1).toNat ∧ (i : Int) * d = x) ↔ 0 ≤ x ∧ x ≤ c ∧ x % d = 0 := by
  constructor
  · rintro ⟨i, hi, rfl⟩
    exact ⟨Int.mul_nonneg (Int.natCast_nonneg i) (Int.le_of_lt hd),
      (Int.le_ediv_iff_mul_le hd).mp (Int.lt_add_one_iff.1 (Int.lt_toNat.1 hi)), Int.mul_emod_left _ _⟩
  · rintro ⟨h0, h1, h2⟩
    obtain ⟨q, rfl⟩ := Int.dvd_of_emod_eq_zero h2
    obtain ⟨i, rfl⟩ := Int.eq_ofNat_of_zero_le (Int.nonneg_of_mul_nonneg_right h0 hd)
    have hq : (i : Int) ≤ c / d := (Int.le_ediv_iff_mul_le hd).mpr (by rwa [Int.mul_comm])
    exact ⟨i, Int.lt_toNat.2 (Int.lt_add_one_iff.2 hq), Int.mul_comm _ _⟩

theorem mem_spanOffsets_pos (a b step t : Int) (hs : 0 < step) :
    t ∈ spanOffsets a b step ↔ a ≤ t ∧ t ≤ b ∧ (t - a) % step = 0 := by
  have hi : ∀ i : Nat, a + (i : Int) * step = t ↔ (i : Int) * step = t - a := fun i => by omega
  rw [spanOffsets, if_pos hs]
  simp only [List.mem_map, List.mem_range, hi]
  rw [mem_multiples (b - a) step (t - a) hs, Int.sub_nonneg, Int.sub_le_sub_right_iff]

theorem mem_spanOffsets_neg (a b d t : Int) (hd : 0 < d) :
    t ∈ spanOffsets a b (-d) ↔ b ≤ t ∧ t ≤ a ∧ (a - t) % d = 0 := by
  have hi : ∀ i : Nat, a + (i : Int) * -d = t ↔ (i : Int) * d = a - t := fun i => by
    rw [Int.mul_neg]; omega
  rw [spanOffsets, if_neg (by omega), if_pos (by omega), Int.neg_neg]
  simp only [List.mem_map, List.mem_range, hi]
  rw [mem_multiples (a - b) d (a - t) hd, Int.sub_nonneg, Int.sub_le_sub_left_iff, and_left_comm]

/-- without `hgrid` the two differ: the backward span from `b` steps on `b - i d`, the forward one from `a` on `a + i d` -/
theorem spanOffsets_backward {a b d : Int} (hd : 0 < d) (hgrid : (b - a) % d = 0) (t : Int) :
    t ∈ spanOffsets b a (-d) ↔ t ∈ spanOffsets a b d := by
  -- `(b − t) + (t − a) = b − a` is a multiple of `d`
  have h : (b - t) % d = 0 ↔ (t - a) % d = 0 := by
    rw [← Int.dvd_iff_emod_eq_zero, ← Int.dvd_iff_emod_eq_zero]
    exact Int.dvd_iff_dvd_of_dvd_add (by rw [show b - t + (t - a) = b - a by omega]; exact Int.dvd_of_emod_eq_zero hgrid)
  rw [mem_spanOffsets_neg b a d t hd, mem_spanOffsets_pos a b d t hd, h]

theorem write_set (p : Plan) (k : Kind) (periods periods' : List Int) (names : List Nat) (st : Bool)
    (h : ∀ t, t ∈ periods ↔ t ∈ periods') :
    p.write k periods names st = p.write k periods' names st := by
  -- `write` reads the period list only through `List.any` (`contains` of the mapped list is one)
  have hany : ∀ f : Int → Bool, periods.any f = periods'.any f := fun f => by
    rw [Bool.eq_iff_iff, List.any_eq_true, List.any_eq_true]
    exact exists_congr fun t => and_congr_left fun _ => h t
  unfold Plan.write
  simp only [List.contains_eq_any_beq, List.any_map, hany]

/-- a stepped span registers exactly the dates on its grid (and nothing in between): handing over `Span(a, b, d)` is the same
plan call as handing over any list whose elements are the `t` with `a ≤ t ≤ b`, `d ∣ t - a` -/
theorem writeDates_span_forward (p : Plan) (k : Kind) (e1 e2 : EndPt) (d : Int) (hd : 0 < d) (ts : List Int) (names : List Nat)
    (st : Bool)
    (hts : ∀ t, t ∈ ts ↔ e1.resolve p.numPeriods ≤ t ∧ t ≤ e2.resolve p.numPeriods ∧ (t - e1.resolve p.numPeriods) % d = 0) :
    p.writeDates k (.span e1 e2 d) names st = p.writeDates k (.periods ts) names st := by
  unfold Plan.writeDates periodIndexes
  apply write_set
  intro t
  rw [mem_spanOffsets_pos _ _ _ _ hd, hts]

/-- a backward span over a grid is the same plan call as the forward one (it does not register nothing, and not more) -/
theorem writeDates_span_backward (p : Plan) (k : Kind) (e1 e2 : EndPt) (d : Int) (hd : 0 < d)
    (hgrid : (e2.resolve p.numPeriods - e1.resolve p.numPeriods) % d = 0) (names : List Nat) (st : Bool) :
    p.writeDates k (.span e2 e1 (-d)) names st = p.writeDates k (.span e1 e2 d) names st := by
  unfold Plan.writeDates periodIndexes
  apply write_set
  intro t
  exact spanOffsets_backward hd hgrid t

/-- a context-dependent span is the resolved one: `ir.start + a >> ir.end + o` on a plan of `np` periods is `a >> np - 1 + o` -/
theorem periodIndexes_contextual (np : Nat) (a o step : Int) :
    periodIndexes np (.span (.fromStart a) (.fromEnd o) step) = periodIndexes np (.span (.abs a) (.abs ((np : Int) - 1 + o)) step) := rfl

example : spanOffsets 1 5 2 = [1, 3, 5] ∧ spanOffsets 5 1 (-2) = [5, 3, 1] ∧ spanOffsets 1 6 2 = [1, 3, 5] ∧
    spanOffsets 4 1 (-1) = [4, 3, 2, 1] ∧ spanOffsets 3 1 1 = [] ∧ spanOffsets 1 3 0 = [] := by decide +kernel

example : periodIndexes 6 (.span (.fromStart 1) (.fromEnd (-1)) 2) = [1, 3] ∧
    periodIndexes 6 (.span (.fromEnd 0) (.fromStart 2) (-3)) = [5, 2] := by decide +kernel

example : ((Plan.empty 6 1 1).writeDates .exoAnt (.span (.abs 1) (.abs 5) 2) [0] true).toOption.map
      (fun p => p.boolArray .exoAnt [0, 1, 2, 3, 4, 5]) = some [[false, true, false, true, false, true]] := by decide +kernel

end Dates

section Inverse

/-- `QMat.inverse` (= `solveChecked` against the identity) only ever returns a matrix that it has verified exactly: so whenever the
model's `predict` gets past a period (no `err:singular`), the `Fi` it caches satisfies `F Fi = 1` in exact arithmetic -- the
executable form of hypothesis `hF` of `IrisVerif.C07.conditional_simulation_identities` -/
theorem inverse_some_checked (a x : QMat) (h : QMat.inverse a = some x) :
    QMat.eqv (a * x) (QMat.identity a.rows) = true := by
  unfold QMat.inverse QMat.solveChecked at h
  split at h
  · split at h
    · rename_i hc
      cases h
      exact hc
    · cases h
  · cases h

example : (QMat.inverse (QMat.ofRows [[2, 1], [1, 1]])).isSome = true := by decide +kernel

end Inverse

section Spellings

/-- the documented aliases resolve to the module of the full name, and leaving the keyword out is `first_order` -/
theorem resolveMethod_aliases :
    resolveMethod (some "stacked") = resolveMethod (some "stacked_time") ∧
    resolveMethod (some "period") = resolveMethod (some "period_by_period") ∧
    resolveMethod none = resolveMethod (some "first_order") := by decide +kernel

/-- API equivalence: a simulation reads the spelling only through its resolution, so two spellings of one method give the same
result, whatever the simulators do -/
theorem simulateSpelled_equiv {α : Type} (run : SimMethod → α) (s s' : Option String)
    (h : resolveMethod s = resolveMethod s') : simulateSpelled run s = simulateSpelled run s' := by
  unfold simulateSpelled; rw [h]

theorem simulateSpelled_stacked {α : Type} (run : SimMethod → α) :
    simulateSpelled run (some "stacked") = simulateSpelled run (some "stacked_time") :=
  simulateSpelled_equiv run _ _ resolveMethod_aliases.1

/-- the resolution is onto the three modules and each resolved name is itself a spelling of its module -/
theorem resolveMethod_name (m : SimMethod) : resolveMethod (some m.name) = some m := by cases m <;> decide +kernel

example : resolveMethod (some "Stacked") = none ∧ (resolveMethod (some "stacked")).map SimMethod.name = some "stacked_time" := by decide +kernel

end Spellings

section Variants

variable {β γ α : Type}

theorem broadcastVariants_get {n : Nat} {datas : List γ} {k : Nat} (hk : k < n) (hne : datas ≠ []) :
    (broadcastVariants n datas)[k]? = datas[min k (datas.length - 1)]? := by
  have hlt : ∀ j, min j (datas.length - 1) < datas.length := fun j =>
    Nat.lt_of_le_of_lt (Nat.min_le_right _ _) (Nat.sub_one_lt (List.length_pos_iff.mpr hne).ne')
  have hmap : broadcastVariants n datas = (List.range n).map fun j => datas[min j (datas.length - 1)]'(hlt j) := by
    unfold broadcastVariants
    rw [← List.filterMap_eq_map]
    exact List.filterMap_congr fun j _ => List.getElem?_eq_getElem (hlt j)
  rw [hmap, List.getElem?_map, List.getElem?_range hk, Option.map_some, List.getElem?_eq_getElem (hlt k)]

/-- variant locality: output variant `k` is the simulation of MODEL variant `k` on DATA variant `min k last` -- its own targets, its
own shocks, its own initial condition -- and of nothing else -/
theorem simulateVariants_get (run : β → γ → α) (models : List β) (datas : List γ) (k : Nat) (m : β) (d : γ)
    (hm : models[k]? = some m) (hd : datas[min k (datas.length - 1)]? = some d) :
    (simulateVariants run models datas)[k]? = some (run m d) := by
  have hk : k < models.length := (List.getElem?_eq_some_iff.mp hm).1
  have hne : datas ≠ [] := by
    rintro rfl
    cases hd
  unfold simulateVariants
  rw [List.getElem?_zipWith, hm, broadcastVariants_get hk hne, hd]

example : simulateVariants (fun (m d : Nat) => 10 * m + d) [1, 2, 3] [7, 8] = [17, 28, 38] := by decide +kernel

end Variants

section Swaps

theorem swapPairs_nil (p : Plan) (exoK endoK : Kind) (d : DateArg) (st : Bool) :
    p.swapPairs exoK endoK d [] st = .ok p := rfl

/-- the intended plan of one call with a list of pairs is the union of the pairs: the first pair is swapped (its variable exogenized
AND its shock endogenized), then the remaining pairs are swapped on the result -/
theorem swapPairs_cons (p : Plan) (exoK endoK : Kind) (d : DateArg) (pr : Nat × Nat) (rest : List (Nat × Nat)) (st : Bool) :
    p.swapPairs exoK endoK d (pr :: rest) st
      = (p.swapPairs exoK endoK d [pr] st).bind (fun q => q.swapPairs exoK endoK d rest st) := by
  simp only [Plan.swapPairs, List.foldlM_cons, List.foldlM_nil, bind_pure]
  rfl

/-- two pairs in one call: both shocks are endogenized, not only the first -/
example : ((Plan.empty 3 2 2).swapPairs .exoAnt .endoAnt (.periods [1]) [(0, 0), (1, 1)] true).toOption.map
      (fun p => (p.boolArray .exoAnt [0, 1, 2], p.boolArray .endoAnt [0, 1, 2]))
    = some ([[false, true, false], [false, true, false]], [[false, true, false], [false, true, false]]) := by decide +kernel

end Swaps

end IrisVerif.C07Frames
