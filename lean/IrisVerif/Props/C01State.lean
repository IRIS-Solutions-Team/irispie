/-
Property C01, object state and loops: theorems about the generic executable definitions of
`Model/FirstOrder.lean` -- the expansion memo of `_get_solution_expansion` (`extendMemo` / `requestMemo` / `runRequests`: the list
cached on one `Solution` object; the plan frames of C07 and the Kalman object have models of their own callers' caches),
histories on one model object (assign / solve / observe with the deviation flag / copy), the variant loop of `solve` / `simulate`,
and what a split frame's simulation window must satisfy for `split = single`.  The last section is matrix-level: the unstable block
has only one bounded solution, used by `C01Final.uniqueness_qz`.
-/
import IrisVerif.Props.C01
import IrisVerif.Model.FirstOrder
import IrisVerif.Lemmas.Machines
import Mathlib.Algebra.Order.Archimedean.Basic

open Matrix

set_option linter.unusedSectionVars false

namespace IrisVerif.C01State

open IrisVerif.FirstOrder

section memo
variable {α : Type} (r0 : α) (gen : Nat → α)

/-- invariant of `existing_expansion`: entry `k` is `gen k` (`= -X J^k Ru`) for every `k < len(memo)` -/
def MemoInv (memo : List α) : Prop := memo = (List.range memo.length).map gen

theorem extendMemo_eq (memo : List α) (forward : Nat) : extendMemo gen memo forward = Machine.extend gen memo forward := by
  unfold extendMemo
  rw [Machine.foldl_append_eq, List.length_range]
  rfl

theorem requestMemo_inv (memo : List α) (h : MemoInv gen memo) (forward : Nat) :
    MemoInv gen (requestMemo r0 gen memo forward).1 := by
  show MemoInv gen (extendMemo gen memo forward)
  rw [extendMemo_eq]
  exact Machine.extend_isPrefix h forward

/-- **the answer does not depend on the memo**: `[R0, gen 0, …, gen (forward-1)]` -/
theorem requestMemo_out (memo : List α) (h : MemoInv gen memo) (forward : Nat) :
    (requestMemo r0 gen memo forward).2 = r0 :: (List.range forward).map gen := by
  show r0 :: (extendMemo gen memo forward).take forward = _
  rw [extendMemo_eq, Machine.extend_take h]

/-- **Any sequence of horizon requests on one object returns the same matrices as fresh computations** -/
theorem runRequests_fresh (fs : List Nat) (memo : List α) (h : MemoInv gen memo) :
    runRequests r0 gen memo fs = fs.map (fun f => r0 :: (List.range f).map gen) :=
  Machine.IsRun.eq_map (stepA := requestMemo r0 gen) ⟨fun _ => rfl, fun _ _ _ => rfl⟩ (MemoInv gen) _
    (fun memo f h => ⟨requestMemo_out r0 gen memo h f, requestMemo_inv r0 gen memo h f⟩) fs memo h

theorem memoInv_nil : MemoInv gen ([] : List α) := rfl

example : runRequests (0 : Nat) (fun k => k + 10) [] [3, 1, 5] = [[0, 10, 11, 12], [0, 10], [0, 10, 11, 12, 13, 14]] := by decide

end memo

section history
variable {π σ : Type} (solveF : π → σ) (devF : σ → σ)

/-- discipline of a history: no observation and no copy between an `assign` and the next `solve`; the flag says whether the stored
solution is that of the parameters in force (`false` after an `assign`, `true` after a `solve`) -/
def disciplined : Bool → List (ObjOp π) → Bool
  | _, [] => true
  | _, .assign _ :: ops => disciplined false ops
  | _, .solve :: ops => disciplined true ops
  | fr, .obs _ :: ops => fr && disciplined fr ops
  | fr, .copy :: ops => fr && disciplined fr ops
  | fr, .obsCopy _ _ :: ops => disciplined fr ops

/-- **Refinement to the stateless spec**: along every disciplined history every observation -- of the object or of any copy taken
earlier -- is `solveF` (then `devF` when in deviations) of the parameters in force for the observed object; nothing else of the
history matters (there is no memo to go stale). -/
theorem runObj_pure (ops : List (ObjOp π)) (fr : Bool) (s : ObjState π σ)
    (hd : disciplined fr ops = true) (hs : fr = true → s.solution = solveF s.params)
    (hc : ∀ c ∈ s.copies, c.2 = solveF c.1) :
    ∀ o ∈ runObj solveF devF s ops, o.2.2 = if o.2.1 then devF (solveF o.1) else solveF o.1 := by
  induction ops generalizing fr s with
  | nil => exact fun o ho => absurd ho List.not_mem_nil
  | cons op ops ih =>
    -- `disciplined`, `runObj` and `objStep` compute on the head `op`, so `hd` and the goal are read in their unfolded form
    cases op with
    | assign p => exact ih false { s with params := p } hd (fun h => absurd h Bool.false_ne_true) hc
    | solve => exact ih true { s with solution := solveF s.params } hd (fun _ => rfl) hc
    | obs d =>
      obtain ⟨hf, hd⟩ := Bool.and_eq_true_iff.mp hd
      intro o ho
      rcases List.mem_cons.mp ho with rfl | ho
      · show (if d then devF s.solution else s.solution) = if d then devF (solveF s.params) else solveF s.params
        rw [hs hf]
      · exact ih fr s hd hs hc o ho
    | copy =>
      obtain ⟨hf, hd⟩ := Bool.and_eq_true_iff.mp hd
      refine ih fr _ hd hs fun c hc' => ?_
      rcases List.mem_append.mp hc' with h | h
      · exact hc c h
      · rw [List.mem_singleton.mp h]
        exact hs hf
    | obsCopy k d =>
      simp only [runObj, objStep]
      cases hk : s.copies[k]? with
      | none => exact ih fr s hd hs hc
      | some c =>
        intro o ho
        rcases List.mem_cons.mp ho with rfl | ho
        · show (if d then devF c.2 else c.2) = if d then devF (solveF c.1) else solveF c.1
          rw [hc c (List.mem_of_getElem? hk)]
        · exact ih fr s hd hs hc o ho

example : runObj (fun (p : Nat) => (p, false)) (fun (s : Nat × Bool) => (s.1, true)) ⟨0, (0, false), []⟩
    [.obs true, .copy, .assign 1, .solve, .obs true, .obs false, .obsCopy 0 true]
    = [(0, true, (0, true)), (1, true, (1, true)), (1, false, (1, false)), (0, true, (0, true))] := by decide

end history

section variants

theorem variantPlan_eq_some {n M D : Nat} {plan : List (Nat × Nat)} (h : variantPlan n M D = some plan) :
    plan = (List.range n).map fun k => (min k (M - 1), if D = 1 then 0 else k) := by
  unfold variantPlan at h
  -- `split_ifs` closes the two branches that return `none` against `h`; `D = 1` and `D = n` are left
  split_ifs at h with h0 h1 h2
  · rw [← Option.some.inj h]
    simp only [h1, if_true]
  · rw [← Option.some.inj h]
    simp only [h1, if_false]

/-- **Variant locality of the plan**: output `k` uses model variant `min k (M-1)` and data variant `0` (one data variant) or `k` -/
theorem variantPlan_get {n M D : Nat} {plan : List (Nat × Nat)} (h : variantPlan n M D = some plan) {k : Nat} (hk : k < n) :
    plan[k]? = some (min k (M - 1), if D = 1 then 0 else k) := by
  rw [variantPlan_eq_some h, List.getElem?_map, List.getElem?_range hk, Option.map_some]

theorem variantPlan_length (n M D : Nat) (plan : List (Nat × Nat)) (h : variantPlan n M D = some plan) : plan.length = n := by
  rw [variantPlan_eq_some h, List.length_map, List.length_range]

/-- as many model variants as outputs: output `k` uses model variant `k` -- never variant `0` for `k > 0` -/
theorem variantPlan_own_variant (n D : Nat) (plan : List (Nat × Nat)) (h : variantPlan n n D = some plan) (k : Nat) (hk : k < n) :
    (plan[k]?).map Prod.fst = some k := by
  rw [variantPlan_get h hk, Option.map_some, Nat.min_eq_left (Nat.le_sub_one_of_lt hk)]

theorem variantPlan_rejects (n M D : Nat) (h1 : D ≠ 1) (h2 : D ≠ n) : variantPlan n M D = none := by
  unfold variantPlan
  simp [h1, h2]

example : variantPlan 3 3 1 = some [(0, 0), (1, 0), (2, 0)] := by decide
example : variantPlan 3 3 3 = some [(0, 0), (1, 1), (2, 2)] := by decide
example : variantPlan 2 1 2 = some [(0, 0), (0, 1)] := by decide
example : variantPlan 3 3 2 = none := by decide
example : simulateAll (fun (m d : Nat) => 10 * m + d) [1, 2, 3] [7] 3 = some [17, 27, 37] := by decide

end variants

section frames
variable {nb nu nj : Type} [Fintype nb] [Fintype nu] [Fintype nj] [DecidableEq nj]
variable {K : Type} [CommRing K]
variable (P : Matrix nb nu K) (X : Matrix nb nj K) (J : Matrix nj nj K) (Ru : Matrix nj nu K)

/-- the impact of anticipated shocks does not depend on the horizon used, as long as no anticipated shock lies beyond it -/
theorem impact_horizon_le (H H' : ℕ) (hle : H ≤ H') (v : ℕ → nu → K) (hv : ∀ s, H < s → v s = 0) (s : ℕ) :
    C01.impact P X J Ru H' v s = C01.impact P X J Ru H v s := by
  refine (Finset.sum_subset (Finset.range_subset_range.mpr (by omega)) fun k _ hk => ?_).symm
  rw [Finset.mem_range] at hk
  rw [hv (s + k) (by omega), Matrix.mulVec_zero]

/-- what a frame sees: the anticipated shocks up to the end `E` of its own simulation window -/
def truncAfter (E : ℕ) (v : ℕ → nu → K) : ℕ → nu → K := fun s => if s ≤ E then v s else 0

/-- **What `create_frames` must guarantee for `split = single`**: if the simulation window of a frame ends at `E` and no anticipated
shock lies beyond `E` (true when every split frame runs to the END of the base span, `get_simulation_end = base_end`), the frame
computes the same anticipated impact as the single frame with any horizon `H ≥ E`; with `C01.split_frame_eq_single` the frame then
reproduces the single-frame path. -/
theorem frame_impact_eq_single (E H : ℕ) (hle : E ≤ H) (v : ℕ → nu → K) (hE : ∀ s, E < s → v s = 0) (s : ℕ) :
    C01.impact P X J Ru E (truncAfter E v) s = C01.impact P X J Ru H v s := by
  have ht : truncAfter E v = v := funext fun t => ite_eq_left_iff.mpr fun h => (hE t (not_le.mp h)).symm
  rw [ht, impact_horizon_le P X J Ru E H hle v hE]

end frames

/-- necessity: a window that ends before an anticipated shock loses it (`P = 1`, `X = 1`, `J = 1`, `Ru = -1`, shock in period 2,
window end 1): the frame's impact in period 1 is `0`, the single frame's is `R_1 v[2] = 1` -/
example :
    C01.impact (1 : Matrix (Fin 1) (Fin 1) ℚ) (1 : Matrix (Fin 1) (Fin 1) ℚ) (1 : Matrix (Fin 1) (Fin 1) ℚ)
        (-1 : Matrix (Fin 1) (Fin 1) ℚ) 1 (truncAfter 1 (fun s _ => if s = 2 then 1 else 0)) 1
      ≠ C01.impact (1 : Matrix (Fin 1) (Fin 1) ℚ) (1 : Matrix (Fin 1) (Fin 1) ℚ) (1 : Matrix (Fin 1) (Fin 1) ℚ)
        (-1 : Matrix (Fin 1) (Fin 1) ℚ) 2 (fun s _ => if s = 2 then 1 else 0) 1 := by
  decide +kernel

section unique
open IrisVerif.C01
variable {nj : Type} [Fintype nj] [DecidableEq nj]
variable {F : Type} [Field F] [LinearOrder F] [IsStrictOrderedRing F] [Archimedean F]

/-- a bounded solution of `e[t] = J e[t+1]` is zero when a power of `J` contracts: `e[t] = (J^m)^a e[t + m a]`, so
`‖e[t]‖∞ ≤ q^a Bd` for every `a` -/
theorem backward_zero_of_bounded (J : Matrix nj nj F) (m : ℕ) (q : F) (hq : RowSumLe (J ^ m) q) (hq1 : q < 1)
    (e : ℕ → nj → F) (he : ∀ t, e t = J *ᵥ e (t + 1)) (Bd : F) (hb : ∀ t, VecLe (e t) Bd) (t : ℕ) : e t = 0 := by
  have hiter : ∀ n t, e t = (J ^ n) *ᵥ e (t + n) := by
    intro n
    induction n with
    | zero => intro t; rw [pow_zero, Matrix.one_mulVec, add_zero]
    | succ n ih =>
      intro t
      rw [ih t, he (t + n), Matrix.mulVec_mulVec, ← pow_succ, add_assoc]
  funext i
  by_contra hne
  have hB : 0 < Bd + 1 := lt_of_le_of_lt ((hb t).nonneg i) (lt_add_one Bd)
  obtain ⟨a, ha⟩ := exists_pow_lt_of_lt_one (div_pos (abs_pos.mpr hne) hB) hq1
  have hle : |e t i| ≤ q ^ a * (Bd + 1) := by
    rw [hiter (m * a) t, pow_mul]
    exact pow_mulVec_bound_geom (J ^ m) q hq (e (t + m * a)) (Bd + 1) (fun j => (hb _ j).trans (lt_add_one Bd).le) a i
  exact absurd ((lt_div_iff₀ hB).mp ha) (not_lt.mpr hle)

theorem bounded_backward_zero (J : Matrix nj nj F) (m : ℕ) (q : F) (hq : RowSumLe (J ^ m) q) (hq0 : 0 ≤ q) (hq1 : q < 1)
    (e : ℕ → nj → F) (he : ∀ t, e t = J *ᵥ e (t + 1)) (Bd : F) (hb : ∀ t, VecLe (e t) Bd) (t : ℕ) : e t = 0 :=
  backward_zero_of_bounded J m q hq hq1 e he Bd hb t

theorem bounded_solution_unique (J : Matrix nj nj F) (c Ku : nj → F) (hKu : Ku = J *ᵥ Ku + c) (m : ℕ) (q : F)
    (hq : RowSumLe (J ^ m) q) (hq1 : q < 1)
    (un : ℕ → nj → F) (hun : ∀ t, un t = J *ᵥ un (t + 1) + c) (Bd : F) (hb : ∀ t, VecLe (un t) Bd) (t : ℕ) : un t = Ku := by
  obtain ⟨Bk, hBk⟩ : ∃ Bk, VecLe Ku Bk :=
    ⟨∑ i, |Ku i|, fun i => Finset.single_le_sum (f := fun i => |Ku i|) (fun _ _ => abs_nonneg _) (Finset.mem_univ i)⟩
  -- the difference to `Ku` is bounded and solves the homogeneous recursion
  have he : ∀ t, un t - Ku = J *ᵥ (un (t + 1) - Ku) := fun t => by
    rw [Matrix.mulVec_sub, ← add_sub_add_right_eq_sub (J *ᵥ un (t + 1)) _ c, ← hun t, ← hKu]
  have hb' : ∀ t, VecLe (un t - Ku) (Bd + Bk) := fun t i => (abs_sub _ _).trans (add_le_add (hb t i) (hBk i))
  exact sub_eq_zero.mp (backward_zero_of_bounded J m q hq hq1 (fun t => un t - Ku) he (Bd + Bk) hb' t)

/-- **Uniqueness of the unstable block ("the stable one")**: the forward-solved constant `Ku = J Ku + c` is the ONLY bounded solution of
`un[t] = J un[t+1] + c` (the lower block of the transformed system without shocks, `J = -T22⁻¹ S22`, `c = -T22⁻¹ Q C₂`) -/
theorem unstable_block_unique (J : Matrix nj nj F) (c Ku : nj → F) (hKu : Ku = J *ᵥ Ku + c) (m : ℕ) (q : F)
    (hq : RowSumLe (J ^ m) q) (hq0 : 0 ≤ q) (hq1 : q < 1)
    (un : ℕ → nj → F) (hun : ∀ t, un t = J *ᵥ un (t + 1) + c) (Bd : F) (hb : ∀ t, VecLe (un t) Bd) (t : ℕ) : un t = Ku :=
  bounded_solution_unique J c Ku hKu m q hq hq1 un hun Bd hb t

end unique

/-- non-vacuity: the unstable block of the scalar example (`J = 2/3`, `c = 2/3`, `Ku = 2`, see `C01.exQZ` in `Props/C01QZ.lean`) meets every hypothesis -/
example : (![2] : Fin 1 → ℚ) = !![2/3] *ᵥ ![2] + ![2/3] ∧ C01.RowSumLe (nb := Fin 1) (F := ℚ) (!![2/3] ^ 1) (2/3) := by
  unfold C01.RowSumLe
  decide +kernel

end IrisVerif.C01State
