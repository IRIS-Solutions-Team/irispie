/-
C10 — A Series is a period-indexed map: reads, writes, alignment, trim, isolation.

The property theorems (the lemmas they share: IrisVerif/Lemmas/Series.lean). Every theorem is about the executable
model IrisVerif/Model/Series.lean, which keeps the position / padding arithmetic of series/main.py and which the
op-sequence correspondence check ties to the code on every run. The theorems say that this arithmetic refines
the map `Series.abs : Int → Nat → Cell` (`none` = NaN, also outside the span).

Isolation has two halves. In the value model every operation is a pure function of its inputs, so "functional forms do
not modify their input" holds by construction. Which pool objects share a data buffer is a fact about the heap: it is
proved on the heap model (`heap_step_spec`, `heap_reachable_owned`) and observed on the real objects by the harness
(`np.shares_memory`).

The examples use quarterly serials: 8080 is 2020Q1 (serial = 4·year + quarter − 1).
-/
import IrisVerif.Lemmas.Series
import IrisVerif.Model.SeriesHeap

namespace IrisVerif.C10
open IrisVerif.Dates IrisVerif.Series

/-! ## The reported span covers every value; trim -/

/-- every non-missing cell of the map lies inside the reported span `[start, start + periods - 1]` -/
theorem covers (s : Series) (t : Int) (v : Nat) (h : s.abs t v ≠ none) : InSpan s t :=
  Classical.byContradiction fun hn => h (abs_none_of_not_inSpan s t v hn)

theorem trim_preserves_abs (s : Series) (hR : Rect s) (t : Int) (v : Nat) : s.trim.abs t v = s.abs t v :=
  abs_trim s hR t v

/-- after `trim` there is no all-missing leading or trailing period, and an all-missing series is the
empty series without a start -/
theorem trim_establishes_trimmed (s : Series) (hW : WF s) : Trimmed s.trim :=
  trimmed_trim s hW

/-- `clip` does not establish `Trimmed` (the statement does not ask it to): it leaves a start on a series without rows -/
example : (⟨.Q, some 8080, 1, [[some 1], [some 2]]⟩ : Series).clip (some 8085) (some 8086)
    = .ok ⟨.Q, some 8085, 1, []⟩ := by decide +kernel

/-! ## Writes -/

/-- **A write is exactly the sequence of its elementary map writes.** If `set_data(dates, data, variants)` succeeds
on a well-formed series, the new map is `Map.writeAll` of the old one: for the k-th addressed variant the k-th item of
`iter_variants(data)` (exhaust-then-last), broadcast over the dates, written date by date (a repeated date keeps the
last value); nothing else changes; the result is well-formed, keeps the number of variants and — when any date is
addressed — is trimmed. `Map.writeAll` mentions neither positions nor padding. -/
theorem write_refines_map (s : Series) (serials : List Int) (data : DataArg) (vids : List Int) (s' : Series)
    (hI : Inv s) (h : s.setData serials data vids = .ok s') :
    Inv s' ∧ s'.nv = s.nv ∧
    ((serials = [] ∧ ∀ t v, s'.abs t v = s.abs t v) ∨
     (serials ≠ [] ∧ Trimmed s' ∧
       ∃ m, Map.writeAll s.abs s.nv serials data vids 0 = some m ∧ ∀ t v, s'.abs t v = m t v)) := by
  obtain ⟨h1, h2, _, h4⟩ := setData_spec hI h
  exact ⟨h1, h2, h4⟩

/-- a write changes only addressed cells: a period that is not among the dates, or a variant that is not among
the (normalised) variant indices, keeps its value -/
theorem write_changes_only_addressed_cells (s : Series) (serials : List Int) (data : DataArg) (vids : List Int)
    (s' : Series) (hI : Inv s) (h : s.setData serials data vids = .ok s') (t : Int) (v : Nat)
    (hna : t ∉ serials ∨ ∀ c ∈ vids, normIdx s.nv c ≠ some v) : s'.abs t v = s.abs t v := by
  obtain ⟨_, _, _, h4⟩ := setData_spec hI h
  rcases h4 with ⟨_, h5⟩ | ⟨_, _, m, h6, h7⟩
  · exact h5 t v
  · rw [h7 t v]; exact writeAll_frame h6 t v hna

/-- writing a scalar (NaN included): exactly the addressed cells take the value, every other cell is unchanged -/
theorem write_scalar (s : Series) (serials : List Int) (c : Cell) (vids : List Int)
    (s' : Series) (hI : Inv s) (h : s.setData serials (.scalar c) vids = .ok s') (t : Int) (v : Nat) :
    s'.abs t v = if t ∈ serials ∧ ∃ c' ∈ vids, normIdx s.nv c' = some v then c else s.abs t v := by
  obtain ⟨_, _, _, h4⟩ := setData_spec hI h
  rcases h4 with ⟨h5, h6⟩ | ⟨_, _, m, h6, h7⟩
  · subst h5; simp [h6 t v]
  · rw [h7 t v]; exact writeAll_scalar h6 t v

/-- hypotheses are met by a concrete non-trivial write: two periods before the start, one repeated, a NaN interior -/
example : (⟨.Q, some 8080, 2, [[some 1, none], [none, none], [some 3, some 4]]⟩ : Series).setData
      [8078, 8081, 8078] (.variants [.column [some 5, some 6, some 7], .scalar none]) [1, -2]
    = .ok ⟨.Q, some 8078, 2, [[none, some 7], [none, none], [some 1, none], [none, some 6], [some 3, some 4]]⟩ := by decide +kernel

example : Inv (⟨.Q, some 8080, 2, [[some 1, none], [none, none], [some 3, some 4]]⟩ : Series) :=
  ⟨by unfold Rect; decide, nofun⟩

/-! ## Time shift -/

/-- `shift(k)` moves every value by exactly `k` periods: what was at `t + k` is now at `t` -/
theorem shift_moves_abs (s : Series) (k : Int) (t : Int) (v : Nat) : (s.shift k).abs t v = s.abs (t + k) v := by
  unfold Series.shift Series.abs
  cases s.start with
  | none => rfl
  | some st =>
    simp only [Option.map_some, Int.sub_right_le_iff_le_add, show t - (st - k) = t + k - st by omega]

theorem shift_preserves_inv (s : Series) (k : Int) (h : Inv s) : Inv (s.shift k) :=
  inv_shift s k h

/-! ## Element-wise functions and binary operators act period by period -/

/-- `apply(func)` / scalar arithmetic `x + c`, `c - x`, … : a NaN-preserving element-wise function acts cell by cell on
the map, and the result is trimmed -/
theorem apply_pointwise (g : Cell → Cell) (hg : g none = none) (s : Series) (hI : Inv s) (t : Int) (v : Nat) :
    (s.apply g).abs t v = g (s.abs t v) ∧ Trimmed (s.apply g) := by
  obtain ⟨h1, h2, h3⟩ := abs_apply g s hI t v
  refine ⟨?_, h3⟩
  by_cases c : InSpan s t ∧ v < s.nv
  · exact h1 c.1 c.2
  · -- nothing there before, nothing there afterwards
    rw [h2 c, abs_none_of_no_cell s hI.1 t v c, hg]

/-- unary minus, `abs()`, `+x` (no trim in the code): cell by cell -/
theorem unary_pointwise (g : UnFn) (s : Series) (t : Int) (v : Nat) : (mapCells g.eval s).abs t v = g.eval (s.abs t v) :=
  abs_mapCells g.eval (by cases g <;> rfl) s t v

/-- **Alignment with variant broadcasting** (numpy's rule: equal numbers of variants, or a single variant paired with
every variant of the other operand): `bidx nv v = if nv = 1 then 0 else v` -/
theorem binop_pointwise_broadcast (f : Cell → Cell → Cell) (hf : ∀ x, f none x = none ∧ f x none = none) (a b r : Series)
    (nv : Nat) (ha : Inv a) (hb : Inv b) (hbc : bcastNv a.nv b.nv = some nv) (h : a.binop f b = .ok r) (t : Int) (v : Nat)
    (hv : v < nv) : r.nv = nv ∧ r.abs t v = f (a.abs t (bidx a.nv v)) (b.abs t (bidx b.nv v)) := by
  obtain ⟨nv', hbc', hr⟩ := binop_ok f a b r h
  rw [hbc] at hbc'
  cases hbc'
  rcases hr with ⟨h1, _, rfl⟩ | ⟨lo, hi, hlo, hhi, rfl⟩
  · exact ⟨rfl, by rw [abs_new, abs_of_no_start h1, (hf _).1]⟩
  · have hout := fun t h => (abs_none_outside_window a b lo hi hlo hhi t h).1
    refine ⟨nv_trim _, ?_⟩
    rw [abs_trim _ (by exact rect_zipWith _ _ _ _)]
    by_cases c1 : lo ≤ t
    · obtain ⟨i, rfl⟩ := Int.le.dest c1
      rw [abs_at_index rfl,
        cellAt_zipWith_bcast f hf (rect_slice a lo hi ha.1) (rect_slice b lo hi hb.1) hv,
        cellAt_slice a ha.2, cellAt_slice b hb.2]
      split
      · rfl
      · -- past the window `a` has nothing
        rw [(hf _).1, hout _ (fun c => by omega), (hf _).1]
    · rw [abs_of_start rfl, if_neg c1, hout t (fun c => c1 c.1), (hf _).1]

theorem binop_incompatible_rejected (f : Cell → Cell → Cell) (a b : Series) (h : bcastNv a.nv b.nv = none) :
    a.binop f b = .error .badInput := by
  unfold Series.binop
  rw [h]
  rfl

/-- **Alignment.** `x ⊕ y` for a NaN-strict `⊕` (`+ - *` are: `BinFn.eval`) and equal numbers of variants is
`abs x t v ⊕ abs y t v` at every period `t`, whatever the spans of the operands (overlapping, disjoint, one or both
empty), and the result is trimmed (all-missing = the empty series) -/
theorem binop_pointwise (f : Cell → Cell → Cell) (hf : ∀ x, f none x = none ∧ f x none = none) (a b r : Series)
    (ha : Inv a) (hb : Inv b) (hnv : a.nv = b.nv) (h : a.binop f b = .ok r) :
    (∀ t v, v < a.nv → r.abs t v = f (a.abs t v) (b.abs t v)) ∧ Trimmed r ∧ Inv r :=
  ⟨fun t v hv => by
      have := (binop_pointwise_broadcast f hf a b r a.nv ha hb (by simp [bcastNv, hnv]) h t v hv).2
      rwa [bidx_of_lt _ _ hv, bidx_of_lt _ _ (hnv ▸ hv)] at this,
    (inv_trimmed_binop f a b r h).2, (inv_trimmed_binop f a b r h).1⟩

/-- non-overlapping operands: the sum is the empty series (no start) -/
example : (⟨.Q, some 8080, 1, [[some 1], [some 2]]⟩ : Series).binop BinFn.add.eval ⟨.Q, some 8090, 1, [[some 5]]⟩
    = .ok ⟨.Q, none, 1, []⟩ := by decide +kernel

theorem binFn_strict (f : BinFn) : ∀ x, f.eval none x = none ∧ f.eval x none = none := by
  intro x; cases x <;> simp [BinFn.eval]

theorem binop_mixed_rejected (f : Cell → Cell → Cell) (a b : Series) (sa sb : Int) (ha : a.start = some sa)
    (hb : b.start = some sb) (hf : a.freq ≠ b.freq) : a.binopS f b = .error .mixedFreq := by
  unfold Series.binopS sameFreq
  rw [ha, hb, beq_false_of_ne hf]
  rfl

/-! ## Slices, reads, clip, overlay, hstack -/

/-- `get_data_from_until((a, b))` over all variants returns exactly the cells `abs (a + i)`, `0 ≤ i ≤ b - a` -/
theorem slice_is_abs (s : Series) (hW : WF s) (a b : Int) (i v : Nat) :
    cellAt (s.sliceFromUntil a b) i v = if (i : Int) < b - a + 1 then s.abs (a + i) v else none :=
  cellAt_slice s hW a b i v

/-- **A read returns the map**: `get_data(dates, variants)` (any dates: unordered, repeated, outside the span, on an
empty series) is the matrix of `abs` over dates × variants -/
theorem read_is_abs (s : Series) (hW : WF s) (serials : List Int) (vs : List Nat) (hv : ∀ v ∈ vs, v < s.nv) :
    s.getData serials (vs.map (fun (v : Nat) => (v : Int))) = .ok (serials.map (fun t => vs.map (fun v => s.abs t v))) :=
  getData_eq_abs_general s hW serials _ vs (normalises_nat s.nv vs hv)

/-- a read after a scalar write returns the written value at the addressed cells and the old value elsewhere
(write then read, composed) -/
theorem read_after_write (s : Series) (serials : List Int) (c : Cell) (vids : List Int) (s' : Series) (hI : Inv s)
    (h : s.setData serials (.scalar c) vids = .ok s') (rd : List Int) (vs : List Nat) (hv : ∀ v ∈ vs, v < s.nv) :
    s'.getData rd (vs.map (fun (v : Nat) => (v : Int))) = .ok (rd.map (fun t => vs.map (fun v =>
      if t ∈ serials ∧ ∃ c' ∈ vids, normIdx s.nv c' = some v then c else s.abs t v))) := by
  obtain ⟨hI', hnv, _⟩ := write_refines_map s serials (.scalar c) vids s' hI h
  rw [read_is_abs s' hI'.2 rd vs (by rw [hnv]; exact hv)]
  simp only [write_scalar s serials c vids s' hI h]

/-- `clip(a, b)` restricts the map to the clamped window `[max(start, a), min(end, b)]` and changes nothing inside it.
(`clip` does not re-trim: `covers` holds of every series, `Trimmed` need not, see the example after `trim_establishes_trimmed`.) -/
theorem clip_restricts (s : Series) (hI : Inv s) (st : Int) (hs : s.start = some st) (a b : Option Int) (s' : Series)
    (h : s.clip a b = .ok s') (t : Int) (v : Nat) :
    s'.abs t v = if clampLo st a ≤ t ∧ t ≤ clampHi (st + (s.rows.length : Int) - 1) b then s.abs t v else none := by
  unfold Series.clip at h
  simp only [hs] at h
  split at h
  · -- nothing to cut: the window is the reported span, outside of which there is nothing
    rename_i c
    cases h
    rw [c.1, c.2]
    split
    · rfl
    · rename_i c2
      exact abs_none_of_not_inSpan _ t v (fun ⟨st', hs', h1, h2⟩ => by rw [hs] at hs'; cases hs'; exact c2 ⟨h1, h2⟩)
  · cases h
    generalize clampLo st a = lo
    generalize clampHi (st + (s.rows.length : Int) - 1) b = hi
    by_cases c1 : lo ≤ t
    · obtain ⟨i, rfl⟩ := Int.le.dest c1
      rw [abs_at_index rfl, cellAt_slice s hI.2]
      simp only [c1, true_and, show (i : Int) < hi - lo + 1 ↔ lo + i ≤ hi by omega]
    · rw [abs_of_start rfl, if_neg c1, if_neg fun c => c1 c.1]

set_option linter.unusedVariables false in
/-- **overlay by span** (equal numbers of variants): inside `other`'s reported span the result is `other` — missing
values included, as documented — and outside it is `self`; the result is well-formed and trimmed -/
theorem overlay_by_span (self other r : Series) (hI : Inv self) (hO : Inv other) (hnv : self.nv = other.nv)
    (h : self.overlay other = .ok r) (t : Int) (v : Nat) :
    (InSpan other t → v < other.nv → r.abs t v = other.abs t v) ∧ (¬ InSpan other t → r.abs t v = self.abs t v) := by
  unfold Series.overlay at h
  rw [broadcastPair_eq hnv] at h
  exact abs_overlayCore _ _ r hI hnv h t v

/-- **underlay by span**: inside `self`'s span the receiver keeps its own cells (missing ones too), outside it takes `other`'s -/
theorem underlay_by_span (self other r : Series) (hI : Inv self) (hO : Inv other) (hnv : self.nv = other.nv)
    (h : self.underlay other = .ok r) (t : Int) (v : Nat) :
    (InSpan self t → v < self.nv → r.abs t v = self.abs t v) ∧ (¬ InSpan self t → r.abs t v = other.abs t v) := by
  unfold Series.underlay at h
  rw [broadcastPair_eq hnv] at h
  simp only [Except.bind_eq_ok] at h
  obtain ⟨x, h2, h3⟩ := h
  cases h2
  exact overlay_by_span _ _ _ hO hI hnv.symm h3 t v

/-- overlay, whatever the numbers of variants after broadcasting: well-formed, trimmed, nothing outside `other`'s span changes -/
theorem overlay_frame (self other r : Series) (hI : Inv self) (h : self.overlayCore other = .ok r) :
    Inv r ∧ Trimmed r ∧ ∀ t v, t ∉ other.spanSerials → r.abs t v = self.abs t v :=
  overlayCore_frame self other r hI h

/-- **overlay with variant broadcasting** (n vs n, 1 vs n, n vs 1; the code broadcasts `self` in place and a *copy* of
`other`): for `v` below the broadcast number of variants, inside `other`'s span the result reads `other` at `bidx other.nv v`,
outside it reads `self` at `bidx self.nv v` -/
theorem overlay_by_span_broadcast (self other r : Series) (nv : Nat) (hI : Inv self) (hO : Inv other)
    (hbc : bcastNv self.nv other.nv = some nv) (h : self.overlay other = .ok r) (t : Int) (v : Nat) (hv : v < nv) :
    (InSpan other t → r.abs t v = other.abs t (bidx other.nv v)) ∧
    (¬ InSpan other t → r.abs t v = self.abs t (bidx self.nv v)) := by
  unfold Series.overlay at h
  simp only [Except.bind_eq_ok] at h
  obtain ⟨⟨s, o⟩, hp, h2⟩ := h
  obtain ⟨i1, _, i3, i4, _, i6, i7, i8⟩ := broadcastPair_spec self other s o hI hO hp
  rw [hbc] at i3
  cases i3
  obtain ⟨j1, j2⟩ := abs_overlayCore s o r i1 i4.symm h2 t v
  exact ⟨fun hin => by rw [j1 ((i6 t).mpr hin) (by omega), i8 t v hv],
    fun hn => by rw [j2 (fun hh => hn ((i6 t).mp hh)), i7 t v hv]⟩

theorem underlay_by_span_broadcast (self other r : Series) (nv : Nat) (hI : Inv self) (hO : Inv other)
    (hbc : bcastNv self.nv other.nv = some nv) (h : self.underlay other = .ok r) (t : Int) (v : Nat) (hv : v < nv) :
    (InSpan self t → r.abs t v = self.abs t (bidx self.nv v)) ∧
    (¬ InSpan self t → r.abs t v = other.abs t (bidx other.nv v)) := by
  unfold Series.underlay at h
  simp only [Except.bind_eq_ok] at h
  obtain ⟨⟨s, o⟩, hp, h2⟩ := h
  obtain ⟨i1, i2, i3, i4, i5, _, i7, i8⟩ := broadcastPair_spec self other s o hI hO hp
  rw [hbc] at i3
  cases i3
  obtain ⟨j1, j2⟩ := overlay_by_span o s _ i2 i1 i4 h2 t v
  exact ⟨fun hin => by rw [j1 ((i5 t).mpr hin) hv, i7 t v hv],
    fun hn => by rw [j2 (fun hh => hn ((i5 t).mp hh)), i8 t v hv]⟩

/-- **hstack of two series** (`x.hstack(y)`, `x & y`): the result has `nv₁ + nv₂` variants; variant `v < nv₁` reads `self`,
variant `v ≥ nv₁` reads `other` at `v - nv₁` — at every period: inside the encompassing span by the block arithmetic, outside
it because both operands are missing there; the result is well-formed (and trimmed, by `write_refines_map`) -/
theorem hstack_pointwise (f : Freq) (a b r : Series) (ha : Inv a) (hb : Inv b) (h : hstack f [a, b] = .ok r) (t : Int) (v : Nat) :
    r.nv = a.nv + b.nv ∧ r.abs t v = if v < a.nv then a.abs t v else b.abs t (v - a.nv) := by
  unfold hstack at h
  simp only [List.map_cons, List.map_nil, List.foldl_cons, List.foldl_nil, Nat.zero_add] at h
  split at h
  · rename_i hall
    cases h
    simp only [List.all_cons, List.all_nil, Bool.and_true, Bool.and_eq_true] at hall
    refine ⟨rfl, ?_⟩
    rw [abs_new]
    split
    · exact (abs_none_of_isEmpty a ha.1 hall.1 t v).symm
    · exact (abs_none_of_isEmpty b hb.1 hall.2 t _).symm
  · split at h
    · rename_i lo hi hlo hhi
      obtain ⟨hIr, hnv, _⟩ := setData_spec (inv_new _ _) h
      change r.nv = a.nv + b.nv at hnv
      refine ⟨hnv, ?_⟩
      by_cases cin : lo ≤ t ∧ t ≤ hi
      · by_cases cv : v < a.nv + b.nv
        · -- with the number of periods named, `h` reads `setData (spanList lo n) …`, the form `setData_columns` takes
          generalize hn : (hi - lo + 1).toNat = n at h
          obtain ⟨i, rfl⟩ := Int.le.dest cin.1
          have hlt : (i : Int) < hi - lo + 1 := by omega
          have hi' : i < n := hn ▸ Int.lt_toNat.mpr hlt
          -- the block written is the transpose of the two slices stacked row by row: at position `i` column `k` holds the
          -- cell `(i, k)` of the stack (`cellAt_col`), which `cellAt_hstack` finds in the one slice or the other
          obtain ⟨_, h9⟩ := setData_columns (spanList_nodup lo n) (inv_new _ _) _
            (fun k hk => array_variant_values (transpose_get _ _ k hk)
              (by rw [List.length_map, List.length_map, List.length_range, length_spanList])) h
          rw [h9 i _ v (spanList_get lo n i hi') cv, cellAt_col,
            cellAt_hstack (rect_slice a lo hi ha.1) hi' (by rw [length_sliceFromUntil, hn]),
            cellAt_slice a ha.2, cellAt_slice b hb.2, if_pos hlt, if_pos hlt]
        · -- a variant beyond both operands
          rw [abs_none_of_ge_nv r hIr.1 t v (by omega), if_neg (by omega), abs_none_of_ge_nv b hb.1 t _ (by omega)]
      · -- outside the encompassing window nothing is written, and both operands are missing
        rw [write_changes_only_addressed_cells _ _ _ _ r (inv_new _ _) h t v
          (Or.inl fun hm => cin (by have := (mem_spanList lo _ t).mp hm; omega)), abs_new]
        obtain ⟨oa, ob⟩ := abs_none_outside_window a b lo hi hlo hhi t cin
        split
        · exact (oa v).symm
        · exact (ob _).symm
    · cases h

/-- the same through the frequency check of `hstackS` (what `step` runs) -/
theorem hstackS_pointwise (a b r : Series) (ha : Inv a) (hb : Inv b) (h : hstackS [a, b] = .ok r) (t : Int) (v : Nat) :
    r.nv = a.nv + b.nv ∧ r.abs t v = if v < a.nv then a.abs t v else b.abs t (v - a.nv) := by
  simp only [hstackS] at h
  split at h
  · exact hstack_pointwise _ a b r ha hb h t v
  · split at h
    · exact hstack_pointwise _ a b r ha hb h t v
    · cases h

/- hstack of three or more series: not stated separately (the model is list-general, `step_inv` covers it; the equation
   above is for the binary case the statement of the property speaks about, `x & y & z` being `(x & y) & z` in the code). -/

/-! ## Every variant request; the code's rejections; a Series on the right-hand side -/

/-- **A read returns the map for every variant request the code accepts** — bare or listed indices, negative ones, slices:
whatever `_resolve_variants` produces, `vs` being the indices numpy normalises it to (`Normalises`). (`read_is_abs` is the
special case of non-negative indices.) -/
theorem read_is_abs_general (s : Series) (hW : WF s) (serials : List Int) (vids : List Int) (vs : List Nat)
    (h : Normalises s.nv vids vs) :
    s.getData serials vids = .ok (serials.map (fun t => vs.map (fun v => s.abs t v))) :=
  getData_eq_abs_general s hW serials vids vs h

example : Normalises 3 [-1, 0, -3] [2, 0, 0] := normalises_of_map (by decide +kernel)

/-- a read rejects what the code rejects: a variant index outside `[-nv, nv)` raises, whatever the dates -/
theorem read_rejects (s : Series) (serials : List Int) (vids : List Int) (h : ∃ c ∈ vids, normIdx s.nv c = none) :
    s.getData serials vids = .error .badInput := by
  unfold Series.getData
  cases serials with
  | nil =>
    simp only [List.isEmpty_nil, if_true, pickRow_rejects h, bind, Except.bind]
  | cons t ts =>
    -- the first date already raises
    simp only [List.isEmpty_cons, Bool.false_eq_true, if_false, getDatePositions, List.map_cons, List.mapM_cons,
      pickRow_rejects h, bind, Except.bind]

/-- a write rejects what the code rejects: when the elementary writes are undefined (`Map.writeAll = none`: a variant index
numpy rejects, a column whose length fits neither the dates nor 1) and the call is not the "no dates, no data" no-op,
`set_data` raises — the converse of `write_refines_map` -/
theorem write_rejects (s : Series) (serials : List Int) (data : DataArg) (vids : List Int)
    (hne : ¬ (serials.isEmpty = true ∧ data.isEmptyData = true))
    (h : Map.writeAll s.abs s.nv serials data vids 0 = none) :
    s.setData serials data vids = .error .badInput := by
  unfold Series.setData
  rw [if_neg hne]
  by_cases c2 : data.isEmptyData = true ∧ data ≠ .pyNone
  · rw [if_pos c2]; rfl
  · rw [if_neg c2]
    -- with or without a start the assignment runs over `serials.length` positions of some padded block, and `assignAll`
    -- fails whatever the block once `Map.writeAll` is undefined
    cases hs : s.start <;> simp only <;>
      rw [assignAll_error_of_writeAll_none s.nv serials _ (by simp [getDatePositions]) data vids s.abs _ 0 h]

example : Map.writeAll (fun _ _ => none) 2 [8080, 8081] (.array [[some 1, some 2, some 3]]) [0] 0 = none ∧
    Map.writeAll (fun _ _ => none) 2 [8080] (.scalar (some 1)) [2] 0 = none := by decide +kernel

/-- mixing frequencies in the dates of a write or a read is rejected (as `t - base` raises in `_get_date_positions`) -/
theorem dates_mixed_frequencies_rejected (s : Series) (ps : List Period) (data : DataArg) (vars : VarArg)
    (h : ∃ p ∈ ps, p.freq ≠ s.freqFor ps) :
    s.setDataP ps data vars = .error .mixedFreq ∧ s.getDataP ps vars = .error .mixedFreq := by
  have hne : ¬ (ps.isEmpty = true ∧ data.isEmptyData = true) := by
    rintro ⟨h1, _⟩
    obtain ⟨p, hp, _⟩ := h
    rw [List.isEmpty_iff.mp h1] at hp; cases hp
  constructor
  · unfold Series.setDataP
    rw [if_neg hne]
    simp only [mapM_serialsOf_error _ ps h, bind, Except.bind]
  · unfold Series.getDataP
    simp only [mapM_serialsOf_error _ ps h, bind, Except.bind]

set_option linter.unusedVariables false in
/-- **a Series on the right-hand side of a write** (`x[dates] = y`, serial level, any list of distinct periods): the values
are read from the source period by period and written with the exhaust-then-last rule; everything else is unchanged -/
theorem write_from_series (s y r : Series) (serials : List Int) (hnd : serials.Nodup) (hne : serials ≠ [])
    (hI : Inv s) (hy : Inv y) (hynv : 0 < y.nv) (d : List Row)
    (hd : y.getData serials (allVids y) = .ok d)
    (h : s.setData serials (.array (transpose y.nv d)) (allVids s) = .ok r) :
    (∀ t v, t ∉ serials → r.abs t v = s.abs t v) ∧
    (∀ (i : Nat) (t : Int) (v : Nat), serials[i]? = some t → v < s.nv → r.abs t v = y.abs t (min v (y.nv - 1))) := by
  obtain rfl := Except.ok.inj (hd.symm.trans (getData_all y hy.2 serials))
  have hcols := transpose_read y.nv serials y.abs
  have hlen : (transpose y.nv (serials.map (fun t => (List.range y.nv).map (fun v => y.abs t v)))).length = y.nv := by
    rw [transpose, List.length_map, List.length_range]
  -- variant `k` of the receiver takes column `k` of the source, past the last one the last (exhaust-then-last)
  obtain ⟨h1, h9⟩ := setData_columns hnd hI (fun k => serials.map (fun u => y.abs u (min k (y.nv - 1))))
    (fun k _ => by
      by_cases hk : k < y.nv
      · rw [Nat.min_eq_left (by omega)]
        exact array_variant_values (hcols k hk) (List.length_map _)
      · rw [Nat.min_eq_right (by omega)]
        exact array_variant_values_last (by omega) (by rw [hlen]; exact hcols _ (by omega)) (List.length_map _)) h
  exact ⟨h1, fun i t v hi hv => by rw [h9 i t v hi hv, List.getElem?_map, hi]; rfl⟩

theorem pool_put_ok {p p' : Pool} {k : Nat} {s : Series} (h : p.put k s = .ok p') : k < p.length ∧ p' = p.set k s := by
  unfold Pool.put at h
  split at h
  · rename_i hlt
    cases h
    exact ⟨hlt, rfl⟩
  · cases h

/-- `x[dates] = y` through `step`: receiver and source may be without a start -/
theorem set_from_series (p p' : Pool) (out : Output) (i j : Nat) (dates : DatesArg) (s y : Series)
    (serials : List Int) (hs : p.get i = .ok s) (hy : p.get j = .ok y) (hIs : Inv s) (hIy : Inv y)
    (hf : y.freq = s.freq) (hynv : 0 < y.nv)
    (hres : s.resolveDates dates = .ok (serials.map (fun x => (⟨s.freq, x⟩ : Period))))
    (hnd : serials.Nodup) (hne : serials ≠ [])
    (h : step p (.set i dates .all (.series j)) = .ok (p', out)) :
    ∃ r, p'[i]? = some r ∧ (∀ t v, t ∉ serials → r.abs t v = s.abs t v) ∧
      (∀ (k : Nat) (t : Int) (v : Nat), serials[k]? = some t → v < s.nv → r.abs t v = y.abs t (min v (y.nv - 1))) := by
  simp only [step.eq_def, dataOf.eq_def, Except.bind_eq_ok] at h
  obtain ⟨s0, hs0, ps, hps, dat, ⟨y0, hy0, ps', hps', d, hd, hd2⟩, r, hr, q, hq, h⟩ := h
  cases h
  cases hs.symm.trans hs0
  cases hy.symm.trans hy0
  cases hres.symm.trans hps
  cases hres.symm.trans hps'
  split at hd2
  · cases hd2
  · cases hd2
    -- the read from the source, at the periods resolved against the receiver
    rw [← hf, getDataP_own y] at hd
    rw [setDataP_own s serials hne] at hr
    obtain ⟨hlt, rfl⟩ := pool_put_ok hq
    exact ⟨r, List.getElem?_set_self hlt, write_from_series s y r serials hnd hne hIs hIy hynv d hd hr⟩

set_option linter.unusedVariables false in
/-- **`x[dates] = y` end to end, relative dates included** (composition of `resolveDates` on the receiver, the read from the
source and the write; hypotheses on the inputs only): the pool keeps every other slot -/
theorem set_from_series_end_to_end (p p' : Pool) (out : Output) (i j : Nat) (dates : DatesArg) (s y : Series)
    (serials : List Int) (hs : p.get i = .ok s) (hy : p.get j = .ok y) (hIs : Inv s) (hIy : Inv y)
    (st sy : Int) (hst : s.start = some st) (hsy : y.start = some sy) (hf : y.freq = s.freq) (hynv : 0 < y.nv)
    (hres : s.resolveDates dates = .ok (serials.map (fun x => (⟨s.freq, x⟩ : Period))))
    (hnd : serials.Nodup) (hne : serials ≠ [])
    (h : step p (.set i dates .all (.series j)) = .ok (p', out)) :
    ∃ r, p'[i]? = some r ∧ (∀ t v, t ∉ serials → r.abs t v = s.abs t v) ∧
      (∀ (k : Nat) (t : Int) (v : Nat), serials[k]? = some t → v < s.nv → r.abs t v = y.abs t (min v (y.nv - 1))) :=
  set_from_series p p' out i j dates s y serials hs hy hIs hIy hf hynv hres hnd hne h

/-- `x[...] = y` with `x` on 8080…8082 and `y` on 8081…8084: `...` is resolved against the receiver (three periods), `y` is read
there (missing at 8080), and the all-missing first period is trimmed away -/
example : (match step [⟨.Q, some 8080, 1, [[some 1], [some 2], [some 3]]⟩, ⟨.Q, some 8081, 1, [[some 7], [some 8], [some 9], [some 10]]⟩]
      (.set 0 .all .all (.series 1)) with | .ok (p', _) => some p' | .error _ => none)
    = some [⟨.Q, some 8081, 1, [[some 7], [some 8]]⟩, ⟨.Q, some 8081, 1, [[some 7], [some 8], [some 9], [some 10]]⟩] := by
  decide +kernel

/-! ## Every date collection the API accepts: stepped, backward, unordered lists -/

/-- **writing per-variant columns over any list of distinct periods** (what `set_data(dates, ndarray | list of columns)` does
after `resolve_periods`, e.g. for `Span(a, b, -2)` or an unordered tuple): the `i`-th listed period reads the `i`-th value of
the variant's column, every other cell is unchanged. (With repeated periods the general `write_refines_map` applies: the
writes happen in list order and the last one wins.) -/
theorem write_columns_distinct_periods (nv : Nat) (serials : List Int) (hnd : serials.Nodup) (data : DataArg)
    (colf : Nat → List Cell)
    (hcol : ∀ k, k < nv → (data.variant k).values serials.length = some (colf k) ∧ (colf k).length = serials.length)
    (m : Map) :
    ∃ m', Map.writeAll m nv serials data ((List.range' 0 nv).map (fun (i : Nat) => (i : Int))) 0 = some m' ∧
      (∀ (i : Nat) (t : Int) (v : Nat), serials[i]? = some t → v < nv → m' t v = ((colf v)[i]?).getD none) ∧
      (∀ t v, (t ∉ serials ∨ ¬ v < nv) → m' t v = m t v) := by
  obtain ⟨m', h1, h2, h3⟩ := writeAll_nodup nv serials hnd data colf (fun k hk => (hcol k hk).1) nv 0 m (by omega)
  exact ⟨m', h1, fun i t v hi hv => h2 i t v hi (by omega) hv,
    fun t v hc => h3 t v (hc.imp_right fun hc hh => hc hh.2)⟩

/-- `fill_missing` over a list of distinct periods: the series may be without a start -/
theorem fill_missing_list (s r : Series) (m : FillMethod) (serials : List Int) (hnd : serials.Nodup)
    (hne : serials ≠ []) (hI : Inv s)
    (h : s.fillMissingP m (serials.map (fun x => (⟨s.freq, x⟩ : Period))) = .ok r) :
    (∀ t v, t ∉ serials → r.abs t v = s.abs t v) ∧
    (∀ (i : Nat) (t : Int) (v : Nat), serials[i]? = some t → v < s.nv →
      r.abs t v = match s.abs t v with
        | some x => some x
        | none => fillAt m (serials.map (fun u => s.abs u v)) i) := by
  unfold Series.fillMissingP at h
  simp only [Except.bind_eq_ok] at h
  obtain ⟨data, hd, h2⟩ := h
  rw [getDataP_own s] at hd
  obtain rfl := Except.ok.inj (hd.symm.trans (getData_all s hI.2 serials))
  rw [setDataP_own s serials hne] at h2
  -- variant `k` receives the filled column `k` of the read
  obtain ⟨h1, h9⟩ := setData_columns hnd hI (fun k => fillColumn m (serials.map (fun u => s.abs u k)))
    (fun k hk => variants_variant_values
      (by rw [List.getElem?_map, transpose_read s.nv serials s.abs k hk]; rfl)
      (by rw [fillColumn_length, List.length_map])) h2
  refine ⟨h1, fun i t v hi hv => ?_⟩
  have hcolAt : colAt (serials.map (fun u => s.abs u v)) i = s.abs t v := by
    rw [colAt, List.getElem?_map, hi]; rfl
  rw [h9 i t v hi hv]
  cases hx : s.abs t v with
  | some x => exact fillColumn_obs m _ _ x (hcolAt.trans hx)
  | none =>
    exact fillColumn_missing m _ _ (by rw [List.length_map]; exact (List.getElem?_eq_some_iff.mp hi).1) (hcolAt.trans hx)

set_option linter.unusedVariables false in
/-- **fill_missing over any list of distinct periods** (stepped, backward, unordered): the column the method sees is the
read in list order; a period outside the list is untouched; the `i`-th listed period keeps an observed cell and otherwise
receives `fillAt` at position `i` of that column (so "next"/"previous" mean next/previous *in the list*, as in the code) -/
theorem fill_missing_pointwise_list (s r : Series) (m : FillMethod) (serials : List Int) (hnd : serials.Nodup)
    (hne : serials ≠ []) (hI : Inv s) (st : Int) (hs : s.start = some st)
    (h : s.fillMissingP m (serials.map (fun x => (⟨s.freq, x⟩ : Period))) = .ok r) :
    (∀ t v, t ∉ serials → r.abs t v = s.abs t v) ∧
    (∀ (i : Nat) (t : Int) (v : Nat), serials[i]? = some t → v < s.nv →
      r.abs t v = match s.abs t v with
        | some x => some x
        | none => fillAt m (serials.map (fun u => s.abs u v)) i) :=
  fill_missing_list s r m serials hnd hne hI h

/-- **extrapolate over any list of distinct periods**: the recursion runs from the first listed period for `len(list)` steps
and its `k`-th value is stored at the `k`-th listed period (for a span of consecutive periods this is `extrapolate_pointwise`);
nothing else changes -/
theorem extrapolate_pointwise_list (s r : Series) (coeffs : List Rat) (c : Rat) (a : Int) (rest : List Int)
    (hnd : (a :: rest).Nodup) (hI : Inv s) (st : Int) (hs : s.start = some st)
    (h : s.extrapolate coeffs c (a :: rest) = .ok r) :
    (∀ t v, t ∉ a :: rest → r.abs t v = s.abs t v) ∧
    (∀ (k : Nat) (t : Int) (v : Nat), (a :: rest)[k]? = some t → v < s.nv →
      r.abs t v = ((arRun coeffs c (rest.length + 1) (lagsBefore s a coeffs.length v))[k]?).getD none) := by
  unfold Series.extrapolate at h
  simp only [hs] at h
  split at h
  · cases h
  · have e : (a - 1 - (a - (coeffs.length : Int)) + 1).toNat = coeffs.length := by omega
    -- the initial condition of variant `k` is column `k` of the slice before `a`, most recent first
    exact setData_columns hnd hI (fun k => arRun coeffs c (rest.length + 1) (lagsBefore s a coeffs.length k))
      (fun k hk => array_variant_values
        (by rw [List.getElem?_map, transpose_get _ _ k hk, slice_col s hI.2, e]; rfl) (length_arRun _ _ _ _)) h

/-- the hypotheses are met by a backward stepped span resolved against the series' own ends: `Span(None, None, -2)` on a
series of 5 periods is the list end, end-2, start — distinct periods, not consecutive, not ascending -/
example : (⟨.Q, some 8080, 1, [[some 1], [none], [some 3], [none], [some 5]]⟩ : Series).resolveDates (.span none none (-2))
    = .ok [⟨.Q, 8084⟩, ⟨.Q, 8082⟩, ⟨.Q, 8080⟩] ∧ ([8084, 8082, 8080] : List Int).Nodup := by decide +kernel

/-! ## Statistics along variants, moving windows, replace_where -/

/-- **row statistics** (`sum prod mean min max` and the `nan*` variants): the result has one variant; at every period of
the span it is the statistic of that period's cells — `StatFn.eval` of `[abs s t 0, …, abs s t (nv-1)]`, with numpy's NaN
rule of each function (`nansum`/`nanprod` of an all-missing period are 0/1) — and outside the span it is missing -/
theorem stat_pointwise (f : StatFn) (s r : Series) (hI : Inv s) (h : s.rowStat f = .ok r) (t : Int) :
    r.nv = 1 ∧ (InSpan s t → r.abs t 0 = f.eval ((List.range s.nv).map (fun v => s.abs t v))) ∧
    (¬ InSpan s t → r.abs t 0 = none) := by
  unfold Series.rowStat at h
  split at h
  · cases h
  · cases h
    obtain ⟨hIx, hx⟩ := rowMap_spec s hI (fun r => [f.eval r]) 1 (fun _ _ => rfl)
    rw [abs_trim _ hIx.1]
    exact ⟨nv_trim _, (hx t 0).1, (hx t 0).2⟩

/-- **moving windows** (`mov_sum mov_avg mov_prod`, window `w < 0` or the frequency default): for every period and variant,
inside or outside the span, the result is the function of the window `abs s (t-|w|+1) v, …, abs s t v`, and it is missing
as soon as one of these is missing (`MovFn.eval` goes through `strictVals`) -/
theorem moving_window_pointwise (f : MovFn) (w : Option Int) (s r : Series) (hI : Inv s) (h : s.movWindow f w = .ok r)
    (t : Int) (v : Nat) :
    1 ≤ (-(w.getD s.defaultWindow)).toNat ∧
    r.abs t v = f.eval (windowOf s (-(w.getD s.defaultWindow)).toNat t v) := by
  unfold Series.movWindow at h
  simp only at h
  split at h
  · cases h
  · rename_i hw
    cases h
    generalize hwl : (-(w.getD s.defaultWindow)).toNat = wl at *
    -- the call went through, so the window is negative: `windowOf` below is not over an empty list
    have hwl1 : 1 ≤ wl := by omega
    refine ⟨hwl1, ?_⟩
    have hRpre : Rect ({ s with rows := movRows f wl s.nv s.rows } : Series) := rect_movRows _ _ _ _
    rw [abs_trim _ hRpre]
    by_cases c : InSpan s t ∧ v < s.nv
    · obtain ⟨st, j, hst, rfl, hj⟩ := inSpan_index c.1
      rw [abs_at_index (s := { s with rows := movRows f wl s.nv s.rows }) hst,
        cellAt_movRows f wl s.nv s.rows j v hj c.2]
      congr 1
      unfold windowOf
      apply List.map_congr_left
      intro k _
      -- the `wl - 1` rows of padding in front stand for the periods before the start
      rw [cellAt_expand_idx hst]
      congr 1
      omega
    · rw [abs_none_of_no_cell _ hRpre t v fun c' => c ⟨inSpan_of_congr c'.1 rfl (length_movRows _ _ _ _), c'.2⟩]
      exact (window_none f s wl hwl1 t v (abs_none_of_no_cell s hI.1 t v c)).symm

/-- missing-strictness: with a hole every second period no window of length 2 is complete, the result is the empty series -/
example : (⟨.Q, some 8080, 1, [[some 1], [none], [some 4], [none], [some 5]]⟩ : Series).movWindow .sum (some (-2))
    = .ok ⟨.Q, none, 1, []⟩ := by decide +kernel

/-- a non-negative window is rejected (as `np.pad` does) -/
theorem moving_window_rejects (f : MovFn) (w : Int) (hw : 0 ≤ w) (s : Series) : s.movWindow f (some w) = .error .badInput := by
  unfold Series.movWindow
  simp only [Option.getD_some]
  rw [if_pos (by omega)]; rfl

/-- **replace_where**: inside the span every cell `x` becomes `new` when `test x` holds (NaN-testing tests fill in-span
holes) and stays `x` otherwise; outside the span nothing appears; the result is trimmed -/
theorem replace_where_pointwise (tf : TestFn) (new : Cell) (s : Series) (hI : Inv s) (t : Int) (v : Nat) :
    (InSpan s t → v < s.nv → (s.replaceWhere tf new).abs t v = if tf.eval (s.abs t v) then new else s.abs t v) ∧
    (¬ InSpan s t → (s.replaceWhere tf new).abs t v = none) ∧ Trimmed (s.replaceWhere tf new) := by
  obtain ⟨h1, h2, h3⟩ := abs_apply (fun x => if tf.eval x then new else x) s hI t v
  exact ⟨h1, fun hn => h2 fun c => hn c.1, h3⟩

/-! ## fill_missing and extrapolate over a span of consecutive periods -/

theorem fill_missing_columns (m : FillMethod) (col : List Cell) :
    (fillColumn m col).length = col.length ∧
    (∀ i x, colAt col i = some x → colAt (fillColumn m col) i = some x) ∧
    (∀ i, i < col.length → colAt col i = none → colAt (fillColumn m col) i = fillAt m col i) ∧
    (∀ i j, nextObs col i = some j →
      j < col.length ∧ i ≤ j ∧ colAt col j ≠ none ∧ ∀ j', i ≤ j' → j' < j → colAt col j' = none) ∧
    (∀ i j, prevObs col i = some j →
      j < col.length ∧ j ≤ i ∧ colAt col j ≠ none ∧ ∀ j', j < j' → j' ≤ i → j' < col.length → colAt col j' = none) :=
  ⟨fillColumn_length m col, fillColumn_obs m col, fillColumn_missing m col, nextObs_spec col, prevObs_spec col⟩

/-- `nearest` with a tie goes back, `previous` extends flat to the right, `next` leaves the tail missing -/
example : fillColumn .nearest [some 1, none, none, none, some 5, none] = [some 1, some 1, some 1, some 5, some 5, some 5] ∧
    fillColumn .previous [none, some 2, none, none] = [none, some 2, some 2, some 2] ∧
    fillColumn .next [none, some 2, none, none] = [some 2, some 2, none, none] := by decide +kernel

/-- **fill_missing on `abs`** (a span of `n ≥ 1` consecutive periods starting at `a`, any method): nothing outside the span
changes; inside it an observed cell is kept and a missing cell at `t` receives `fillAt method col (t - a)`, where `col` is the
column `abs s a v, …, abs s (a+n-1) v` (`spanCol`). The rules below spell `fillAt` out on periods. -/
theorem fill_missing_pointwise (s r : Series) (m : FillMethod) (a : Int) (n : Nat) (hn : 1 ≤ n) (hI : Inv s)
    (st : Int) (hs : s.start = some st)
    (h : s.fillMissingP m ((spanList a n).map (fun x => (⟨s.freq, x⟩ : Period))) = .ok r) (t : Int) (v : Nat) :
    (¬ (a ≤ t ∧ t < a + (n : Int)) → r.abs t v = s.abs t v) ∧
    (a ≤ t → t < a + (n : Int) → v < s.nv →
      r.abs t v = match s.abs t v with
        | some x => some x
        | none => fillAt m (spanCol s a n v) (t - a).toNat) := by
  obtain ⟨h1, h2⟩ := fill_missing_pointwise_list s r m (spanList a n) (spanList_nodup a n) (spanList_ne_nil a n hn) hI st hs h
  refine ⟨fun hout => h1 t v (mt (mem_spanList a n t).mp hout), fun ha hb hv => ?_⟩
  exact h2 (t - a).toNat t v (by rw [spanList_get a n _ (by omega)]; congr 1; omega) hv

/-- `constant`: a missing cell of the span receives the constant -/
theorem fill_rule_constant (c : Cell) (col : List Cell) (i : Nat) : fillAt (.constant c) col i = c := rfl

set_option linter.unusedVariables false in
/-- `next`: a missing cell at `a+i` takes the value of the first observed period at or after it inside the span (only missing
cells in between) and stays missing when there is none -/
theorem fill_rule_next (s : Series) (a : Int) (n v i : Nat) (hi : i < n) :
    (fillAt .next (spanCol s a n v) i = none ∧ ∀ j, i ≤ j → j < n → s.abs (a + (j : Int)) v = none) ∨
    ∃ j, i ≤ j ∧ j < n ∧ s.abs (a + (j : Int)) v ≠ none ∧ (∀ j', i ≤ j' → j' < j → s.abs (a + (j' : Int)) v = none) ∧
      fillAt .next (spanCol s a n v) i = s.abs (a + (j : Int)) v := by
  cases hq : nextObs (spanCol s a n v) i with
  | none =>
    left
    refine ⟨by simp [fillAt, hq], fun j h1 h2 => ?_⟩
    rw [← colAt_spanCol s a n v j h2]
    exact nextObs_none _ _ hq j h1 (by rw [length_spanCol]; exact h2)
  | some j =>
    right
    obtain ⟨h1, h2, h3, h4⟩ := nextObs_spec _ _ _ hq
    rw [length_spanCol] at h1
    refine ⟨j, h2, h1, by rw [← colAt_spanCol s a n v j h1]; exact h3, fun j' q1 q2 => ?_, ?_⟩
    · rw [← colAt_spanCol s a n v j' (by omega)]
      exact h4 j' q1 q2
    · simp [fillAt, hq, colAt_spanCol s a n v j h1]

/-- `previous`: the last observed period at or before it inside the span -/
theorem fill_rule_previous (s : Series) (a : Int) (n v i : Nat) (hi : i < n) :
    (fillAt .previous (spanCol s a n v) i = none ∧ ∀ j, j ≤ i → s.abs (a + (j : Int)) v = none) ∨
    ∃ j, j ≤ i ∧ s.abs (a + (j : Int)) v ≠ none ∧ (∀ j', j < j' → j' ≤ i → s.abs (a + (j' : Int)) v = none) ∧
      fillAt .previous (spanCol s a n v) i = s.abs (a + (j : Int)) v := by
  cases hq : prevObs (spanCol s a n v) i with
  | none =>
    left
    refine ⟨by simp [fillAt, hq], fun j h1 => ?_⟩
    rw [← colAt_spanCol s a n v j (by omega)]
    exact prevObs_none _ _ hq j h1 (by rw [length_spanCol]; omega)
  | some j =>
    right
    obtain ⟨h1, h2, h3, h4⟩ := prevObs_spec _ _ _ hq
    rw [length_spanCol] at h1
    refine ⟨j, h2, by rw [← colAt_spanCol s a n v j h1]; exact h3, fun j' q1 q2 => ?_, ?_⟩
    · rw [← colAt_spanCol s a n v j' (by omega)]
      exact h4 j' q1 q2 (by rw [length_spanCol]; omega)
    · simp [fillAt, hq, colAt_spanCol s a n v j h1]

/-- `nearest` and `linear` in terms of the two neighbours `p = prevObs`, `q = nextObs` (characterised by the two rules above):
nearest takes `p` when `i - p ≤ q - i` (ties go back) and the only neighbour at the ends; linear is
`x_p + (x_q - x_p)·((i - p)/(q - p))` (IEEE operations: NaN for `inf - inf`) between two neighbours and flat beyond the outer observations -/
theorem fill_rule_nearest_linear (col : List Cell) (i p q : Nat) (hp : prevObs col i = some p) (hq : nextObs col i = some q) :
    fillAt .nearest col i = (if i - p ≤ q - i then colAt col p else colAt col q) ∧
    fillAt .linear col i = (match colAt col p, colAt col q with
      | some x, some y =>
        (y.sub x).bind (fun d => (d.mul (.fin (((i : Rat) - (p : Rat)) / ((q : Rat) - (p : Rat))))).bind (fun e => x.add e))
      | _, _ => none) := by
  constructor
  · simp [fillAt, hp, hq]
  · simp only [fillAt, hp, hq]
    cases colAt col p <;> cases colAt col q <;> rfl

theorem fill_rule_one_sided (col : List Cell) (i : Nat) :
    (∀ p, prevObs col i = some p → nextObs col i = none →
      fillAt .nearest col i = colAt col p ∧ fillAt .linear col i = colAt col p) ∧
    (∀ q, prevObs col i = none → nextObs col i = some q →
      fillAt .nearest col i = colAt col q ∧ fillAt .linear col i = colAt col q) := by
  constructor
  · intro p hp hq; simp [fillAt, hp, hq]
  · intro q hp hq; simp [fillAt, hp, hq]

/-- **extrapolate** (`extrapolate(ar_coeffs, span, intercept=c)`, any AR order `p`, any number of variants, a span of `n ≥ 1`
consecutive periods starting anywhere — inside the data, right after it, after a gap, before it):
(1) no cell outside the span changes, so the observed history before the span is untouched;
(2) every cell of the span satisfies `x_t = ρ_1 x_{t-1} + … + ρ_p x_{t-p} + c` (`arStep`, missing as soon as one of the `p`
    lags is missing), where the lags are, most recent first, the cells already extrapolated in the result
    `abs r (a+k-1) v … abs r a v` followed by the observed cells of the input before the span `abs s (a-1) v … abs s (a-p) v`
    (`lagsBefore`): lag `i` multiplies `ρ_i`, not `ρ_{p+1-i}`. (`log=True` is not modelled.) -/
theorem extrapolate_pointwise (s r : Series) (coeffs : List Rat) (c : Rat) (a : Int) (n : Nat) (hn : 1 ≤ n) (hI : Inv s)
    (st : Int) (hs : s.start = some st) (h : s.extrapolate coeffs c (spanList a n) = .ok r) :
    (∀ t v, ¬ (a ≤ t ∧ t < a + (n : Int)) → r.abs t v = s.abs t v) ∧
    (∀ k v, k < n → v < s.nv →
      r.abs (a + (k : Int)) v = arStep coeffs c
        (((List.range k).map (fun (j : Nat) => r.abs (a + (j : Int)) v)).reverse ++ lagsBefore s a coeffs.length v)) := by
  obtain ⟨n', rfl⟩ := Nat.exists_eq_add_one_of_ne_zero (Nat.pos_iff_ne_zero.mp hn)
  rw [spanList_succ] at h
  obtain ⟨h1, h2⟩ := extrapolate_pointwise_list s r coeffs c a (spanList (a + 1) n')
    (by rw [← spanList_succ]; exact spanList_nodup _ _) hI st hs h
  rw [← spanList_succ] at h1 h2
  rw [length_spanList] at h2
  -- the span holds the outputs of the recursion in order; each is one step from those before it
  have hspan : ∀ k v, k < n' + 1 → v < s.nv →
      r.abs (a + (k : Int)) v = ((arRun coeffs c (n' + 1) (lagsBefore s a coeffs.length v))[k]?).getD none :=
    fun k v hk hv => h2 k _ v (spanList_get a _ k hk) hv
  refine ⟨fun t v hout => h1 t v (mt (mem_spanList a _ t).mp hout), fun k v hk hv => ?_⟩
  rw [hspan k v hk hv, arRun_get coeffs c (n' + 1) _ k hk]
  have e : (List.range k).map (fun (j : Nat) => r.abs (a + (j : Int)) v) =
      (arRun coeffs c (n' + 1) (lagsBefore s a coeffs.length v)).take k := by
    apply List.ext_getElem (by rw [List.length_take, List.length_map, List.length_range, length_arRun]; omega)
    intro j hj _
    rw [List.length_map, List.length_range] at hj
    rw [List.getElem_map, List.getElem_range, hspan j v (by omega) hv, List.getElem_take,
      List.getElem?_eq_getElem (by rw [length_arRun]; omega), Option.getD_some]
  rw [e, Option.getD_some]

/-- a start-less series is returned as it is -/
theorem extrapolate_empty (s : Series) (coeffs : List Rat) (c : Rat) (serials : List Int) (hs : s.start = none) :
    s.extrapolate coeffs c serials = .ok s := by
  unfold Series.extrapolate
  rw [hs]
  rfl

/-- missing-strictness: a hole among the `p` lags makes the whole extrapolation missing, and the series is left as it was
(the lag order itself — with history 1, 2 and ρ = (0, 1) the span reads 1, 2, 1 — is the `extrapolate_pointwise` example
among the concrete instances below and is exercised by the directed correspondence lines) -/
example : (⟨.Q, some 8080, 1, [[some 1], [none], [some 2]]⟩ : Series).extrapolate [0, 1] 0 [8083, 8084]
    = .ok ⟨.Q, some 8080, 1, [[some 1], [none], [some 2]]⟩ := by decide +kernel

/-! ## NaN rules of the statistics (what `StatFn.eval` in `stat_pointwise` does with missing cells) -/

/-- the `nan*` statistics are the plain ones over the observed variants of the period -/
theorem stat_nan_rules (r : List Cell) :
    StatFn.nansum.eval r = sumQ (obsVals r) ∧ StatFn.nanprod.eval r = prodQ (obsVals r) ∧
    StatFn.nanmean.eval r = meanQ (obsVals r) ∧ StatFn.nanmin.eval r = minQ (obsVals r) ∧
    StatFn.nanmax.eval r = maxQ (obsVals r) := ⟨rfl, rfl, rfl, rfl, rfl⟩

/-- a period without any observation: `nansum` is 0, `nanprod` is 1, `nanmean`, `nanmin`, `nanmax` are missing -/
theorem stat_nan_all_missing (r : List Cell) (h : ∀ c ∈ r, c = none) :
    StatFn.nansum.eval r = some 0 ∧ StatFn.nanprod.eval r = some 1 ∧ StatFn.nanmean.eval r = none ∧
    StatFn.nanmin.eval r = none ∧ StatFn.nanmax.eval r = none := by
  simp [StatFn.eval, obsVals_nil_of_all_none r h, sumQ, prodQ, meanQ, minQ, maxQ]

/-- the plain statistics propagate a missing cell -/
theorem stat_plain_strict (r : List Cell) (h : none ∈ r) :
    StatFn.sum.eval r = none ∧ StatFn.prod.eval r = none ∧ StatFn.mean.eval r = none ∧
    StatFn.min.eval r = none ∧ StatFn.max.eval r = none := by
  simp [StatFn.eval, strictVals_none_of_mem r h]

/-! ## Only NaN is missing: ±∞ are observed values -/

/-- a row counts as all-missing exactly when every cell is NaN: an infinite value keeps its row (and hence its period) -/
theorem allNan_iff (r : Row) : allNan r = true ↔ ∀ c ∈ r, c = none := by
  simp only [allNan, List.all_eq_true, Option.isNone_iff_eq_none]

/-- a leading row whose only observation is infinite is not trimmed, an all-infinite series is not emptied, and a written
`inf` reads back as `inf` (all the theorems above are about `Cell = Option Num`, where `none` is NaN only) -/
example : (⟨.Q, some 8080, 2, [[some .ninf, none], [none, none], [some 1, some .pinf]]⟩ : Series).trim
      = ⟨.Q, some 8080, 2, [[some .ninf, none], [none, none], [some 1, some .pinf]]⟩ ∧
    (⟨.Q, some 8080, 1, [[some 1]]⟩ : Series).setData [8083] (.scalar (some .pinf)) [0]
      = .ok ⟨.Q, some 8080, 1, [[some 1], [none], [none], [some .pinf]]⟩ := by decide +kernel

/-- IEEE corner cases of the operators on observed values: `inf - inf` and `0 * inf` are NaN, everything else with an infinite
operand is infinite -/
example : BinFn.sub.eval (some .pinf) (some .pinf) = none ∧ BinFn.mul.eval (some 0) (some .ninf) = none ∧
    BinFn.add.eval (some .pinf) (some 5) = some .pinf ∧ BinFn.mul.eval (some .ninf) (some .ninf) = some .pinf ∧
    CmpFn.lt.eval (some .ninf) (some 0) = some 1 := by decide +kernel

/-! ## Every operation keeps the invariant; arbitrary op sequences -/

theorem pool_get_inv {p : Pool} {i : Nat} {s : Series} (hp : ∀ x ∈ p, Inv x) (h : p.get i = .ok s) : Inv s := by
  unfold Pool.get at h
  split at h
  · rename_i s0 hs0
    cases h
    exact hp _ (List.mem_of_getElem? hs0)
  · cases h

theorem pool_put_inv {p : Pool} {k : Nat} {s : Series} {p' : Pool} (hp : ∀ x ∈ p, Inv x) (hs : Inv s)
    (h : p.put k s = .ok p') : ∀ x ∈ p', Inv x := by
  obtain ⟨_, rfl⟩ := pool_put_ok h
  intro x hx
  rcases List.mem_or_eq_of_mem_set hx with h1 | h1
  · exact hp x h1
  · rw [h1]; exact hs

/-- `pool[k] = f(pool[i])` for an `f` that may raise -/
theorem put_bind_inv (f : Series → R Series) (hf : ∀ s r : Series, Inv s → f s = .ok r → Inv r) {p p' : Pool} {i k : Nat}
    {out : Output} (hp : ∀ x ∈ p, Inv x)
    (h : (do pure (← p.put k (← f (← p.get i)), Output.none) : R (Pool × Output)) = .ok (p', out)) :
    ∀ x ∈ p', Inv x := by
  simp only [Except.bind_eq_ok, pure, Except.pure, Except.ok.injEq, Prod.mk.injEq] at h
  obtain ⟨s, hs, r, hr, q, hq, rfl, _⟩ := h
  exact pool_put_inv hp (hf s r (pool_get_inv hp hs) hr) hq

/-- `pool[k] = g(pool[i])` for a total `g` that keeps the invariant -/
theorem put_map_inv (g : Series → Series) (hg : ∀ s : Series, Inv s → Inv (g s)) {p p' : Pool} {i k : Nat} {out : Output}
    (hp : ∀ x ∈ p, Inv x)
    (h : (do pure (← p.put k (g (← p.get i)), Output.none) : R (Pool × Output)) = .ok (p', out)) :
    ∀ x ∈ p', Inv x :=
  put_bind_inv (fun s => pure (g s)) (fun s r hs hr => by cases hr; exact hg s hs) hp h

/-- `pool[k] = f(pool[i], pool[j])` -/
theorem put_bind2_inv (f : Series → Series → R Series) (hf : ∀ a b r : Series, Inv a → Inv b → f a b = .ok r → Inv r)
    {p p' : Pool} {i j k : Nat} {out : Output} (hp : ∀ x ∈ p, Inv x)
    (h : (do pure (← p.put k (← f (← p.get i) (← p.get j)), Output.none) : R (Pool × Output)) = .ok (p', out)) :
    ∀ x ∈ p', Inv x := by
  simp only [Except.bind_eq_ok, pure, Except.pure, Except.ok.injEq, Prod.mk.injEq] at h
  obtain ⟨a, ha, b, hb, r, hr, q, hq, rfl, _⟩ := h
  exact pool_put_inv hp (hf a b r (pool_get_inv hp ha) (pool_get_inv hp hb) hr) hq

/-- one step of the protocol (any of the 26 operations, any arguments) keeps every series of the pool
rectangular and well-formed -/
theorem step_inv (p : Pool) (op : Op) (p' : Pool) (out : Output) (hp : ∀ x ∈ p, Inv x)
    (h : step p op = .ok (p', out)) : ∀ x ∈ p', Inv x := by
  -- sixteen operations are, by definition of `step`, one of the three shapes above
  cases op with
  | new k f nv =>
    simp only [step.eq_def, Except.bind_eq_ok, pure, Except.pure, Except.ok.injEq, Prod.mk.injEq] at h
    obtain ⟨q, hq, rfl, _⟩ := h
    exact pool_put_inv hp (inv_new f nv) hq
  | init k f st nv rows =>
    simp only [step.eq_def, pure, Except.pure] at h
    split at h
    · rename_i hall
      simp only [Except.bind_eq_ok, Except.ok.injEq, Prod.mk.injEq] at h
      obtain ⟨q, hq, rfl, _⟩ := h
      refine pool_put_inv hp (inv_trim _ ⟨?_, by intro h; cases h⟩) hq
      intro r hr
      have := (List.all_eq_true.mp hall) r hr
      simpa using this
    · cases h
  | set i dates vars src =>
    simp only [step.eq_def, Except.bind_eq_ok, pure, Except.pure, Except.ok.injEq, Prod.mk.injEq] at h
    obtain ⟨s, hs, ps, _, d, _, s2, hs2, q, hq, rfl, _⟩ := h
    exact pool_put_inv hp (inv_setDataP s ps d vars s2 (pool_get_inv hp hs) hs2) hq
  | get i dates vars =>
    simp only [step.eq_def, Except.bind_eq_ok, pure, Except.pure, Except.ok.injEq, Prod.mk.injEq] at h
    obtain ⟨s, _, ps, _, d, _, rfl, _⟩ := h
    exact hp
  | gfu i a b vars =>
    simp only [step.eq_def, Except.bind_eq_ok, pure, Except.pure, Except.ok.injEq, Prod.mk.injEq] at h
    obtain ⟨s, _, d, _, rfl, _⟩ := h
    exact hp
  | call k i dates vars =>
    simp only [step.eq_def, Except.bind_eq_ok, pure, Except.pure, Except.ok.injEq, Prod.mk.injEq] at h
    obtain ⟨s, _, ps, _, s2, hs2, q, hq, rfl, _⟩ := h
    exact pool_put_inv hp (inv_recreateP s ps vars s2 hs2) hq
  | shift i b | fshift k i b => exact put_bind_inv (·.shiftBy b) (inv_shiftBy b) hp h
  | clip i a b => exact put_bind_inv (·.clipP a b) (inv_clipP a b) hp h
  | overlay i j | foverlay k i j => exact put_bind2_inv Series.overlayS inv_overlayS hp h
  | underlay i j | funderlay k i j => exact put_bind2_inv Series.underlayS inv_underlayS hp h
  | hstack k is =>
    simp only [step.eq_def, Except.bind_eq_ok, pure, Except.pure, Except.ok.injEq, Prod.mk.injEq] at h
    obtain ⟨l, hl, r, hr, q, hq, rfl, _⟩ := h
    refine pool_put_inv hp (inv_hstackS l r ?_ hr) hq
    intro s hs
    obtain ⟨i, _, hi⟩ := mapM_ok_mem hl hs
    exact pool_get_inv hp hi
  | binop k f i j => exact put_bind2_inv (Series.binopS f.eval) (fun a b r _ _ => inv_binopS _ a b r) hp h
  | cmp f i j =>
    simp only [step.eq_def, Except.bind_eq_ok, pure, Except.pure, Except.ok.injEq, Prod.mk.injEq] at h
    obtain ⟨a, _, b, _, r, _, rfl, _⟩ := h
    exact hp
  | scalar k f i c r => exact put_map_inv (Series.apply (scalarFn f c r)) (inv_apply _) hp h
  | unary k g i => exact put_map_inv (mapCells g.eval) (inv_mapCells _) hp h
  | trim i => exact put_map_inv Series.trim inv_trim hp h
  | empty i => exact put_map_inv Series.empty (fun s _ => inv_empty s) hp h
  | copy k i => exact put_map_inv id (fun _ hs => hs) hp h
  | stat k i f => exact put_bind_inv (Series.rowStat f) (inv_rowStat f) hp h
  | mov k i f w => exact put_bind_inv (Series.movWindow f w) (inv_movWindow f w) hp h
  | fill k i m dates =>
    simp only [step.eq_def, Except.bind_eq_ok, pure, Except.pure, Except.ok.injEq, Prod.mk.injEq] at h
    obtain ⟨s, hs, ps, _, r, hr, q, hq, rfl, _⟩ := h
    exact pool_put_inv hp (inv_fillMissingP s m ps r (pool_get_inv hp hs) hr) hq
  | replaceWhere i t new => exact put_map_inv (Series.replaceWhere t new) (inv_replaceWhere t new) hp h
  | extrap k i coeffs c dates =>
    simp only [step.eq_def, Except.bind_eq_ok, pure, Except.pure] at h
    obtain ⟨s, hs, h2⟩ := h
    have hIs := pool_get_inv hp hs
    split at h2
    · simp only [Except.bind_eq_ok, Except.ok.injEq, Prod.mk.injEq] at h2
      obtain ⟨q, hq, rfl, _⟩ := h2
      exact pool_put_inv hp hIs hq
    · simp only [Except.bind_eq_ok, Except.ok.injEq, Prod.mk.injEq] at h2
      obtain ⟨ps, _, r, hr, q, hq, rfl, _⟩ := h2
      exact pool_put_inv hp (inv_extrapolateP s coeffs c ps r hIs hr) hq

/-- **Arbitrary op sequences.** Starting from a pool of well-formed series (e.g. `Series()` everywhere), after any
sequence of operations that runs to completion every series of the pool is rectangular and well-formed -/
theorem reachable_inv (ops : List Op) : ∀ (p p' : Pool), (∀ x ∈ p, Inv x) → run p ops = .ok p' → ∀ x ∈ p', Inv x := by
  induction ops with
  | nil =>
    intro p p' hp h
    cases h; exact hp
  | cons op rest ih =>
    intro p p' hp h
    simp only [run, Except.bind_eq_ok] at h
    obtain ⟨⟨q, out⟩, hq, h2⟩ := h
    exact ih q p' (step_inv p op q out hp hq) h2

/-- hence in every reachable state the reported span covers every value, and a series without a start is empty -/
theorem reachable_covers (ops : List Op) (n : Nat) (p' : Pool) (h : run (List.replicate n (Series.new .I 1)) ops = .ok p')
    (x : Series) (hx : x ∈ p') : (∀ t v, x.abs t v ≠ none → InSpan x t) ∧ (x.start = none → x.rows = []) ∧ Rect x := by
  -- the pool `Driver/C10` starts from: `n` times `Series()`
  have hi := reachable_inv ops _ p' (by
    intro y hy
    rw [List.mem_replicate] at hy
    rw [hy.2]; exact inv_new _ _) h x hx
  exact ⟨fun t v => covers x t v, hi.2, hi.1⟩

/-! ## Isolation on the heap model (`Model/SeriesHeap.lean`): no two pool objects ever share a data buffer -/

/-- no two slots hold the same buffer class, and every class in use is older than the next fresh one -/
def Owned (h : Heap) : Prop :=
  (∀ (i j a : Nat), i ≠ j → h.arrs[i]? = some a → h.arrs[j]? ≠ some a) ∧ ∀ a ∈ h.arrs, a < h.next

theorem heap_init_owned (n : Nat) : Owned (Heap.init n) :=
  ⟨fun _ _ _ hij hi hj =>
      hij ((List.getElem?_inj (List.getElem?_eq_some_iff.mp hi).1 List.nodup_range).mp (hi.trans hj.symm)),
    fun _ ha => List.mem_range.mp ha⟩

/-- a functional form / `copy()` / `underlay` puts a buffer that no slot held before into its target slot and leaves every
other slot alone; an in-place method or a read changes no slot's buffer class at all -/
theorem heap_step_spec (h : Heap) (op : Op) (hO : Owned h) :
    (∀ k, op.target = some (k, .fresh) → k < h.arrs.length →
      (h.step op).arrs[k]? = some h.next ∧ h.next ∉ h.arrs ∧ ∀ j, j ≠ k → (h.step op).arrs[j]? = h.arrs[j]?) ∧
    ((∀ k, op.target ≠ some (k, .fresh)) → h.step op = h) := by
  constructor
  · intro k hk hlt
    simp only [Heap.step, hk, hlt, if_true]
    refine ⟨List.getElem?_set_self hlt, fun hm => Nat.lt_irrefl _ (hO.2 _ hm), fun j hj => ?_⟩
    rw [List.getElem?_set, if_neg (fun e => hj e.symm)]
  · intro hn
    unfold Heap.step
    split
    · rename_i k hk
      exact absurd hk (hn k)
    · rfl

theorem heap_step_owned (h : Heap) (op : Op) (hO : Owned h) : Owned (h.step op) := by
  unfold Heap.step
  split
  · split
    · rename_i k _ hlt
      -- a fresh buffer in slot `k`: no slot held it, and the other slots are as they were
      have hfresh : ∀ j, h.arrs[j]? ≠ some h.next := fun j e => Nat.lt_irrefl _ (hO.2 _ (List.mem_of_getElem? e))
      refine ⟨fun i j a hij hi hj => ?_, fun a ha => ?_⟩
      · by_cases ci : k = i
        · rw [← ci, List.getElem?_set_self hlt] at hi
          rw [List.getElem?_set_ne fun cj => hij (ci.symm.trans cj)] at hj
          cases hi
          exact hfresh j hj
        · rw [List.getElem?_set_ne ci] at hi
          by_cases cj : k = j
          · rw [← cj, List.getElem?_set_self hlt] at hj
            cases hj
            exact hfresh i hi
          · rw [List.getElem?_set_ne cj] at hj
            exact hO.1 i j a hij hi hj
      · rcases List.mem_or_eq_of_mem_set ha with h1 | rfl
        · exact Nat.lt_succ_of_lt (hO.2 a h1)
        · exact Nat.lt_succ_self _
    · exact hO
  · exact hO

/-- **Isolation over op sequences**: from a pool of distinct objects, after any sequence of operations no two pool objects
share a data buffer (the model's counterpart of the `np.shares_memory` partition the harness observes after every op) -/
theorem heap_reachable_owned (ops : List Op) : ∀ (h : Heap), Owned h → Owned (h.run ops) := by
  induction ops with
  | nil => intro h hO; exact hO
  | cons op rest ih => intro h hO; exact ih _ (heap_step_owned h op hO)

example : ((Heap.init 3).run [.copy 1 0, .underlay 1 0, .shift 0 (.by_ 1), .binop 2 .add 0 1]).classes = [0, 1, 2] := by decide +kernel

/-! ## Concrete non-trivial instances of the hypotheses (the operations succeed on real data, arithmetic included) -/

/-- `binop_pointwise`: overlapping spans with a hole -/
example : (⟨.Q, some 8080, 1, [[some 1], [some 2], [some 3]]⟩ : Series).binop BinFn.add.eval ⟨.Q, some 8081, 1, [[some 5], [none], [some 7]]⟩
    = .ok ⟨.Q, some 8081, 1, [[some 7]]⟩ := by decide +kernel

/-- `overlay_by_span_broadcast` / `underlay_by_span_broadcast`: 2 vs 1 variants, the hole of `other` inside its span wins -/
example : (⟨.Q, some 8080, 2, [[some 1, some 2], [some 3, some 4], [some 5, some 6]]⟩ : Series).overlay ⟨.Q, some 8081, 1, [[none], [some 9], [some 8]]⟩
    = .ok ⟨.Q, some 8080, 2, [[some 1, some 2], [none, none], [some 9, some 9], [some 8, some 8]]⟩ ∧
    (⟨.Q, some 8081, 1, [[some 9], [none]]⟩ : Series).underlay ⟨.Q, some 8080, 2, [[some 1, some 2], [some 3, some 4], [some 5, some 6], [some 7, some 8]]⟩
    = .ok ⟨.Q, some 8080, 2, [[some 1, some 2], [some 9, some 9], [none, none], [some 7, some 8]]⟩ := by decide +kernel

/-- `hstackS_pointwise`: different spans, 1 + 2 variants -/
example : hstackS [⟨.Q, some 8080, 1, [[some 1], [some 2]]⟩, ⟨.Q, some 8081, 2, [[some 3, none], [some 5, some 6]]⟩]
    = .ok ⟨.Q, some 8080, 3, [[some 1, none, none], [some 2, some 3, none], [none, some 5, some 6]]⟩ := by decide +kernel

/-- `stat_pointwise`, `moving_window_pointwise`: sums with a missing cell and with an infinite value -/
example : (⟨.Q, some 8080, 2, [[some 1, some 3], [none, some .pinf], [some 2, some .ninf]]⟩ : Series).rowStat .sum
      = .ok ⟨.Q, some 8080, 1, [[some 4], [none], [some .ninf]]⟩ ∧
    (⟨.Q, some 8080, 2, [[some 1, some 3], [none, some .pinf], [some 2, some .ninf]]⟩ : Series).rowStat .nansum
      = .ok ⟨.Q, some 8080, 1, [[some 4], [some .pinf], [some .ninf]]⟩ ∧
    (⟨.Q, some 8080, 1, [[some 1], [some 2], [some 4], [some 8]]⟩ : Series).movWindow .sum (some (-2))
      = .ok ⟨.Q, some 8081, 1, [[some 3], [some 6], [some 12]]⟩ := by decide +kernel

/-- `extrapolate_pointwise`: the lag order matters from order 2 on — history 1, 2 and ρ = (0, 1) give 1, 2, 1 -/
example : (⟨.Q, some 8080, 1, [[some 1], [some 2]]⟩ : Series).extrapolate [0, 1] 0 (spanList 8082 3)
    = .ok ⟨.Q, some 8080, 1, [[some 1], [some 2], [some 1], [some 2], [some 1]]⟩ := by decide +kernel

/-- `fill_missing_pointwise`: linear interpolation over a gap of two, flat beyond the last observation -/
example : (⟨.Q, some 8080, 1, [[some 1], [none], [none], [some 4]]⟩ : Series).fillMissingP .linear
      ((spanList 8080 5).map (fun x => (⟨.Q, x⟩ : Period)))
    = .ok ⟨.Q, some 8080, 1, [[some 1], [some 2], [some 3], [some 4], [some 4]]⟩ := by decide +kernel

/-- `clip_restricts`, `replace_where_pointwise` -/
example : (⟨.Q, some 8080, 1, [[some 1], [none], [some 3], [some 4]]⟩ : Series).clip (some 8081) none
      = .ok ⟨.Q, some 8081, 1, [[none], [some 3], [some 4]]⟩ ∧
    (⟨.Q, some 8080, 1, [[some 1], [none], [some 3], [some 4]]⟩ : Series).replaceWhere (.gt 2) none
      = ⟨.Q, some 8080, 1, [[some 1]]⟩ := by decide +kernel

/-! ## The refinement statement in one place -/

/-- **Every operation refines the map.** The conjunction of the `abs`-level equations proved above, per op kind of `step`:
* `set` / `x[dates, variants] = data`, `call`, `init` — `write_refines_map` (+ frame, scalar closed form), `read_is_abs` (`get`),
  `slice_is_abs` (`gfu`)
* `shift`, `fshift`, `idx` — `shift_moves_abs`;  `clip` — `clip_restricts`;  `trim` — `trim_preserves_abs` + `trim_establishes_trimmed`
* `overlay`, `foverlay`, `underlay`, `funderlay` — `overlay_by_span_broadcast`, `underlay_by_span_broadcast`
* `hstack` — `hstackS_pointwise`
* `bin`, `cmp` — `binop_pointwise_broadcast`;  `sc`, `rsc` — `apply_pointwise`;  `un` — `unary_pointwise`
* `stat`, `mstat` — `stat_pointwise`;  `mov`, `mmov` — `moving_window_pointwise`
* `fill`, `mfill` — `fill_missing_pointwise`;  `rw` — `replace_where_pointwise`;  `extrap`, `mextrap` — `extrapolate_pointwise`
* every op, every sequence — `step_inv`, `reachable_inv`, `covers`
(`new`, `empty`, `copy` are the empty map, the empty map with the start kept, and the identity, by definition.) -/
theorem op_refines_map : type_of% (And.intro @write_refines_map (And.intro @read_is_abs (And.intro @slice_is_abs
    (And.intro @shift_moves_abs (And.intro @clip_restricts (And.intro @trim_preserves_abs (And.intro @overlay_by_span_broadcast
    (And.intro @underlay_by_span_broadcast (And.intro @hstackS_pointwise (And.intro @binop_pointwise_broadcast
    (And.intro @apply_pointwise (And.intro @unary_pointwise (And.intro @stat_pointwise (And.intro @moving_window_pointwise
    (And.intro @fill_missing_pointwise (And.intro @replace_where_pointwise (And.intro @extrapolate_pointwise
    (And.intro @step_inv (And.intro @reachable_inv @covers))))))))))))))))))) :=
  ⟨@write_refines_map, @read_is_abs, @slice_is_abs, @shift_moves_abs, @clip_restricts, @trim_preserves_abs,
    @overlay_by_span_broadcast, @underlay_by_span_broadcast, @hstackS_pointwise, @binop_pointwise_broadcast, @apply_pointwise,
    @unary_pointwise, @stat_pointwise, @moving_window_pointwise, @fill_missing_pointwise, @replace_where_pointwise,
    @extrapolate_pointwise, @step_inv, @reachable_inv, @covers⟩

end IrisVerif.C10
