/-
Lemmas about the numpy-flavoured helpers of `Model/QMatNp.lean` (entry formulas, dimensions, Python slice bounds on
natural-number arguments) and rules that read a numpy expression off as a grid of entries (`Is a R C f`, one rule per
operation or loop shape), shared by the `Props/GenTieCxx.lean` files, which prove that the hand-written executable
models equal the definitions that `tools/gens/npmat*.py` regenerate from /repo's numpy source on every run.
In those proofs `simp only []` after `unfold` is the step that opens the `let`s and `match`es of a generated definition.
-/
import IrisVerif.Lemmas.QMatRefines
import IrisVerif.Model.QMatNp

namespace IrisVerif.GenTie

open IrisVerif IrisVerif.QMat

theorem ofFn_congr (r c : Nat) (f g : Nat → Nat → Rat) (h : ∀ i j, i < r → j < c → f i j = g i j) :
    QMat.ofFn r c f = QMat.ofFn r c g :=
  congrArg (QMat.mk r c) (grid_congr r c f g h)

theorem ofFn_congr' {r r' c c' : Nat} (f g : Nat → Nat → Rat) (hr : r = r') (hc : c = c')
    (h : ∀ i j, i < r → j < c → f i j = g i j) : QMat.ofFn r c f = QMat.ofFn r' c' g := by
  subst hr; subst hc; exact ofFn_congr r c f g h

theorem ofFn_get (a : QMat) (hw : a.wellShaped = true) {r c : Nat} (hr : a.rows = r) (hc : a.cols = c) :
    QMat.ofFn r c a.get = a := by
  subst hr; subst hc; exact (eq_ofFn_of_wellShaped a hw).symm

open QMatNp

@[simp] theorem sliceIdx_natCast (n k : Nat) : sliceIdx n (k : Int) = min k n := by
  rw [sliceIdx, if_neg (Int.not_lt.mpr (Int.natCast_nonneg k)), Int.toNat_natCast]

theorem sliceIdx_neg (n k : Nat) (hk : 0 < k) : sliceIdx n (-(k : Int)) = n - k := by
  rw [sliceIdx, if_pos (Int.neg_neg_of_pos (Int.natCast_pos.mpr hk)), neg_add_eq_sub, Int.toNat_sub]

@[simp] theorem lo_none (n : Nat) : lo n none = 0 := rfl
@[simp] theorem hi_none (n : Nat) : hi n none = n := rfl
@[simp] theorem lo_some_nat (n k : Nat) : lo n (some (k : Int)) = min k n := sliceIdx_natCast n k
@[simp] theorem hi_some_nat (n k : Nat) : hi n (some (k : Int)) = min k n := sliceIdx_natCast n k

theorem sliceIdx_le (n : Nat) (k : Int) : sliceIdx n k ≤ n := by
  unfold sliceIdx
  split
  · omega
  · exact Nat.min_le_right _ _

theorem hi_le (n : Nat) (k : Option Int) : hi n k ≤ n := by
  cases k
  · exact Nat.le_refl n
  · exact sliceIdx_le n _

@[simp] theorem slice_rows (a : QMat) (r0 r1 c0 c1 : Option Int) :
    (slice a r0 r1 c0 c1).rows = hi a.rows r1 - lo a.rows r0 := rfl
@[simp] theorem slice_cols (a : QMat) (r0 r1 c0 c1 : Option Int) :
    (slice a r0 r1 c0 c1).cols = hi a.cols c1 - lo a.cols c0 := rfl
@[simp] theorem wellShaped_slice (a : QMat) (r0 r1 c0 c1 : Option Int) : (slice a r0 r1 c0 c1).wellShaped = true :=
  wellShaped_ofFn _ _ _

theorem get_slice (a : QMat) (r0 r1 c0 c1 : Option Int) (i j : Nat) :
    (slice a r0 r1 c0 c1).get i j =
      if i < hi a.rows r1 - lo a.rows r0 ∧ j < hi a.cols c1 - lo a.cols c0
      then a.get (lo a.rows r0 + i) (lo a.cols c0 + j) else 0 := by
  unfold slice; rw [get_block]

@[simp] theorem setSlice_rows (a : QMat) (r0 r1 c0 c1 : Option Int) (e : QMat) : (setSlice a r0 r1 c0 c1 e).rows = a.rows := rfl
@[simp] theorem setSlice_cols (a : QMat) (r0 r1 c0 c1 : Option Int) (e : QMat) : (setSlice a r0 r1 c0 c1 e).cols = a.cols := rfl
@[simp] theorem wellShaped_setSlice (a : QMat) (r0 r1 c0 c1 : Option Int) (e : QMat) :
    (setSlice a r0 r1 c0 c1 e).wellShaped = true := wellShaped_ofFn _ _ _

theorem get_setSlice (a : QMat) (r0 r1 c0 c1 : Option Int) (e : QMat) (i j : Nat) (hi' : i < a.rows) (hj : j < a.cols) :
    (setSlice a r0 r1 c0 c1 e).get i j =
      if lo a.rows r0 ≤ i ∧ i < hi a.rows r1 ∧ lo a.cols c0 ≤ j ∧ j < hi a.cols c1
      then e.get (i - lo a.rows r0) (j - lo a.cols c0) else a.get i j := by
  unfold setSlice; rw [get_ofFn_of_lt _ _ _ _ _ hi' hj]

@[simp] theorem fillSlice_rows (a : QMat) (r0 r1 c0 c1 : Option Int) (v : Rat) : (fillSlice a r0 r1 c0 c1 v).rows = a.rows := rfl
@[simp] theorem fillSlice_cols (a : QMat) (r0 r1 c0 c1 : Option Int) (v : Rat) : (fillSlice a r0 r1 c0 c1 v).cols = a.cols := rfl
@[simp] theorem wellShaped_fillSlice (a : QMat) (r0 r1 c0 c1 : Option Int) (v : Rat) :
    (fillSlice a r0 r1 c0 c1 v).wellShaped = true := wellShaped_ofFn _ _ _

theorem get_fillSlice (a : QMat) (r0 r1 c0 c1 : Option Int) (v : Rat) (i j : Nat) (hi' : i < a.rows) (hj : j < a.cols) :
    (fillSlice a r0 r1 c0 c1 v).get i j =
      if lo a.rows r0 ≤ i ∧ i < hi a.rows r1 ∧ lo a.cols c0 ≤ j ∧ j < hi a.cols c1 then v else a.get i j := by
  unfold fillSlice; rw [get_ofFn_of_lt _ _ _ _ _ hi' hj]

/-- numpy's `X / k` is the model's `(1/k) · X` -/
theorem smul_one_div_eq_divScalar (k : Rat) (x : QMat) : QMat.smul (1 / k) x = divScalar x k := by
  unfold QMat.smul divScalar
  apply ofFn_congr
  intro i j _ _
  rw [div_eq_mul_inv, div_eq_mul_inv, one_mul, mul_comm]

theorem addScalar_zero (a : QMat) (hw : a.wellShaped = true) : QMatNp.addScalar a 0 = a :=
  (ofFn_congr _ _ _ _ fun _ _ _ _ => add_zero _).trans (ofFn_get a hw rfl rfl)

@[simp] theorem zeros_shape (a : QMat) : zeros (shape a) = QMat.zero a.rows a.cols := rfl

@[simp] theorem zeros_natCast (m n : Nat) : zeros ((m : Int), (n : Int)) = QMat.zero m n := rfl

theorem zeros_sub_left (n k m : Nat) : zeros (((n : Int) - (k : Int)), (m : Int)) = QMat.zero (n - k) m := by
  rw [zeros, Int.toNat_sub]
  rfl

@[simp] theorem shape_fst (a : QMat) : (shape a).1 = (a.rows : Int) := rfl
@[simp] theorem shape_snd (a : QMat) : (shape a).2 = (a.cols : Int) := rfl

@[simp] theorem eye_natCast (n : Nat) : eye (n : Int) = QMat.identity n := rfl

theorem range_natCast (n : Nat) : QMatNp.range (n : Int) = (List.range n).map Int.ofNat := rfl

theorem foldl_range_natCast {β : Type} (n : Nat) (f : β → Int → β) (b : β) :
    (QMatNp.range (n : Int)).foldl f b = (List.range n).foldl (fun acc (i : Nat) => f acc (i : Int)) b := by
  rw [range_natCast, List.foldl_map]
  rfl

theorem range_sub (n k : Nat) : QMatNp.range ((n : Int) - (k : Int)) = (List.range (n - k)).map Int.ofNat := by
  rw [QMatNp.range, Int.toNat_sub]

theorem foldl_range_sub {β : Type} (n k : Nat) (f : β → Int → β) (b : β) :
    (QMatNp.range ((n : Int) - (k : Int))).foldl f b = (List.range (n - k)).foldl (fun acc (i : Nat) => f acc (i : Int)) b := by
  rw [range_sub, List.foldl_map]
  rfl

@[simp] theorem index?_natCast (n k : Nat) : index? n (k : Int) = if k < n then some k else none := by
  rw [index?, if_neg (Int.not_lt.mpr (Int.natCast_nonneg k)), Int.toNat_natCast]

theorem listGet_natCast {α : Type} (xs : List α) (k : Nat) (d : α) : listGet xs (k : Int) d = xs.getD k d := by
  rw [listGet, index?_natCast]
  by_cases h : k < xs.length
  · rw [if_pos h]
  · rw [if_neg h, List.getD_eq_getElem?_getD, List.getElem?_eq_none (Nat.le_of_not_lt h)]
    rfl

theorem listSet_natCast {α : Type} (xs : List α) (k : Nat) (v : α) : listSet xs (k : Int) v = xs.set k v := by
  rw [listSet, index?_natCast]
  by_cases h : k < xs.length
  · rw [if_pos h]
  · rw [if_neg h, List.set_eq_of_length_le (Nat.le_of_not_lt h)]

@[simp] theorem replicate_natCast {α : Type} (n : Nat) (v : α) : QMatNp.replicate (n : Int) v = List.replicate n v := rfl

theorem enumerate_eq {α : Type} (xs : List α) (d : α) :
    QMatNp.enumerate xs = (List.range xs.length).map (fun (i : Nat) => ((i : Int), xs.getD i d)) := by
  unfold QMatNp.enumerate
  apply List.ext_getElem
  · simp
  · intro i h1 h2
    simp only [List.length_zip, List.length_map, List.length_range, Nat.min_self] at h1
    simp [List.getD_eq_getElem?_getD, List.getElem?_eq_getElem h1]

theorem foldl_enumerate {α β : Type} (xs : List α) (d : α) (F : β → Int × α → β) (b : β) :
    (QMatNp.enumerate xs).foldl F b = (List.range xs.length).foldl (fun acc (i : Nat) => F acc ((i : Int), xs.getD i d)) b := by
  rw [enumerate_eq xs d, List.foldl_map]

theorem foldl_pair {α β γ : Type} (xs : List γ) (f : α → γ → α) (g : β → γ → β) (a : α) (b : β) :
    xs.foldl (fun (st : α × β) x => (f st.1 x, g st.2 x)) (a, b) = (xs.foldl f a, xs.foldl g b) :=
  Prod.ext (List.foldl_hom Prod.fst fun _ _ => rfl).symm (List.foldl_hom Prod.snd fun _ _ => rfl).symm

theorem getD_map_ofNat (lw : List Nat) (i : Nat) : (lw.map Int.ofNat).getD i 0 = ((lw.getD i 0 : Nat) : Int) := by
  simp only [List.getD_eq_getElem?_getD, List.getElem?_map]
  cases lw[i]? <;> rfl

theorem foldl_set_chain_prefix {α : Type} (g : Nat → α) (F : Option α → α) (hF : ∀ i, F (some (g i)) = g (i + 1))
    (m d : Nat) :
    (List.range m).foldl (fun (xs : List (Option α)) (i : Nat) => xs.set (i + 1) (some (F (xs.getD i none))))
      (some (g 0) :: List.replicate (m + d) none)
      = (List.range (m + 1)).map (fun j => some (g j)) ++ List.replicate d none := by
  induction m generalizing d with
  | zero =>
    rw [Nat.zero_add]
    rfl
  | succ m ih =>
    have hl : ((List.range (m + 1)).map fun j => some (g j)).length = m + 1 := by rw [List.length_map, List.length_range]
    rw [List.range_succ, List.foldl_concat, Nat.add_assoc, Nat.add_comm 1 d, ih (d + 1)]
    -- pass `m` writes the first `None` behind the `m + 1` entries built so far and reads the last of them
    rw [List.set_append_right _ _ (Nat.le_of_eq hl), hl, Nat.sub_self, List.getD_eq_getElem?_getD,
      List.getElem?_append_left (hl.symm ▸ Nat.lt_succ_self m), List.getElem?_map,
      List.getElem?_range (Nat.lt_succ_self m), Option.map_some, Option.getD_some, hF]
    rw [List.range_succ (n := m + 1), List.map_append, List.append_assoc]
    rfl

/-- the list idiom `xs = [None]*(k+1); xs[0] = g0; for i in range(k): xs[i+1] = F(xs[i])` builds `[g 0, …, g k]` -/
theorem foldl_set_chain {α : Type} (k : Nat) (g : Nat → α) (F : Option α → α)
    (hF : ∀ i, F (some (g i)) = g (i + 1)) :
    (List.range k).foldl (fun (xs : List (Option α)) (i : Nat) => xs.set (i + 1) (some (F (xs.getD i none))))
      ((List.replicate (k + 1) none).set 0 (some (g 0)))
      = (List.range (k + 1)).map (fun j => some (g j)) :=
  (foldl_set_chain_prefix g F hF k 0).trans (List.append_nil _)

theorem setEntry_natCast (a : QMat) (p q : Nat) (v : Rat) (hp : p < a.rows) (hq : q < a.cols) :
    setEntry a (p : Int) (q : Int) v = QMat.ofFn a.rows a.cols (fun r c => if r = p ∧ c = q then v else a.get r c) := by
  rw [setEntry, index?_natCast, index?_natCast, if_pos hp, if_pos hq]

/-- `a` is the `R × C` matrix with entries `f`: `a = QMat.ofFn R C f` (`Is.eq_ofFn`, `Is.ofFn`), kept as the four facts
that the rules below use one by one -/
structure Is (a : QMat) (R C : Nat) (f : Nat → Nat → Rat) : Prop where
  rows : a.rows = R
  cols : a.cols = C
  ws : a.wellShaped = true
  get : ∀ r c, r < R → c < C → a.get r c = f r c

theorem Is.eq_ofFn {a : QMat} {R C : Nat} {f : Nat → Nat → Rat} (h : Is a R C f) : a = QMat.ofFn R C f := by
  obtain ⟨rfl, rfl, hw, hf⟩ := h
  exact (eq_ofFn_of_wellShaped a hw).trans (ofFn_congr _ _ _ _ hf)

theorem Is.ofFn (R C : Nat) (f : Nat → Nat → Rat) : Is (QMat.ofFn R C f) R C f :=
  ⟨rfl, rfl, wellShaped_ofFn _ _ _, fun _ _ => get_ofFn_of_lt _ _ _ _ _⟩

theorem Is.zero (R C : Nat) : Is (QMat.zero R C) R C (fun _ _ => 0) := Is.ofFn R C _

theorem Is.congr {a : QMat} {R C : Nat} {f g : Nat → Nat → Rat} (h : Is a R C f)
    (hfg : ∀ r c, r < R → c < C → f r c = g r c) : Is a R C g :=
  ⟨h.rows, h.cols, h.ws, fun r c hr hc => (h.get r c hr hc).trans (hfg r c hr hc)⟩

/-- `a[p, q] = v` with both indices in range -/
theorem Is.setEntry {a : QMat} {R C : Nat} {f : Nat → Nat → Rat} (h : Is a R C f) (p q : Nat) (v : Rat)
    (hp : p < R) (hq : q < C) :
    Is (QMatNp.setEntry a (p : Int) (q : Int) v) R C (fun r c => if r = p ∧ c = q then v else f r c) := by
  rw [setEntry_natCast a p q v (h.rows ▸ hp) (h.cols ▸ hq), h.rows, h.cols]
  exact (Is.ofFn R C _).congr fun r c hr hc => by rw [h.get r c hr hc]

theorem Is.sub {a b : QMat} {R C : Nat} {f g : Nat → Nat → Rat} (ha : Is a R C f) (hb : Is b R C g) :
    Is (a - b) R C (fun i j => f i j - g i j) :=
  ⟨ha.rows, ha.cols, wellShaped_ofFn _ _ _, fun i j hi hj => by
    rw [get_sub, if_pos ⟨ha.rows ▸ hi, ha.cols ▸ hj⟩, ha.get i j hi hj, hb.get i j hi hj]⟩

theorem Is.add {a b : QMat} {R C : Nat} {f g : Nat → Nat → Rat} (ha : Is a R C f) (hb : Is b R C g) :
    Is (a + b) R C (fun i j => f i j + g i j) :=
  ⟨ha.rows, ha.cols, wellShaped_ofFn _ _ _, fun i j hi hj => by
    rw [get_add, if_pos ⟨ha.rows ▸ hi, ha.cols ▸ hj⟩, ha.get i j hi hj, hb.get i j hi hj]⟩

theorem Is.smul {a : QMat} {R C : Nat} {f : Nat → Nat → Rat} (c : Rat) (ha : Is a R C f) :
    Is (QMat.smul c a) R C (fun i j => c * f i j) :=
  ⟨ha.rows, ha.cols, wellShaped_ofFn _ _ _, fun i j hi hj => by
    rw [get_smul, if_pos ⟨ha.rows ▸ hi, ha.cols ▸ hj⟩, ha.get i j hi hj]⟩

/-- `a[r0:r1, c0:c1]`, for any bounds -/
theorem Is.slice {a : QMat} {R C : Nat} {f : Nat → Nat → Rat} (h : Is a R C f) (r0 r1 c0 c1 : Option Int) :
    Is (QMatNp.slice a r0 r1 c0 c1) (hi R r1 - lo R r0) (hi C c1 - lo C c0)
      (fun i j => f (lo R r0 + i) (lo C c0 + j)) := by
  obtain ⟨rfl, rfl, -, hf⟩ := h
  refine ⟨rfl, rfl, wellShaped_slice _ _ _ _ _, fun i j hi' hj' => ?_⟩
  rw [get_slice, if_pos ⟨hi', hj'⟩, hf _ _ (Nat.lt_of_lt_of_le (Nat.add_lt_of_lt_sub' hi') (hi_le _ r1))
    (Nat.lt_of_lt_of_le (Nat.add_lt_of_lt_sub' hj') (hi_le _ c1))]

/-- `a[r0:r1, c0:c1] = e`, for any bounds and any `e` -/
theorem Is.setSlice {a : QMat} {R C : Nat} {f : Nat → Nat → Rat} (h : Is a R C f) (r0 r1 c0 c1 : Option Int) (e : QMat) :
    Is (QMatNp.setSlice a r0 r1 c0 c1 e) R C (fun i j =>
      if lo R r0 ≤ i ∧ i < hi R r1 ∧ lo C c0 ≤ j ∧ j < hi C c1 then e.get (i - lo R r0) (j - lo C c0) else f i j) := by
  obtain ⟨rfl, rfl, -, hf⟩ := h
  refine ⟨rfl, rfl, wellShaped_setSlice _ _ _ _ _ _, fun i j hi' hj' => ?_⟩
  rw [get_setSlice _ _ _ _ _ _ _ _ hi' hj', hf i j hi' hj']

/-! The column slices with one natural-number bound `k`.  The bound is passed both as the `Int` literal of the
generated text (`kz`) and as the natural number it stands for (`k`, with `hk` closed by `rfl`).  The clamp of the
bound to the axis (`min k C`) does not show in the result: past the axis the slice is empty. -/

/-- `D[:, k:]` -/
theorem Is.colsFrom {D : QMat} {R C : Nat} {f : Nat → Nat → Rat} (hD : Is D R C f) (kz : Int) (k : Nat)
    (hk : kz = (k : Int)) : Is (QMatNp.slice D none none (some kz) none) R (C - k) (fun i j => f i (k + j)) := by
  subst hk
  have h := hD.slice none none (some (k : Int)) none
  rw [lo_none, hi_none, hi_none, lo_some_nat, Nat.sub_zero, Nat.min_comm, ← Nat.sub_eq_sub_min] at h
  exact h.congr fun i j _ hj => by
    rw [Nat.zero_add, Nat.min_eq_right (Nat.lt_of_sub_pos (Nat.zero_lt_of_lt hj)).le]

/-- `d[:, :-k]` -/
theorem Is.colsUpToNeg {d : QMat} {R C : Nat} {g : Nat → Nat → Rat} (hd : Is d R C g) (kz : Int) (k : Nat)
    (hk : kz = -(k : Int)) (hk0 : 0 < k) : Is (QMatNp.slice d none none none (some kz)) R (C - k) g := by
  subst hk
  have h := hd.slice none none none (some (-(k : Int)))
  simp only [lo_none, hi, sliceIdx_neg _ _ hk0, Nat.sub_zero, Nat.zero_add] at h
  exact h

/-- `D[:, k:] = E` -/
theorem Is.setColsFrom {D E : QMat} {R C : Nat} {f e : Nat → Nat → Rat} (hD : Is D R C f) (kz : Int) (k : Nat)
    (hk : kz = (k : Int)) (hE : Is E R (C - k) e) :
    Is (QMatNp.setSlice D none none (some kz) none E) R C (fun i j => if k ≤ j then e i (j - k) else f i j) := by
  subst hk
  refine (hD.setSlice none none (some (k : Int)) none E).congr fun i j hi' hj' => ?_
  rw [lo_none, hi_none, hi_none, lo_some_nat, Nat.sub_zero]
  by_cases h : k ≤ j
  · rw [if_pos h, Nat.min_eq_left (h.trans hj'.le), if_pos ⟨Nat.zero_le _, hi', h, hj'⟩,
      hE.get i _ hi' (Nat.sub_lt_sub_right h hj')]
  · rw [if_neg h, if_neg fun hh => (min_le_iff.mp hh.2.2.1).elim h (Nat.not_le_of_lt hj')]

/-- the update `D[:, 1:] = D[:, 1:] + c * d[:, :-1]` of the rectangular identity puts `c` on the superdiagonal
(`E` is the right-hand side as the generated text spells it) -/
theorem Is.eye_super {E : QMat} {R C : Nat} (c : Rat)
    (hE : Is E R (C - 1) (fun i j => (if i = 1 + j then 1 else 0) + c * if i = j then 1 else 0)) :
    Is (QMatNp.setSlice (QMat.ofFn R C (fun i j => if i = j then 1 else 0)) none none (some 1) none E) R C
      (fun i j => if j = i then 1 else if j = i + 1 then c else 0) := by
  refine ((Is.ofFn R C _).setColsFrom 1 1 rfl hE).congr (fun i j _ _ => ?_)
  -- column 0 keeps the identity; column `j + 1` reads `E` at `j`
  rcases j with _ | j
  · simp [eq_comm]
  · rw [if_pos (Nat.le_add_left 1 j), Nat.add_sub_cancel, Nat.add_comm 1 j]
    by_cases h1 : i = j + 1
    · subst h1; simp
    · by_cases h0 : i = j
      · subst h0; simp
      · simp [h0, h1, Ne.symm h0, Ne.symm h1]

/-- a loop `for i in range(m)` whose `i`-th pass rewrites exactly the entries with `key r c = i`, each from its old
value (`h r c old`): after `m` passes the entries with `key r c < m` are rewritten, the others untouched -/
theorem Is.foldl_key {R C : Nat} (key : Nat → Nat → Nat) (step : QMat → Nat → QMat) (h : Nat → Nat → Rat → Rat)
    (M : Nat) (hstep : ∀ (K : QMat) (f : Nat → Nat → Rat) (i : Nat), i < M → Is K R C f →
      Is (step K i) R C (fun r c => if key r c = i then h r c (f r c) else f r c))
    (K0 : QMat) (f0 : Nat → Nat → Rat) (h0 : Is K0 R C f0) (m : Nat) (hm : m ≤ M) :
    Is ((List.range m).foldl step K0) R C (fun r c => if key r c < m then h r c (f0 r c) else f0 r c) := by
  induction m with
  | zero => exact h0.congr (fun _ _ _ _ => (if_neg (Nat.not_lt_zero _)).symm)
  | succ m ih =>
    rw [List.range_succ, List.foldl_concat]
    refine (hstep _ _ m hm (ih (Nat.le_of_succ_le hm))).congr (fun r c _ _ => ?_)
    by_cases h1 : key r c = m
    · rw [if_pos h1, if_neg (h1 ▸ Nat.lt_irrefl _), if_pos (h1 ▸ Nat.lt_succ_self _)]
    · rw [if_neg h1]
      exact if_congr (by omega) rfl rfl

/-- a loop whose body rewrites row `i` only (entry by entry, as a function `h i c old`) -/
theorem Is.foldl_rows {R C : Nat} (step : QMat → Nat → QMat) (h : Nat → Nat → Rat → Rat)
    (hstep : ∀ (K : QMat) (f : Nat → Nat → Rat) (i : Nat), i < R → Is K R C f →
      Is (step K i) R C (fun r c => if r = i then h i c (f r c) else f r c))
    (K0 : QMat) (f0 : Nat → Nat → Rat) (h0 : Is K0 R C f0) (m : Nat) (hm : m ≤ R) :
    Is ((List.range m).foldl step K0) R C (fun r c => if r < m then h r c (f0 r c) else f0 r c) :=
  Is.foldl_key (fun r _ => r) step h R
    (fun K f i hi hK => (hstep K f i hi hK).congr fun _ _ _ _ => ite_congr rfl (fun hr => hr ▸ rfl) fun _ => rfl)
    K0 f0 h0 m hm

/-- the same for a loop whose body rewrites column `i` only -/
theorem Is.foldl_cols {R C : Nat} (step : QMat → Nat → QMat) (h : Nat → Nat → Rat → Rat)
    (hstep : ∀ (K : QMat) (f : Nat → Nat → Rat) (i : Nat), i < C → Is K R C f →
      Is (step K i) R C (fun r c => if c = i then h i r (f r c) else f r c))
    (K0 : QMat) (f0 : Nat → Nat → Rat) (h0 : Is K0 R C f0) (m : Nat) (hm : m ≤ C) :
    Is ((List.range m).foldl step K0) R C (fun r c => if c < m then h c r (f0 r c) else f0 r c) :=
  Is.foldl_key (fun _ c => c) step (fun r c => h c r) C
    (fun K f i hi hK => (hstep K f i hi hK).congr fun _ _ _ _ => ite_congr rfl (fun hc => hc ▸ rfl) fun _ => rfl)
    K0 f0 h0 m hm

end IrisVerif.GenTie
