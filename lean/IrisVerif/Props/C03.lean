/-
C03 — Kalman filter, smoother and likelihood equal exact Gaussian conditioning.

Gaussian distributions are represented by their moments: a joint Gaussian of `(x, y)` is a mean pair and a block covariance
`fromBlocks Sxx Sxy Syx Syy`; conditioning on `y` with a (two-sided) inverse `Si` of `Syy` gives
`condMean = μx + Sxy Si (y − μy)`, `condCov = Sxx − Sxy Si Syx` (this is the definition of "exact Gaussian conditioning" the
property refers to; no measure theory is involved).  The filter recursion the theorems are about is
`IrisVerif.KalmanAbs` (Lemmas/Kalman.lean), the Mathlib-matrix transcription of Model/Kalman.lean = fords/kalmans.py.
One-period statements come first; the statements for N periods and any missing-data pattern are proved by induction on an
explicitly built stacked system (`Joint`, `joint`).  For the smoother a vector (the state of a period, its shocks) is carried along
with the stacked system (`JointZ`, `track`): its conditional moments move forward by `fpsFrom`, and each forward step absorbs one
backward step of `r`, `N`.
-/
import IrisVerif.Lemmas.Kalman
import Mathlib.Data.Matrix.Block
import Mathlib.Data.Matrix.ColumnRowPartitioned
import Mathlib.LinearAlgebra.Matrix.SchurComplement
import Mathlib.LinearAlgebra.Matrix.NonsingularInverse
import Mathlib.Tactic.Ring
import Mathlib.Tactic.FieldSimp
import Mathlib.Algebra.Order.Field.Rat
import Mathlib.Tactic.NormNum
import Mathlib.Algebra.BigOperators.Group.Finset.Basic

open Matrix

set_option linter.unusedSectionVars false

namespace IrisVerif.C03
open IrisVerif.KalmanAbs

variable {n q w k m₁ m₂ : Type} [Fintype n] [Fintype q] [Fintype w] [Fintype k] [Fintype m₁] [Fintype m₂]
  [DecidableEq n] [DecidableEq q] [DecidableEq w] [DecidableEq m₁] [DecidableEq m₂]
variable {K : Type} [CommRing K]

/-- conditional mean of `x` given `y` in a joint Gaussian with cross-covariance `Sxy` and `Syy⁻¹ = Si` -/
def condMean {a b : Type} [Fintype b] (μx : Matrix a k K) (Sxy : Matrix a b K) (Si : Matrix b b K) (d : Matrix b k K) :
    Matrix a k K := μx + Sxy * Si * d

/-- `condCross` at `z = x` by definition (`condCov_eq_condCross`): the proofs below hand a statement about the one to a lemma
about the other as it stands -/
def condCov {a b : Type} [Fintype b] (Sxx : Matrix a a K) (Sxy : Matrix a b K) (Si : Matrix b b K) (Syx : Matrix b a K) :
    Matrix a a K := Sxx - Sxy * Si * Syx

/-- conditional cross-covariance of `z` and `x` given `y`: `cov(z,x) − cov(z,y) Σ_y⁻¹ cov(y,x)` (`condCov` is the case `z = x`) -/
def condCross {c a b : Type} [Fintype b] (Szx : Matrix c a K) (Szy : Matrix c b K) (Si : Matrix b b K) (Syx : Matrix b a K) :
    Matrix c a K := Szx - Szy * Si * Syx

/-- covariance of `T ξ + P u` for uncorrelated `ξ ~ Q`, `u ~ Σ`: the block-diagonal covariance pushed through `[T P]` -/
theorem predict_mse_is_pushforward (T : Matrix n n K) (P : Matrix n q K) (Q : Matrix n n K) (S : Matrix q q K) :
    (fromCols T P) * (fromBlocks Q 0 0 S) * (fromCols T P)ᵀ = T * Q * Tᵀ + P * S * Pᵀ := by
  rw [transpose_fromCols, fromCols_mul_fromBlocks, fromCols_mul_fromRows]
  simp

/-- mean of `T ξ + K + P u`: the stacked mean pushed through `[T P]`, plus the constant -/
theorem predict_mean_is_pushforward (T : Matrix n n K) (P : Matrix n q K) (Kc a : Matrix n k K) (u0 : Matrix q k K) :
    (fromCols T P) * (fromRows a u0) + Kc = T * a + Kc + P * u0 := by
  rw [fromCols_mul_fromRows]
  abel

variable [Invertible (2 : K)]

/-- the model's prediction step (with its `symmetrize`) is that push-forward, for every period of every run -/
theorem model_predict_is_pushforward {p : ℕ → Type} [∀ t, Fintype (p t)] [∀ t, DecidableEq (p t)]
    (I : Inputs n q w k p K) (hI : I.Regular) (t : ℕ) :
    I.Q0 t = (fromCols I.T I.P) * (fromBlocks (I.state t).2 0 0 (I.Su t)) * (fromCols I.T I.P)ᵀ
    ∧ I.a0 t = (fromCols I.T I.P) * (fromRows (I.state t).1 (I.u0 t)) + I.Kc := by
  rw [predict_mse_is_pushforward, predict_mean_is_pushforward]
  exact ⟨I.Q0_eq hI t, rfl⟩

/-- joint covariance of (state, observed rows) `(ξ, Zξ + Hw)` for uncorrelated `ξ ~ Q₀`, `w ~ Σ_w` -/
theorem joint_cov_state_obs {p : Type} [Fintype p] [DecidableEq p]
    (Z : Matrix p n K) (H : Matrix p w K) (Q0 : Matrix n n K) (Sw : Matrix w w K) :
    fromBlocks 1 0 Z H * fromBlocks Q0 0 0 Sw * (fromBlocks 1 0 Z H)ᵀ
      = fromBlocks Q0 (Q0 * Zᵀ) (Z * Q0) (Z * Q0 * Zᵀ + H * Sw * Hᵀ) := by
  rw [fromBlocks_transpose, fromBlocks_multiply, fromBlocks_multiply]
  simp [Matrix.mul_assoc]

/-- update = conditioning for every period of every run and any missing-data pattern: the updated mean and MSE of the
model are the conditional moments of the state given the observed rows in the joint `((Q₀, Q₀Zᵀ),(ZQ₀, F))` with means
`(a₀, y₀)` -/
theorem model_update_is_conditioning {p : ℕ → Type} [∀ t, Fintype (p t)] [∀ t, DecidableEq (p t)]
    (I : Inputs n q w k p K) (hI : I.Regular) (t : ℕ) :
    I.a1 t = condMean (I.a0 t) (I.Q0 t * (I.Z t)ᵀ) (I.Fi t) (I.y t - I.y0 t)
    ∧ I.Q1 t = condCov (I.Q0 t) (I.Q0 t * (I.Z t)ᵀ) (I.Fi t) (I.Z t * I.Q0 t)
    ∧ I.F t = I.Z t * I.Q0 t * (I.Z t)ᵀ + I.H t * I.Sw t * (I.H t)ᵀ := by
  refine ⟨?_, ?_, I.F_eq hI t⟩
  · rw [I.a1_eq, I.G_eq, ← Matrix.mul_assoc]
    rfl
  · rw [I.Q1_eq hI t, I.G_eq, ← Matrix.mul_assoc (I.Q0 t), Matrix.mul_assoc _ (I.Z t)]
    rfl

omit [Invertible (2 : K)]

section schur
variable (S11 : Matrix m₁ m₁ K) (S12 : Matrix m₁ m₂ K) (S21 : Matrix m₂ m₁ K) (S22 : Matrix m₂ m₂ K)
  (S11i : Matrix m₁ m₁ K) (W : Matrix m₂ m₂ K)

/-- inverse of a 2×2 block covariance from `S₁₁⁻¹` and the inverse `W` of the Schur complement `S₂₂ − S₂₁S₁₁⁻¹S₁₂` -/
def blockInv : Matrix (m₁ ⊕ m₂) (m₁ ⊕ m₂) K :=
  fromBlocks (S11i + S11i * S12 * W * S21 * S11i) (-(S11i * S12 * W)) (-(W * S21 * S11i)) W

/-- `blockInv` is a right inverse of the block matrix (hence, for square matrices over a commutative ring, *the* inverse):
it is Mathlib's formula `invOf_fromBlocks₁₁_eq` with `⅟S₁₁ = S11i` and `⅟(Schur complement) = W` -/
theorem block_mul_blockInv (h1 : S11 * S11i = 1) (hW : (S22 - S21 * S11i * S12) * W = 1) :
    fromBlocks S11 S12 S21 S22 * blockInv S12 S21 S11i W = 1 := by
  let _ := invertibleOfRightInverse S11 S11i h1
  rw [← invOf_eq_right_inv h1] at hW ⊢
  let _ := invertibleOfRightInverse _ W hW
  let _ := fromBlocks₁₁Invertible S11 S12 S21 S22
  rw [← invOf_eq_right_inv hW, blockInv, ← invOf_fromBlocks₁₁_eq, mul_invOf_self]

/-- any right inverse of the block covariance is `blockInv` (so "conditioning jointly" does not depend on how the inverse of the
stacked covariance is obtained) -/
theorem right_inverse_eq_blockInv (h1 : S11 * S11i = 1) (hW : (S22 - S21 * S11i * S12) * W = 1)
    (Si : Matrix (m₁ ⊕ m₂) (m₁ ⊕ m₂) K) (hSi : fromBlocks S11 S12 S21 S22 * Si = 1) :
    Si = blockInv S12 S21 S11i W :=
  left_inv_eq_right_inv (mul_eq_one_comm.mp hSi) (block_mul_blockInv S11 S12 S21 S22 S11i W h1 hW)

/-- `blockInv` as a bilinear form (block LDLᵀ): the first block through `S₁₁⁻¹`, plus what is left of the second block after
projecting on the first, through `W`.  Every "sequential = joint" statement below is this identity. -/
theorem blockInv_bilin {a b : Type} (A1 : Matrix a m₁ K) (A2 : Matrix a m₂ K) (B1 : Matrix m₁ b K) (B2 : Matrix m₂ b K) :
    fromCols A1 A2 * blockInv S12 S21 S11i W * fromRows B1 B2
      = A1 * S11i * B1 + (A2 - A1 * S11i * S12) * W * (B2 - S21 * S11i * B1) := by
  unfold blockInv
  rw [fromCols_mul_fromBlocks, fromCols_mul_fromRows]
  simp only [Matrix.mul_add, Matrix.mul_sub, Matrix.add_mul, Matrix.sub_mul, Matrix.mul_neg, Matrix.neg_mul, Matrix.mul_assoc]
  abel

variable {a : Type} [Fintype a] [DecidableEq a]
  (μx : Matrix a k K) (Sxx : Matrix a a K) (Sx1 : Matrix a m₁ K) (Sx2 : Matrix a m₂ K) (d1 : Matrix m₁ k K) (d2 : Matrix m₂ k K)

/-- sequential = joint conditioning (means): conditioning `x` on `y₁` and then — inside the conditional distribution, with
cross-covariance `Sx2 − Sx1 S₁₁⁻¹ S₁₂`, innovation `d₂ − S₂₁S₁₁⁻¹d₁` and the inverse `W` of `S₂₂ − S₂₁S₁₁⁻¹S₁₂` — on `y₂`
gives the mean of conditioning on the stacked `(y₁, y₂)` with the inverse of the stacked covariance -/
theorem sequential_eq_joint_mean :
    condMean (condMean μx Sx1 S11i d1) (Sx2 - Sx1 * S11i * S12) W (d2 - S21 * S11i * d1)
      = condMean μx (fromCols Sx1 Sx2) (blockInv S12 S21 S11i W) (fromRows d1 d2) := by
  unfold condMean
  rw [blockInv_bilin, add_assoc]

theorem sequential_eq_joint_cross {c e : Type} (Szx : Matrix c e K) (Sz1 : Matrix c m₁ K) (Sz2 : Matrix c m₂ K)
    (S1x : Matrix m₁ e K) (S2x : Matrix m₂ e K) :
    condCross (condCross Szx Sz1 S11i S1x) (Sz2 - Sz1 * S11i * S12) W (S2x - S21 * S11i * S1x)
      = condCross Szx (fromCols Sz1 Sz2) (blockInv S12 S21 S11i W) (fromRows S1x S2x) := by
  unfold condCross
  rw [blockInv_bilin, sub_sub]

theorem sequential_eq_joint_cov (S1x : Matrix m₁ a K) (S2x : Matrix m₂ a K) :
    condCov (condCov Sxx Sx1 S11i S1x) (Sx2 - Sx1 * S11i * S12) W (S2x - S21 * S11i * S1x)
      = condCov Sxx (fromCols Sx1 Sx2) (blockInv S12 S21 S11i W) (fromRows S1x S2x) :=
  sequential_eq_joint_cross S12 S21 S11i W Sxx Sx1 Sx2 S1x S2x

/-- quadratic form `dᵀ Σ⁻¹ d` of the stacked vector = quadratic form of the first block + quadratic form of the prediction error
of the second block given the first (symmetric case `S₂₁ = S₁₂ᵀ`, `S₁₁⁻¹` symmetric) -/
theorem quadform_block (hS : S21 = S12ᵀ) (h1s : S11iᵀ = S11i) :
    (fromRows d1 d2)ᵀ * blockInv S12 S21 S11i W * fromRows d1 d2
      = d1ᵀ * S11i * d1 + (d2 - S21 * S11i * d1)ᵀ * W * (d2 - S21 * S11i * d1) := by
  rw [transpose_fromRows, blockInv_bilin, Matrix.transpose_sub, Matrix.transpose_mul, Matrix.transpose_mul, hS,
    Matrix.transpose_transpose, h1s, ← Matrix.mul_assoc]

/-- determinant of the stacked covariance = `det S₁₁ · det (S₂₂ − S₂₁ S₁₁⁻¹ S₁₂)`: with `log`, the log-determinants of the
per-period prediction-error covariances add up to the log-determinant of the stacked covariance -/
theorem det_block [Invertible S11] :
    (fromBlocks S11 S12 S21 S22).det = S11.det * (S22 - S21 * ⅟S11 * S12).det :=
  det_fromBlocks₁₁ S11 S12 S21 S22

end schur

/-- a period without observations: `F` is the empty matrix, its determinant is 1 (log-determinant 0) -/
theorem det_empty_period {e : Type} [Fintype e] [DecidableEq e] [IsEmpty e] (F : Matrix e e K) : F.det = 1 :=
  det_isEmpty

/-- a period without observations: the quadratic form `peᵀ Fi pe` is 0 -/
theorem quadform_empty_period {e : Type} [Fintype e] [IsEmpty e] (pe : Matrix e k K) (Fi : Matrix e e K) :
    peᵀ * Fi * pe = 0 := by
  rw [Subsingleton.elim pe 0, Matrix.mul_zero]

section scalars
variable {F : Type} [Field F]

/-- contributions sum to the total (as computed by `calculate_likelihood` / `calculate_likelihood_contributions`, including
the variance scale): with per-period `ld_t = log det F_t`, `q_t = peᵀFi pe`, `n_t` observations, `c = log 2π`, `ls = log var_scale`,
`Σ_t (ld_t + n_t·ls + q_t/vs + n_t·c)/2 = (N·c + (Σ ld_t + N·ls) + (Σ q_t)/vs)/2`, `N = Σ n_t`, for every list of periods -/
theorem contributions_sum_to_total (two_ne : (2 : F) ≠ 0) (c ls vs : F) (per : List (F × F × F)) :
    (per.map (fun x => (x.1 + x.2.2 * ls + x.2.1 / vs + x.2.2 * c) / 2)).sum
      = ((per.map (·.2.2)).sum * c + ((per.map (·.1)).sum + (per.map (·.2.2)).sum * ls) + (per.map (·.2.1)).sum / vs) / 2 := by
  simp only [div_eq_mul_inv, List.sum_map_add, List.sum_map_mul_right]
  ring

/-- a period without observations contributes exactly nothing: `ld = log 1 = 0`, `q = 0`, `n = 0` -/
theorem empty_period_contributes_zero (c ls vs : F) : ((0 : F) + 0 * ls + 0 / vs + 0 * c) / 2 = 0 := by simp

/-- variance rescaling (`_calculate_variance_scale`): with `vs = q/N` the rescaled quadratic term equals `N` … -/
theorem rescaled_quadform (q N : F) (hq : q ≠ 0) : q / (q / N) = N :=
  div_div_cancel₀ hq

/-- … and `vs = q/N` is the stationary point of the concentrated criterion `N·log s + q/s` (its derivative `N/s − q/s²` vanishes) -/
theorem rescale_first_order_condition (q N : F) (hq : q ≠ 0) (_hN : N ≠ 0) : N / (q / N) - q / (q / N) ^ 2 = 0 := by
  field_simp
  ring

end scalars

/-- scaling all covariances by `s` scales `F` by `s`: `det (s•F) = s^{n_t} det F` (so `log det` gains `n_t · log s`) and the
inverse becomes `s⁻¹ • Fi`, which divides the quadratic form by `s` — the two terms `_calculate_variance_scale` applies -/
theorem det_scaled {e : Type} [Fintype e] [DecidableEq e] (F : Matrix e e K) (s : K) :
    (s • F).det = s ^ Fintype.card e * F.det := det_smul F s

theorem inverse_scaled {e : Type} [Fintype e] [DecidableEq e] (F Fi : Matrix e e K) (s si : K) (hs : s * si = 1)
    (h : F * Fi = 1) : (s • F) * (si • Fi) = 1 := by
  rw [Matrix.smul_mul, Matrix.mul_smul, smul_smul, h, hs, one_smul]

/-! ### multi-period statements

Conditioning commutes with linear maps: `A x` given `y` has the conditional moments of `x` pushed through `A`.  The prediction
step (`T`), the measurement equation (`Z`) and the carried cross-covariances all rest on this. -/
section linear
variable {a b c e : Type} [Fintype a] [Fintype b]

theorem condCross_mul (X : Matrix c a K) (Y : Matrix c b K) (Si : Matrix b b K) (W : Matrix b a K) (B : Matrix a e K) :
    condCross X Y Si W * B = condCross (X * B) Y Si (W * B) := by
  simp only [condCross, Matrix.sub_mul, Matrix.mul_assoc]

theorem condCross_transition {a' : Type} [Fintype a'] {M X : Matrix c a K} {Y : Matrix c b K} {Si : Matrix b b K} {S : Matrix a b K}
    (T : Matrix a' a K) (hM : M = condCross X Y Si Sᵀ) : M * Tᵀ = condCross (X * Tᵀ) Y Si (T * S)ᵀ := by
  rw [hM, condCross_mul, Matrix.transpose_mul]

theorem condMean_zero {a b : Type} [Fintype b] (μ : Matrix a k K) (Si : Matrix b b K) (d : Matrix b k K) :
    condMean μ (0 : Matrix a b K) Si d = μ := by
  rw [condMean, Matrix.zero_mul, Matrix.zero_mul, add_zero]

theorem condCross_zero {a b c : Type} [Fintype b] (X : Matrix c a K) (Si : Matrix b b K) (W : Matrix b a K) :
    condCross X (0 : Matrix c b K) Si W = X := by
  rw [condCross, Matrix.zero_mul, Matrix.zero_mul, sub_zero]

theorem affine_condMean (A : Matrix c a K) (c₁ c₂ : Matrix c k K) {μ x : Matrix a k K} {S : Matrix a b K} {Si : Matrix b b K}
    {d : Matrix b k K} (hx : x = condMean μ S Si d) : A * x + c₁ + c₂ = condMean (A * μ + c₁ + c₂) (A * S) Si d := by
  rw [hx, condMean, condMean, Matrix.mul_add, ← Matrix.mul_assoc, ← Matrix.mul_assoc]
  abel

theorem pushforward_condCov [Fintype e] (A : Matrix c a K) (B : Matrix c e K) (Y : Matrix e e K) {V Q : Matrix a a K} {S : Matrix a b K}
    {Si : Matrix b b K} (hQ : Q = condCov V S Si Sᵀ) :
    A * Q * Aᵀ + B * Y * Bᵀ = condCov (A * V * Aᵀ + B * Y * Bᵀ) (A * S) Si (A * S)ᵀ := by
  rw [hQ, condCov, condCov, Matrix.mul_sub, Matrix.sub_mul, Matrix.transpose_mul, sub_add_eq_add_sub]
  simp only [Matrix.mul_assoc]

end linear

/-! One more block of rows `y₂ = Z x' + …` is appended to the rows `Y` conditioned on so far; `C' = cov(x', Y)`, so
`cov(y₂, Y) = Z C'`; `Fi` = inverse of the Schur complement. -/
section step
variable {o p : Type} [Fintype o] [Fintype p] [DecidableEq o] [DecidableEq p]
variable (Z : Matrix p n K) {Fi : Matrix p p K} {C' : Matrix n o K} {Vyi : Matrix o o K} {d : Matrix o k K}

theorem innovation (y c₁ c₂ : Matrix p k K) {m' a0 : Matrix n k K} (ha0 : a0 = condMean m' C' Vyi d) :
    y - (Z * a0 + c₁ + c₂) = (y - (Z * m' + c₁ + c₂)) - Z * C' * Vyi * d := by
  rw [affine_condMean Z c₁ c₂ ha0, condMean]
  abel

theorem obs_mul_condCross {V Q : Matrix n n K} (hV : Vᵀ = V) (hQ : Q = condCov V C' Vyi C'ᵀ) :
    Z * Q = (V * Zᵀ)ᵀ - Z * C' * Vyi * C'ᵀ := by
  rw [hQ, condCov, Matrix.mul_sub, Matrix.transpose_mul, Matrix.transpose_transpose, hV]
  simp only [Matrix.mul_assoc]

theorem blockInv_symm (S21 : Matrix p o K) (hVyi : Vyiᵀ = Vyi) (hFi : Fiᵀ = Fi) :
    (blockInv S21ᵀ S21 Vyi Fi)ᵀ = blockInv S21ᵀ S21 Vyi Fi := by
  unfold blockInv
  rw [fromBlocks_transpose]
  simp only [Matrix.transpose_add, Matrix.transpose_neg, Matrix.transpose_mul, Matrix.transpose_transpose, hVyi, hFi,
    Matrix.mul_assoc]

theorem step_det {Vy : Matrix o o K} (S12 : Matrix o p K) (S21 : Matrix p o K) (S22 : Matrix p p K)
    (hinv : Vy * Vyi = 1) :
    (fromBlocks Vy S12 S21 S22).det = Vy.det * (S22 - S21 * Vyi * S12).det := by
  let _ := invertibleOfRightInverse Vy Vyi hinv
  rw [det_block, invOf_eq_right_inv hinv]

end step

/-! ### the stacked system, built period by period

`Joint` holds, for the state `ξ` handed to some period and the stacked vector `Y` of all rows observed before it: the index type
of `Y` (a finite type grown by `⊕ p t` per period — any missing-data pattern), the PRIOR (unconditional) mean and covariance of
`ξ`, the prior cross-covariance `cov(ξ, Y)`, the prior covariance `Vy = cov(Y)`, a candidate inverse `Vyi`, and the stacked data
minus its prior mean `d = Y − μ_Y`.  `Joint.step` is the moment recursion of the linear state-space model itself
(`ξ' = Tξ + K + Pu`, `y = Zξ' + D + Hw`, `u`, `w` uncorrelated with everything earlier):
`cov(ξ',Y) = T cov(ξ,Y)`, `cov(ξ',y) = V' Zᵀ`, `cov(y,Y) = Z T cov(ξ,Y)`, `cov(y) = Z V' Zᵀ + H Σw Hᵀ`; no conditioning is
involved in `mx Vx Cxy Vy d`.  Only `Vyi` uses the filter's `Fi` (block inverse through the Schur complement), and the theorem
proves that it IS the inverse of `Vy`. -/

structure Joint (n k : Type) (K : Type) where
  ι : Type
  fin : Fintype ι
  dec : DecidableEq ι
  mx : Matrix n k K
  Vx : Matrix n n K
  Cxy : Matrix n ι K
  Vy : Matrix ι ι K
  Vyi : Matrix ι ι K
  d : Matrix ι k K

attribute [instance] Joint.fin Joint.dec

variable {p : ℕ → Type} [∀ t, Fintype (p t)] [∀ t, DecidableEq (p t)]

/-- before the first period: nothing observed yet -/
def Joint.init (I : Inputs n q w k p K) : Joint n k K :=
  { ι := Empty, fin := inferInstance, dec := inferInstance, mx := I.aInit, Vx := I.QInit, Cxy := 0, Vy := 0, Vyi := 0, d := 0 }

/-- one period of the model: the state moves on, the rows observed in period `t` are appended to `Y` -/
def Joint.step (J : Joint n k K) (I : Inputs n q w k p K) (t : ℕ) : Joint n k K :=
  { ι := J.ι ⊕ p t, fin := inferInstance, dec := inferInstance
    mx := I.T * J.mx + I.Kc + I.P * I.u0 t
    Vx := I.T * J.Vx * I.Tᵀ + I.P * I.Su t * I.Pᵀ
    Cxy := fromCols (I.T * J.Cxy) ((I.T * J.Vx * I.Tᵀ + I.P * I.Su t * I.Pᵀ) * (I.Z t)ᵀ)
    Vy := fromBlocks J.Vy (I.Z t * (I.T * J.Cxy))ᵀ (I.Z t * (I.T * J.Cxy))
      (I.Z t * (I.T * J.Vx * I.Tᵀ + I.P * I.Su t * I.Pᵀ) * (I.Z t)ᵀ + I.H t * I.Sw t * (I.H t)ᵀ)
    Vyi := blockInv (I.Z t * (I.T * J.Cxy))ᵀ (I.Z t * (I.T * J.Cxy)) J.Vyi (I.Fi t)
    d := fromRows J.d (I.y t - (I.Z t * (I.T * J.mx + I.Kc + I.P * I.u0 t) + I.D t + I.H t * I.w0 t)) }

/-- `joint I t`: state handed to period `t` and all rows observed in periods `0 … t-1` -/
def joint (I : Inputs n q w k p K) : ℕ → Joint n k K
  | 0 => Joint.init I
  | t + 1 => (joint I t).step I t

/-- "`(a, Q)` are the conditional moments of the state given the stacked observations", with a certified symmetric inverse -/
structure Joint.Good (J : Joint n k K) (a : Matrix n k K) (Q : Matrix n n K) : Prop where
  inv : J.Vy * J.Vyi = 1
  VyiT : J.Vyiᵀ = J.Vyi
  VxT : J.Vxᵀ = J.Vx
  mean : a = condMean J.mx J.Cxy J.Vyi J.d
  cov : Q = condCov J.Vx J.Cxy J.Vyi J.Cxyᵀ

variable [Invertible (2 : K)]
variable (I : Inputs n q w k p K)

theorem Joint.init_good (hI : I.Regular) : (Joint.init I).Good I.aInit I.QInit where
  inv := by ext i; exact i.elim
  VyiT := by ext i; exact i.elim
  VxT := hI.QInit_symm
  mean := (condMean_zero _ _ _).symm
  cov := (condCross_zero _ _ _).symm

/-! Period `t` before its rows are used, for any stacked system `J` describing the state handed over: the predicted moments are the
conditional ones of the new state given the rows of `J`; `F` is the Schur complement of the extended stacked covariance; the
prediction error is the innovation of the new rows. -/
section predict
variable (hI : I.Regular) (t : ℕ) (J : Joint n k K) (hJ : J.Good (I.state t).1 (I.state t).2)
include hJ

theorem Joint.predict_mean : I.a0 t = condMean (J.step I t).mx (I.T * J.Cxy) J.Vyi J.d :=
  affine_condMean I.T I.Kc (I.P * I.u0 t) hJ.mean

theorem Joint.predict_pe :
    I.pe t = (I.y t - (I.Z t * (J.step I t).mx + I.D t + I.H t * I.w0 t)) - I.Z t * (I.T * J.Cxy) * J.Vyi * J.d :=
  innovation (I.Z t) (I.y t) (I.D t) (I.H t * I.w0 t) (Joint.predict_mean I t J hJ)

include hI

theorem Joint.predict_cov : I.Q0 t = condCov (J.step I t).Vx (I.T * J.Cxy) J.Vyi (I.T * J.Cxy)ᵀ := by
  rw [I.Q0_eq hI t]
  exact pushforward_condCov I.T I.P (I.Su t) hJ.cov

theorem Joint.predict_F :
    I.F t = condCov (I.Z t * (J.step I t).Vx * (I.Z t)ᵀ + I.H t * I.Sw t * (I.H t)ᵀ) (I.Z t * (I.T * J.Cxy)) J.Vyi
      (I.Z t * (I.T * J.Cxy))ᵀ := by
  rw [I.F_eq hI t]
  exact pushforward_condCov (I.Z t) (I.H t) (I.Sw t) (Joint.predict_cov I hI t J hJ)

end predict

/-! ### a vector carried along with the stacked system

`JointZ` = a `Joint` together with a tracked vector `z` (the state of some period, or its transition / measurement shocks):
prior mean `mz`, prior covariance `Vz`, prior cross-covariance `Czx` with the state currently handed over and `Czy` with the
stacked observations.  `Joint.Good` is `JointZ.Tracks` for the state handed over itself (`z = ξ`, `Czx = Vz = Vx`, `Czy = Cxy`:
`Joint.Good.tracks`), plus the certified inverse. -/

structure JointZ (n nz k : Type) (K : Type) extends Joint n k K where
  mz : Matrix nz k K
  Vz : Matrix nz nz K
  Czx : Matrix nz n K
  Czy : Matrix nz ι K

variable {nz : Type} [Fintype nz] [DecidableEq nz]

/-- "`zh`, `M`, `Pz` are the conditional mean of `z`, its conditional cross-covariance with the state handed over, and its
conditional covariance, given the stacked rows" -/
structure JointZ.Tracks (Zj : JointZ n nz k K) (zh : Matrix nz k K) (M : Matrix nz n K) (Pz : Matrix nz nz K) : Prop where
  mean : zh = condMean Zj.mz Zj.Czy Zj.Vyi Zj.d
  cross : M = condCross Zj.Czx Zj.Czy Zj.Vyi Zj.Cxyᵀ
  var : Pz = condCross Zj.Vz Zj.Czy Zj.Vyi Zj.Czyᵀ

/-- one period, any vector `z`: from its conditional moments given the rows of `J` — mean `zh`, cross-covariance `M'` with the NEW
state, covariance `Pz` — and `N = cov(z, y_t | Y)` to its conditional moments given the rows of `J.step I t`.  The state
(`Joint.step_good`), a tracked vector (`JointZ.step_tracks`) and the shocks of the period (`Joint.fresh_tracks`) differ only
in `N`. -/
theorem Joint.step_tracks (hI : I.Regular) (t : ℕ) (J : Joint n k K) (hJ : J.Good (I.state t).1 (I.state t).2)
    {mz zh : Matrix nz k K} {Vz Pz : Matrix nz nz K} {X M' : Matrix nz n K} {Czy : Matrix nz J.ι K} {Sz2 N : Matrix nz (p t) K}
    (hz : zh = condMean mz Czy J.Vyi J.d) (hM : M' = condCross X Czy J.Vyi (I.T * J.Cxy)ᵀ)
    (hP : Pz = condCross Vz Czy J.Vyi Czyᵀ) (hN : N = condCross Sz2 Czy J.Vyi (I.Z t * (I.T * J.Cxy))ᵀ) :
    JointZ.Tracks ⟨J.step I t, mz, Vz, X, fromCols Czy Sz2⟩ (condMean zh N (I.Fi t) (I.pe t))
      (condCross M' N (I.Fi t) (I.Z t * I.Q0 t)) (condCross Pz N (I.Fi t) Nᵀ) := by
  have hZQ := obs_mul_condCross (I.Z t) (transpose_pushforward _ _ _ _ hJ.VxT (hI.Su_symm t)) (Joint.predict_cov I hI t J hJ)
  rw [condCross] at hN
  -- each field is "sequential = joint"; the closing `rfl` reads `Vyi`, `d`, `Cxy` of `J.step I t` off its definition
  refine ⟨?_, ?_, ?_⟩
  · rw [hz, hN, Joint.predict_pe I t J hJ, sequential_eq_joint_mean]
    rfl
  · rw [hM, hN, hZQ, sequential_eq_joint_cross, ← transpose_fromCols]
    rfl
  · have hNT : Nᵀ = Sz2ᵀ - I.Z t * (I.T * J.Cxy) * J.Vyi * Czyᵀ := by
      rw [hN, Matrix.transpose_sub, Matrix.transpose_mul (Czy * J.Vyi), Matrix.transpose_transpose, Matrix.transpose_mul Czy,
        hJ.VyiT, ← Matrix.mul_assoc]
    rw [hP, hNT, hN, sequential_eq_joint_cross, ← transpose_fromCols]
    rfl

/-- one period: if the moments handed to period `t` are the conditional ones given the rows observed so far, the model's updated
moments are the conditional ones given those rows and the rows observed in period `t` -/
theorem Joint.step_good (hI : I.Regular) (t : ℕ) (J : Joint n k K) (hJ : J.Good (I.state t).1 (I.state t).2)
    (hF : I.F t * I.Fi t = 1) : (J.step I t).Good (I.state (t + 1)).1 (I.state (t + 1)).2 := by
  have hQ0 := Joint.predict_cov I hI t J hJ
  rw [Joint.predict_F I hI t J hJ] at hF
  -- the new state as the tracked vector: `cov(ξ', ξ' | Y) = Q₀`, `cov(ξ', y_t | Y) = Q₀ Zᵀ`
  have h := Joint.step_tracks I hI t J hJ (Joint.predict_mean I t J hJ) hQ0 hQ0 (condCross_transition (I.Z t) hQ0)
  have hu := model_update_is_conditioning I hI t
  exact {
    inv := block_mul_blockInv J.Vy _ _ _ J.Vyi (I.Fi t) hJ.inv hF
    VyiT := blockInv_symm _ hJ.VyiT (hI.Fi_symm t)
    VxT := transpose_pushforward _ _ _ _ hJ.VxT (hI.Su_symm t)
    mean := hu.1.trans h.mean
    cov := hu.2.1.trans h.cross }

/-- filter = exact Gaussian conditioning, N periods, any missing-data pattern.  For every `t`: the moments `(a, Q)` the filter
hands to period `t` (the initial ones for `t = 0`, the updated ones `a1 (t-1), Q1 (t-1)` after) are the conditional mean and
covariance of the state given the stacked vector of ALL rows observed in periods `0 … t-1`, computed in the joint Gaussian of the
stacked system — `prior mean + C Σ⁻¹ (Y − μ)`, `V − C Σ⁻¹ Cᵀ` — and `Σ⁻¹ = (joint I t).Vyi` is a genuine (two-sided, symmetric)
inverse of the stacked covariance.  Hypothesis: `F_s Fi_s = 1` for the periods used (re-checked exactly by the executable model). -/
theorem filter_is_conditioning (hI : I.Regular) (t : ℕ) (hF : ∀ s, s < t → I.F s * I.Fi s = 1) :
    (joint I t).Good (I.state t).1 (I.state t).2 := by
  induction t with
  | zero => exact Joint.init_good I hI
  | succ t ih =>
    exact Joint.step_good I hI t (joint I t) (ih (fun s hs => hF s (by omega))) (hF t (by omega))

/-- the same with ANY right inverse of the stacked covariance (it is unique) -/
theorem filter_is_conditioning' (hI : I.Regular) (t : ℕ) (hF : ∀ s, s < t → I.F s * I.Fi s = 1)
    (Si : Matrix (joint I t).ι (joint I t).ι K) (hSi : (joint I t).Vy * Si = 1) :
    (I.state t).1 = condMean (joint I t).mx (joint I t).Cxy Si (joint I t).d
    ∧ (I.state t).2 = condCov (joint I t).Vx (joint I t).Cxy Si (joint I t).Cxyᵀ := by
  have h := filter_is_conditioning I hI t hF
  rw [left_inv_eq_right_inv (mul_eq_one_comm.mp hSi) h.inv]
  exact ⟨h.mean, h.cov⟩

/-- predicted moments of period `t` = conditional moments given the rows observed in periods `0 … t-1`, pushed through the
transition equation -/
theorem predict_is_conditioning (hI : I.Regular) (t : ℕ) (hF : ∀ s, s < t → I.F s * I.Fi s = 1) :
    I.a0 t = condMean (I.T * (joint I t).mx + I.Kc + I.P * I.u0 t) (I.T * (joint I t).Cxy) (joint I t).Vyi (joint I t).d
    ∧ I.Q0 t = condCov (I.T * (joint I t).Vx * I.Tᵀ + I.P * I.Su t * I.Pᵀ) (I.T * (joint I t).Cxy) (joint I t).Vyi
        (I.T * (joint I t).Cxy)ᵀ := by
  have h := filter_is_conditioning I hI t hF
  exact ⟨Joint.predict_mean I t _ h, Joint.predict_cov I hI t _ h⟩

/-- one period of the likelihood: `step_det`, `quadform_block` with `F_t` as the Schur complement of the stacked covariance -/
theorem Joint.step_likelihood (hI : I.Regular) (t : ℕ) (J : Joint n k K) (hJ : J.Good (I.state t).1 (I.state t).2) :
    (J.step I t).Vy.det = J.Vy.det * (I.F t).det
    ∧ (J.step I t).dᵀ * (J.step I t).Vyi * (J.step I t).d = J.dᵀ * J.Vyi * J.d + (I.pe t)ᵀ * I.Fi t * I.pe t := by
  rw [Joint.predict_F I hI t J hJ, Joint.predict_pe I t J hJ]
  exact ⟨step_det _ _ _ hJ.inv,
    quadform_block (I.Z t * (I.T * J.Cxy))ᵀ (I.Z t * (I.T * J.Cxy)) J.Vyi (I.Fi t) J.d _ (Matrix.transpose_transpose _).symm hJ.VyiT⟩

/-- likelihood = stacked Gaussian density, N periods, any missing-data pattern.  The product of the determinants of the
per-period prediction-error covariances is the determinant of the covariance of the stacked observations (so
`Σ_t log det F_t = log det Σ_Y`), and the sum of the per-period quadratic forms is the quadratic form of the stacked vector,
`Σ_t pe_tᵀ Fi_t pe_t = (Y−μ)ᵀ Σ_Y⁻¹ (Y−μ)`: the value reported by `calculate_likelihood` is the negative log-density of the
observed data under the model's joint Gaussian distribution. -/
theorem likelihood_is_stacked_density (hI : I.Regular) (t : ℕ) (hF : ∀ s, s < t → I.F s * I.Fi s = 1) :
    ∏ s ∈ Finset.range t, (I.F s).det = (joint I t).Vy.det
    ∧ ∑ s ∈ Finset.range t, (I.pe s)ᵀ * I.Fi s * I.pe s = (joint I t).dᵀ * (joint I t).Vyi * (joint I t).d := by
  induction t with
  | zero =>
    -- `joint I 0 = Joint.init I`: no rows (`ι = Empty`) and `d = 0`
    rw [Finset.prod_range_zero, Finset.sum_range_zero]
    exact ⟨(det_empty_period (e := Empty) _).symm, (Matrix.mul_zero _).symm⟩
  | succ t ih =>
    obtain ⟨ihd, ihq⟩ := ih (fun s hs => hF s (by omega))
    have h := Joint.step_likelihood I hI t (joint I t) (filter_is_conditioning I hI t (fun s hs => hF s (by omega)))
    rw [Finset.prod_range_succ, Finset.sum_range_succ, ihd, ihq]
    exact ⟨h.1.symm, h.2.symm⟩

section pushforward
variable {o p : Type} [Fintype o] [Fintype p] [DecidableEq o] [DecidableEq p]

theorem fromCols_add {a b c : Type} (A C : Matrix a b K) (B D : Matrix a c K) :
    fromCols A B + fromCols C D = fromCols (A + C) (B + D) := by
  ext i (j | j) <;> simp

theorem fromRows_add {a b c : Type} (A C : Matrix a c K) (B D : Matrix b c K) :
    fromRows A B + fromRows C D = fromRows (A + C) (B + D) := by
  ext (i | i) j <;> simp

/-- `Joint.step` is the push-forward of second moments: with `cov((ξ,Y)) = ((Vx, Cxy),(Cxyᵀ, Vy))` and shocks `u ~ Su`, `w ~ Sw`
uncorrelated with `(ξ, Y)` and with each other, the covariance of `(ξ', (Y, y))`, `ξ' = Tξ + Pu`, `y = Zξ' + Hw`, is
`((Vx', Cxy'),(Cxy'ᵀ, Vy'))` with exactly the blocks `Joint.step` builds. -/
theorem joint_step_is_pushforward (T : Matrix n n K) (P : Matrix n q K) (Z : Matrix p n K) (H : Matrix p w K)
    (Vx : Matrix n n K) (Cxy : Matrix n o K) (Vy : Matrix o o K) (Su : Matrix q q K) (Sw : Matrix w w K) :
    let M : Matrix (n ⊕ (o ⊕ p)) ((n ⊕ o) ⊕ (q ⊕ w)) K :=
      fromBlocks (fromCols T 0) (fromCols P 0) (fromBlocks 0 1 (Z * T) 0) (fromBlocks 0 0 (Z * P) H)
    let S : Matrix ((n ⊕ o) ⊕ (q ⊕ w)) ((n ⊕ o) ⊕ (q ⊕ w)) K :=
      fromBlocks (fromBlocks Vx Cxy Cxyᵀ Vy) 0 0 (fromBlocks Su 0 0 Sw)
    let Vx' := T * Vx * Tᵀ + P * Su * Pᵀ
    M * S * Mᵀ = fromBlocks Vx' (fromCols (T * Cxy) (Vx' * Zᵀ)) (fromRows (Cxyᵀ * Tᵀ) (Z * Vx'))
      (fromBlocks Vy (Z * (T * Cxy))ᵀ (Z * (T * Cxy)) (Z * Vx' * Zᵀ + H * Sw * Hᵀ)) := by
  intro M S Vx'
  -- multiply the blocks out and bring both sides to sums of right-nested products inside one `fromBlocks`
  simp only [M, S, Vx', fromBlocks_transpose, transpose_fromCols, fromBlocks_multiply, fromCols_mul_fromBlocks,
    fromCols_mul_fromRows, Matrix.transpose_zero, Matrix.transpose_one, Matrix.mul_zero, Matrix.zero_mul, Matrix.mul_one,
    Matrix.one_mul, add_zero, zero_add, Matrix.transpose_mul, fromBlocks_mul_fromRows, fromBlocks_add, fromCols_add,
    fromRows_add, Matrix.mul_add, Matrix.add_mul, Matrix.mul_assoc, add_assoc]

/-- the blocks `Joint.step` builds ARE that push-forward: the prior second moments of `(ξ', (Y, y))` after period `t` are the
second moments of `(ξ, Y, u_t, w_t)` pushed through the model's equations -/
theorem Joint.step_is_pushforward {pp : ℕ → Type} [∀ t, Fintype (pp t)] [∀ t, DecidableEq (pp t)]
    (J : Joint n k K) (I : Inputs n q w k pp K) (t : ℕ) (hVx : J.Vxᵀ = J.Vx) (hSu : (I.Su t)ᵀ = I.Su t) :
    let M : Matrix (n ⊕ (J.ι ⊕ pp t)) ((n ⊕ J.ι) ⊕ (q ⊕ w)) K :=
      fromBlocks (fromCols I.T 0) (fromCols I.P 0) (fromBlocks 0 1 (I.Z t * I.T) 0) (fromBlocks 0 0 (I.Z t * I.P) (I.H t))
    M * fromBlocks (fromBlocks J.Vx J.Cxy J.Cxyᵀ J.Vy) 0 0 (fromBlocks (I.Su t) 0 0 (I.Sw t)) * Mᵀ
      = fromBlocks (J.step I t).Vx (J.step I t).Cxy (J.step I t).Cxyᵀ (J.step I t).Vy := by
  refine (joint_step_is_pushforward I.T I.P (I.Z t) (I.H t) J.Vx J.Cxy J.Vy (I.Su t) (I.Sw t)).trans ?_
  show _ = fromBlocks _ _ (fromCols (I.T * J.Cxy) ((I.T * J.Vx * I.Tᵀ + I.P * I.Su t * I.Pᵀ) * (I.Z t)ᵀ))ᵀ _
  rw [transpose_fromCols, Matrix.transpose_mul (I.T * J.Vx * I.Tᵀ + I.P * I.Su t * I.Pᵀ),
    transpose_pushforward _ _ _ _ hVx hSu, Matrix.transpose_transpose, Matrix.transpose_mul I.T]
  rfl

end pushforward

section smoothing

/-! ### smoother = conditioning on ALL observations

`JointZ.step` continues the model's moment recursion for a tracked vector: later shocks are uncorrelated with `z`, so
`cov(z, ξ') = cov(z, ξ) Tᵀ` and `cov(z, y) = cov(z, ξ') Zᵀ`. -/

def JointZ.step (Zj : JointZ n nz k K) (I : Inputs n q w k p K) (s : ℕ) : JointZ n nz k K :=
  { toJoint := Zj.toJoint.step I s
    mz := Zj.mz
    Vz := Zj.Vz
    Czx := Zj.Czx * I.Tᵀ
    Czy := fromCols Zj.Czy (Zj.Czx * I.Tᵀ * (I.Z s)ᵀ) }

/-- `z` tracked through the periods `t+1 … t+j` -/
def track (I : Inputs n q w k p K) (t : ℕ) (Z0 : JointZ n nz k K) : ℕ → JointZ n nz k K
  | 0 => Z0
  | j + 1 => (track I t Z0 j).step I (t + 1 + j)

/-- fixed-point form of the smoother: `(ẑ, M, P)` = conditional mean of `z`, its conditional cross-covariance with the state handed
over, and its conditional covariance, after `j` more periods.  One period `s = t+1+j`, with `U = M Tᵀ`:
`ẑ + U Zᵀ Fi pe`, `U − U Zᵀ Fi Z Q₀`, `P − U Zᵀ Fi Z Uᵀ`, the products associated as in `Inputs.mul_r`, `Inputs.mul_Nm_mul`. -/
def fpsFrom (t : ℕ) (z0 : Matrix nz k K) (M0 : Matrix nz n K) (P0 : Matrix nz nz K) :
    ℕ → Matrix nz k K × Matrix nz n K × Matrix nz nz K
  | 0 => (z0, M0, P0)
  | j + 1 =>
    ((fpsFrom t z0 M0 P0 j).1 + (fpsFrom t z0 M0 P0 j).2.1 * I.Tᵀ * ((I.Z (t + 1 + j))ᵀ * I.Fi (t + 1 + j) * I.pe (t + 1 + j)),
     (fpsFrom t z0 M0 P0 j).2.1 * I.Tᵀ
       - (fpsFrom t z0 M0 P0 j).2.1 * I.Tᵀ * ((I.Z (t + 1 + j))ᵀ * I.Fi (t + 1 + j) * (I.Z (t + 1 + j) * I.Q0 (t + 1 + j))),
     (fpsFrom t z0 M0 P0 j).2.2
       - (fpsFrom t z0 M0 P0 j).2.1 * I.Tᵀ * ((I.Z (t + 1 + j))ᵀ * I.Fi (t + 1 + j)
          * (I.Z (t + 1 + j) * (I.T * ((fpsFrom t z0 M0 P0 j).2.1)ᵀ))))

/-- a vector `z` uncorrelated with the past, with prior covariances `Cz` with the state of period `t` and `Sz2` with its rows,
starts being tracked after period `t` -/
theorem Joint.fresh_tracks (hI : I.Regular) (t : ℕ) (J : Joint n k K) (hJ : J.Good (I.state t).1 (I.state t).2)
    (mz : Matrix nz k K) (Vz : Matrix nz nz K) (Cz : Matrix nz n K) (Sz2 : Matrix nz (p t) K) :
    JointZ.Tracks ⟨J.step I t, mz, Vz, Cz, fromCols 0 Sz2⟩ (condMean mz Sz2 (I.Fi t) (I.pe t))
      (condCross Cz Sz2 (I.Fi t) (I.Z t * I.Q0 t)) (condCross Vz Sz2 (I.Fi t) Sz2ᵀ) :=
  Joint.step_tracks I hI t J hJ (condMean_zero _ _ _).symm (condCross_zero _ _ _).symm
    (condCross_zero _ _ _).symm (condCross_zero _ _ _).symm

/-- one more period for a tracked vector: it meets the new rows only through the new state, `cov(z, y_s | Y) = M Tᵀ Zᵀ`, so its
conditional moments move by one step of `fpsFrom` -/
theorem JointZ.step_tracks (hI : I.Regular) (s : ℕ) (Zj : JointZ n nz k K) (hG : Zj.toJoint.Good (I.state s).1 (I.state s).2)
    {z : Matrix nz k K} {M : Matrix nz n K} {P : Matrix nz nz K} (hT : Zj.Tracks z M P) :
    (Zj.step I s).Tracks (z + M * I.Tᵀ * ((I.Z s)ᵀ * I.Fi s * I.pe s))
      (M * I.Tᵀ - M * I.Tᵀ * ((I.Z s)ᵀ * I.Fi s * (I.Z s * I.Q0 s)))
      (P - M * I.Tᵀ * ((I.Z s)ᵀ * I.Fi s * (I.Z s * (I.T * Mᵀ)))) := by
  have hM := condCross_transition I.T hT.cross
  have h := Joint.step_tracks I hI s Zj.toJoint hG hT.mean hM hT.var (condCross_transition (I.Z s) hM)
  simpa only [JointZ.step, condMean, condCross, Matrix.transpose_mul, Matrix.transpose_transpose, Matrix.mul_assoc] using h

theorem track_good (hI : I.Regular) (t : ℕ) {Z0 : JointZ n nz k K} {z0 : Matrix nz k K} {M0 : Matrix nz n K}
    {P0 : Matrix nz nz K} (hG0 : Z0.toJoint.Good (I.state (t + 1)).1 (I.state (t + 1)).2) (hT0 : Z0.Tracks z0 M0 P0)
    (j : ℕ) (hF : ∀ s, s < t + 1 + j → I.F s * I.Fi s = 1) :
    (track I t Z0 j).toJoint.Good (I.state (t + 1 + j)).1 (I.state (t + 1 + j)).2
    ∧ (track I t Z0 j).Tracks (fpsFrom I t z0 M0 P0 j).1 (fpsFrom I t z0 M0 P0 j).2.1 (fpsFrom I t z0 M0 P0 j).2.2 := by
  induction j with
  | zero => exact ⟨hG0, hT0⟩
  | succ j ih =>
    obtain ⟨hG, hT⟩ := ih (fun s hs => hF s (by omega))
    exact ⟨Joint.step_good I hI (t + 1 + j) _ hG (hF _ (by omega)), JointZ.step_tracks I hI (t + 1 + j) _ hG hT⟩

/-- `ẑ_i + M_i Tᵀ r_{t+1+i}` does not depend on `i`: one forward step of the fixed-point recursion absorbs one backward step of `r` -/
theorem fps_mean_invariant (hI : I.Regular) (N t : ℕ) (z0 : Matrix nz k K) (M0 : Matrix nz n K) (P0 : Matrix nz nz K)
    (i : ℕ) (hi : t + 1 + i ≤ N) :
    z0 + M0 * I.Tᵀ * I.r N (t + 1)
      = (fpsFrom I t z0 M0 P0 i).1 + (fpsFrom I t z0 M0 P0 i).2.1 * I.Tᵀ * I.r N (t + 1 + i) := by
  induction i with
  | zero => rfl
  | succ i ih =>
    rw [ih (by omega), I.mul_r hI (show t + 1 + i < N by omega), ← add_assoc]
    -- what `mul_r` leaves is the step `i + 1` of `fpsFrom` as its definition writes it
    rfl

/-- `P_i − M_i Tᵀ N_{t+1+i} T M_iᵀ` does not depend on `i` -/
theorem fps_var_invariant (hI : I.Regular) (N t : ℕ) (z0 : Matrix nz k K) (M0 : Matrix nz n K) (P0 : Matrix nz nz K)
    (i : ℕ) (hi : t + 1 + i ≤ N) :
    P0 - M0 * I.Tᵀ * I.Nm N (t + 1) * (I.T * M0ᵀ)
      = (fpsFrom I t z0 M0 P0 i).2.2
        - (fpsFrom I t z0 M0 P0 i).2.1 * I.Tᵀ * I.Nm N (t + 1 + i) * (I.T * ((fpsFrom I t z0 M0 P0 i).2.1)ᵀ) := by
  induction i with
  | zero => rfl
  | succ i ih =>
    have h := I.mul_Nm_mul hI (show t + 1 + i < N by omega) ((fpsFrom I t z0 M0 P0 i).2.1 * I.Tᵀ)
    rw [Matrix.transpose_mul, Matrix.transpose_transpose] at h
    rw [ih (by omega), h, ← sub_sub]
    -- likewise for `mul_Nm_mul`
    rfl

/-- start tracking the state currently handed over: `z = ξ`, so `cov(z, ξ) = Vx` and `cov(z, Y) = Cxy` -/
def JointZ.startState (J : Joint n k K) : JointZ n n k K :=
  { toJoint := J, mz := J.mx, Vz := J.Vx, Czx := J.Vx, Czy := J.Cxy }

theorem condCov_eq_condCross {a b : Type} [Fintype b] (Sxx : Matrix a a K) (Sxy : Matrix a b K) (Si : Matrix b b K)
    (Syx : Matrix b a K) : condCov Sxx Sxy Si Syx = condCross Sxx Sxy Si Syx := rfl

theorem Joint.Good.tracks {J : Joint n k K} {a : Matrix n k K} {Q : Matrix n n K} (h : J.Good a Q) :
    (JointZ.startState J).Tracks a Q Q :=
  ⟨h.mean, h.cov, h.cov⟩

/-- stacked system in which the state of period `t` is tracked through a sample of `t+1+j` periods -/
def smoothJoint (t j : ℕ) : JointZ n n k K := track I t (JointZ.startState (joint I (t + 1))) j

/-- any tracked vector: start from a stacked system for the state after period `t` that tracks `z` with conditional moments
`(z₀, M₀, P₀)`; after the periods `t+1 … t+j` the backward recursions `r`, `N` over the sample of `t+1+j` periods turn them into
the conditional mean and covariance of `z` given ALL rows: the forward fixed-point steps (`track_good`) absorb the backward
steps one by one (`fps_mean_invariant`, `fps_var_invariant`) until `r = 0`, `N = 0` at the end of the sample. -/
theorem tracked_is_conditioning (hI : I.Regular) (t j : ℕ) (hF : ∀ s, s < t + 1 + j → I.F s * I.Fi s = 1)
    {Z0 : JointZ n nz k K} {z0 : Matrix nz k K} {M0 : Matrix nz n K} {P0 : Matrix nz nz K}
    (hG0 : Z0.toJoint.Good (I.state (t + 1)).1 (I.state (t + 1)).2) (hT0 : Z0.Tracks z0 M0 P0) :
    z0 + M0 * I.Tᵀ * I.r (t + 1 + j) (t + 1)
      = condMean (track I t Z0 j).mz (track I t Z0 j).Czy (track I t Z0 j).Vyi (track I t Z0 j).d
    ∧ P0 - M0 * I.Tᵀ * I.Nm (t + 1 + j) (t + 1) * (I.T * M0ᵀ)
      = condCross (track I t Z0 j).Vz (track I t Z0 j).Czy (track I t Z0 j).Vyi (track I t Z0 j).Czyᵀ := by
  rw [fps_mean_invariant I hI (t + 1 + j) t z0 M0 P0 j le_rfl, I.r_of_ge le_rfl, Matrix.mul_zero, add_zero,
    fps_var_invariant I hI (t + 1 + j) t z0 M0 P0 j le_rfl, I.Nm_of_ge le_rfl, Matrix.mul_zero, Matrix.zero_mul, sub_zero]
  have h := (track_good I hI t hG0 hT0 j hF).2
  exact ⟨h.mean, h.var⟩

/-- `tracked_is_conditioning` for the state of period `t` itself (`smoothJoint`): mean and covariance at once -/
theorem smoothJoint_conditioning (hI : I.Regular) (t j : ℕ) (hF : ∀ s, s < t + 1 + j → I.F s * I.Fi s = 1) :
    I.a1 t + I.Q1 t * I.Tᵀ * I.r (t + 1 + j) (t + 1)
      = condMean (smoothJoint I t j).mz (smoothJoint I t j).Czy (smoothJoint I t j).Vyi (smoothJoint I t j).d
    ∧ I.Q1 t - I.Q1 t * I.Tᵀ * I.Nm (t + 1 + j) (t + 1) * (I.T * (I.Q1 t)ᵀ)
      = condCross (smoothJoint I t j).Vz (smoothJoint I t j).Czy (smoothJoint I t j).Vyi (smoothJoint I t j).Czyᵀ :=
  have h := filter_is_conditioning I hI (t + 1) (fun s hs => hF s (by omega))
  tracked_is_conditioning I hI t j hF h h.tracks

/-- smoother = exact Gaussian conditioning on ALL observations — state means, every horizon, any missing-data pattern.
For a sample of `N = t+1+j` periods the smoothed state `a₂(t) = a₀(t) + Q₀(t) r_t` of the backward recursion
(`one_step_back` / `smooth`) is `prior mean + C Σ⁻¹ (Y − μ)`: the conditional mean of the state of period `t` given the stacked
vector of all rows observed in periods `0 … N-1`; `C = (smoothJoint I t j).Czy` is the prior cross-covariance of that state with
all observations (model's own moment recursion), `Σ⁻¹` the certified inverse of the stacked covariance. -/
theorem smoother_is_conditioning (hI : I.Regular) (t j : ℕ) (hF : ∀ s, s < t + 1 + j → I.F s * I.Fi s = 1) :
    I.a2 (t + 1 + j) t
      = condMean (smoothJoint I t j).mz (smoothJoint I t j).Czy (smoothJoint I t j).Vyi (smoothJoint I t j).d := by
  rw [I.a2_eq_updated hI (show t < t + 1 + j by omega)]
  exact (smoothJoint_conditioning I hI t j hF).1

/-- smoother MSE = conditional covariance given ALL observations: `Q₂(t) = V − C Σ⁻¹ Cᵀ` -/
theorem smoother_mse_is_conditioning (hI : I.Regular) (t j : ℕ) (hF : ∀ s, s < t + 1 + j → I.F s * I.Fi s = 1) :
    I.Q2 (t + 1 + j) t
      = condCross (smoothJoint I t j).Vz (smoothJoint I t j).Czy (smoothJoint I t j).Vyi (smoothJoint I t j).Czyᵀ := by
  rw [I.Q2_eq_updated hI (show t < t + 1 + j by omega)]
  exact (smoothJoint_conditioning I hI t j hF).2

/-- the stacked system of `track` is the one of `joint`: same observations, same covariance, same inverse -/
theorem track_toJoint (t : ℕ) (Z0 : JointZ n nz k K) (h0 : Z0.toJoint = joint I (t + 1)) (j : ℕ) :
    (track I t Z0 j).toJoint = joint I (t + 1 + j) := by
  induction j with
  | zero => exact h0
  | succ j ih =>
    show (track I t Z0 j).toJoint.step I (t + 1 + j) = (joint I (t + 1 + j)).step I (t + 1 + j)
    rw [ih]

/-- after period `t`, track the transition shocks `u_t`: `cov(u_t, ξ_t) = Σu Pᵀ`, `cov(u_t, y_t) = Σu Pᵀ Zᵀ`, nothing with the past -/
def JointZ.startU (J : Joint n k K) (t : ℕ) : JointZ n q k K :=
  { toJoint := J.step I t, mz := I.u0 t, Vz := I.Su t, Czx := I.Su t * I.Pᵀ,
    Czy := fromCols 0 (I.Su t * I.Pᵀ * (I.Z t)ᵀ) }

/-- after period `t`, track the measurement shocks `w_t`: `cov(w_t, ξ_t) = 0`, `cov(w_t, y_t) = Σw Hᵀ` -/
def JointZ.startW (J : Joint n k K) (t : ℕ) : JointZ n w k K :=
  { toJoint := J.step I t, mz := I.w0 t, Vz := I.Sw t, Czx := 0, Czy := fromCols 0 (I.Sw t * (I.H t)ᵀ) }

def smoothJointU (t j : ℕ) : JointZ n q k K := track I t (JointZ.startU I (joint I t) t) j
def smoothJointW (t j : ℕ) : JointZ n w k K := track I t (JointZ.startW I (joint I t) t) j

/-- smoothed transition shocks = conditional mean of `u_t` given ALL observations -/
theorem smoother_shocks_is_conditioning (hI : I.Regular) (t j : ℕ) (hF : ∀ s, s < t + 1 + j → I.F s * I.Fi s = 1) :
    I.u2 (t + 1 + j) t
      = condMean (smoothJointU I t j).mz (smoothJointU I t j).Czy (smoothJointU I t j).Vyi (smoothJointU I t j).d := by
  have hJ := filter_is_conditioning I hI t (fun s hs => hF s (by omega))
  rw [I.u2_eq_updated hI (show t < t + 1 + j by omega)]
  -- `u2_eq_updated` is `z₀ + M₀ Tᵀ r` with `(z₀, M₀)` the `condMean`, `condCross` of `fresh_tracks` unfolded, and `smoothJointU` is
  -- `track` from `JointZ.startU`, the `JointZ` that `fresh_tracks` builds from these four matrices
  exact (tracked_is_conditioning I hI t j hF (Joint.step_good I hI t _ hJ (hF t (by omega)))
    (Joint.fresh_tracks I hI t _ hJ (I.u0 t) (I.Su t) (I.Su t * I.Pᵀ) (I.Su t * I.Pᵀ * (I.Z t)ᵀ))).1

/-- smoothed measurement shocks = conditional mean of `w_t` given ALL observations -/
theorem smoother_mshocks_is_conditioning (hI : I.Regular) (t j : ℕ) (hF : ∀ s, s < t + 1 + j → I.F s * I.Fi s = 1) :
    I.w2 (t + 1 + j) t
      = condMean (smoothJointW I t j).mz (smoothJointW I t j).Czy (smoothJointW I t j).Vyi (smoothJointW I t j).d := by
  have hJ := filter_is_conditioning I hI t (fun s hs => hF s (by omega))
  rw [I.w2_eq_updated hI]
  -- as for `u_t`, with `cov(w_t, ξ_t) = 0` (the `0 - …` of `w2_eq_updated`) and `JointZ.startW`
  exact (tracked_is_conditioning I hI t j hF (Joint.step_good I hI t _ hJ (hF t (by omega)))
    (Joint.fresh_tracks I hI t _ hJ (I.w0 t) (I.Sw t) 0 (I.Sw t * (I.H t)ᵀ))).1

/-- push-forward of cross-covariances: if a vector `z` has cross-covariance `[R₁ R₂ | R₃ R₄]` with `(ξ, Y, u_t, w_t)`, its
cross-covariance with `(ξ', (Y, y_t))` is `R Mᵀ` for the matrix `M` of the model equations (`joint_step_is_pushforward`).
`JointZ.step` is the case `R = [Czx Czy | 0 0]` (later shocks uncorrelated with `z`), `JointZ.startU` the case `[0 0 | Σu 0]`
(`z = u_t`), `JointZ.startW` the case `[0 0 | 0 Σw]` (`z = w_t`). -/
theorem cross_step_is_pushforward {o pp zz : Type} [Fintype o] [Fintype pp] [DecidableEq o] [DecidableEq pp]
    (T : Matrix n n K) (P : Matrix n q K) (Z : Matrix pp n K) (H : Matrix pp w K)
    (R1 : Matrix zz n K) (R2 : Matrix zz o K) (R3 : Matrix zz q K) (R4 : Matrix zz w K) :
    fromCols (fromCols R1 R2) (fromCols R3 R4)
        * (fromBlocks (fromCols T (0 : Matrix n o K)) (fromCols P (0 : Matrix n w K))
            (fromBlocks (0 : Matrix o n K) 1 (Z * T) 0) (fromBlocks (0 : Matrix o q K) 0 (Z * P) H))ᵀ
      = fromCols (R1 * Tᵀ + R3 * Pᵀ) (fromCols R2 (R1 * Tᵀ * Zᵀ + R3 * Pᵀ * Zᵀ + R4 * Hᵀ)) := by
  -- same normal form as in `joint_step_is_pushforward`
  simp only [fromBlocks_transpose, transpose_fromCols, fromCols_mul_fromBlocks, fromCols_mul_fromRows,
    Matrix.transpose_zero, Matrix.transpose_one, Matrix.mul_zero, Matrix.mul_one, add_zero, zero_add,
    Matrix.transpose_mul, fromCols_add, Matrix.mul_assoc, add_assoc]

end smoothing

/-! ### fixed unknown initial condition (`estimate_unknown_init`, `correct_for_unknown_init`)

The code runs the filter from the initial mean with the unit-root block at zero, records `Xi_t` (`all_Xi`: `Xi_0 = T Xi_init`,
`Xi_t = (T − T G_{t-1} Z_{t-1}) Xi_{t-1}`), estimates `δ` by GLS and then corrects the cache: `a0_t += Xi_t δ`, `y0_t += Z_t Xi_t δ`,
`pe_t −= Z_t Xi_t δ`.  The theorem says that this correction, applied in EVERY period `t` (also after the last observation, and
whether or not the prediction step is stored), yields exactly the cache of the filter run from the shifted initial mean
`aInit + x` (`x = Xi_init δ`), with unchanged MSEs and gains.  Hence every theorem about `Inputs` (conditioning above, the
smoother identities of Props/C08.lean) applies to the corrected run. -/

/-- the run from the shifted initial mean -/
def shiftInit {p : ℕ → Type} (I : Inputs n q w k p K) (x : Matrix n k K) : Inputs n q w k p K :=
  { I with aInit := I.aInit + x }

/-- `all_Xi[t] @ delta` of the code, as a recursion on the impact on `a0_t` -/
def xiPath {p : ℕ → Type} [∀ t, Fintype (p t)] [∀ t, DecidableEq (p t)] (I : Inputs n q w k p K) (x : Matrix n k K) :
    ℕ → Matrix n k K
  | 0 => I.T * x
  | t + 1 => (I.T - I.T * I.G t * I.Z t) * xiPath I x t

section unknownInit
variable {p : ℕ → Type} [∀ t, Fintype (p t)] [∀ t, DecidableEq (p t)] (I : Inputs n q w k p K) (x : Matrix n k K)

theorem shift_state (t : ℕ) :
    ((shiftInit I x).state t).2 = (I.state t).2
    ∧ I.a0f t ((shiftInit I x).state t).1 = I.a0f t (I.state t).1 + xiPath I x t := by
  induction t with
  | zero => exact ⟨rfl, I.a0f_add 0 I.aInit x⟩
  | succ t ih =>
    refine ⟨congrArg (I.Q1f t) ih.1, ?_⟩
    show I.a0f (t + 1) (I.a1f t ((shiftInit I x).state t).1 ((shiftInit I x).state t).2)
      = I.a0f (t + 1) (I.a1f t (I.state t).1 (I.state t).2) + (I.T - I.T * I.G t * I.Z t) * xiPath I x t
    -- a shift `ξ` of `a0` is a shift `ξ − G Z ξ` of `a1`, hence `T (ξ − G Z ξ) = (T − T G Z) ξ` of the next `a0`
    rw [ih.1, I.a1f_shift ih.2, I.a0f_add, Matrix.mul_sub, Matrix.sub_mul, Matrix.mul_assoc, Matrix.mul_assoc]
    rfl

/-- `correct_for_unknown_init` = the run from the shifted initial mean, for every period `t` (no restriction to the periods
up to the last observation), any missing-data pattern: same `Q0 Q1 F G`; `a0_t + Xi_t δ`, `y0_t + Z_t Xi_t δ`, `pe_t − Z_t Xi_t δ`. -/
theorem unknown_init_correction_is_shifted_run (t : ℕ) :
    (shiftInit I x).Q0 t = I.Q0 t ∧ (shiftInit I x).Q1 t = I.Q1 t ∧ (shiftInit I x).G t = I.G t
    ∧ (shiftInit I x).a0 t = I.a0 t + xiPath I x t
    ∧ (shiftInit I x).y0 t = I.y0 t + I.Z t * xiPath I x t
    ∧ (shiftInit I x).pe t = I.pe t - I.Z t * xiPath I x t := by
  obtain ⟨hQ, ha⟩ := shift_state I x t
  -- `Q0f Q1f Gf a0f y0f pef` do not read `aInit`: those of `shiftInit I x` are those of `I` by unfolding
  exact ⟨congrArg (I.Q0f t) hQ, (shift_state I x (t + 1)).1, congrArg (I.Gf t) hQ, ha, I.y0f_shift ha, I.pef_shift ha⟩

end unknownInit

/-- the hypotheses of the Schur lemmas are met by a concrete 1+1 block covariance `((2,1),(1,1))` over ℚ -/
example : (fromBlocks ((2 : ℚ) • (1 : Matrix (Fin 1) (Fin 1) ℚ)) (1 : Matrix (Fin 1) (Fin 1) ℚ) (1 : Matrix (Fin 1) (Fin 1) ℚ)
      (1 : Matrix (Fin 1) (Fin 1) ℚ))
    * blockInv (1 : Matrix (Fin 1) (Fin 1) ℚ) (1 : Matrix (Fin 1) (Fin 1) ℚ) ((1/2 : ℚ) • 1) ((2 : ℚ) • 1) = 1 := by
  apply block_mul_blockInv
  · rw [smul_mul_smul_comm, mul_one, mul_one_div_cancel two_ne_zero, one_smul]
  · rw [one_mul, mul_one, Matrix.mul_smul, mul_one, smul_sub, smul_smul, mul_one_div_cancel two_ne_zero, one_smul, two_smul,
      add_sub_cancel_right]

section nonvacuousN
local instance inv2q : Invertible (2 : ℚ) := ⟨1/2, by norm_num, by norm_num⟩

/-- white-noise state observed without measurement error (`T = 0`, `P = Z = 1`, `H = 0`, unit covariances, data `y_t = t`) -/
def exN : Inputs (Fin 2) (Fin 2) (Fin 2) (Fin 1) (fun _ => Fin 2) ℚ :=
  { T := 0, P := 1, Kc := fun _ _ => 1, Z := fun _ => 1, H := fun _ => 0, D := fun _ _ _ => 0, y := fun t _ _ => t,
    Su := fun _ => 1, Sw := fun _ => 1, u0 := fun _ => 0, w0 := fun _ => 0, Fi := fun _ => 1, aInit := 0, QInit := 1 }

/-- the hypotheses of `filter_is_conditioning` / `likelihood_is_stacked_density` are met for EVERY horizon by a concrete system -/
example : exN.Regular ∧ ∀ s, exN.F s * exN.Fi s = 1 := by
  have hs : IrisVerif.KalmanAbs.symm (1 : Matrix (Fin 2) (Fin 2) ℚ) = 1 := symm_of_symmetric _ Matrix.transpose_one
  refine ⟨⟨Matrix.transpose_one, fun _ => Matrix.transpose_one, fun _ => Matrix.transpose_one, fun _ => Matrix.transpose_one⟩,
    fun s => ?_⟩
  have hF : exN.F s = 1 := by
    simp [Inputs.F, Inputs.Ff, Inputs.Q0f, exN, hs]
  rw [hF]
  exact Matrix.mul_one 1

end nonvacuousN

end IrisVerif.C03
