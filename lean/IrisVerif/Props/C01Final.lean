/-
Property C01: non-vacuity instances for hypotheses of `Props/C01.lean`, `Props/C01QZ.lean` and `Props/BridgeC01Sim.lean`, the
executable discipline check against the `disciplined` of `Props/C01State.lean`, the converse of the certificate, the measurement
certificate with its rejection branch, uniqueness of the computed state recursion among bounded solutions of the stacked system
(the "is the stable one" clause), and the end-to-end statement.
-/
import IrisVerif.Props.C01QZ
import IrisVerif.Props.C01State
import IrisVerif.Props.BridgeC01Sim

open Matrix

set_option linter.unusedSectionVars false

namespace IrisVerif.C01Final

open IrisVerif.C01

/-- a GROWING steady path meets the hypothesis of `level_eq_steadypath_add_deviation` / `steady_path_reproduced`:
random walk with drift `x = x{-1} + 1/2`, `ξ̄[t] = t/2` -/
example : ∀ t : ℕ, (fun t : ℕ => (![(t : ℚ) / 2] : Fin 1 → ℚ)) (t + 1)
    = (!![1] : Matrix (Fin 1) (Fin 1) ℚ) *ᵥ (fun t : ℕ => (![(t : ℚ) / 2] : Fin 1 → ℚ)) t + ![1/2] := by
  intro t
  ext i
  simp [add_div]

/-- the hypothesis of `split_frame_eq_single` is met by a shock path with an unanticipated shock in the first frame period only -/
example : ∀ k, 2 ≤ k → k ≤ 3 → (fun k : ℕ => if k = 1 then (![1] : Fin 1 → ℚ) else 0) (0 + k) = 0 := by
  intro k h1 _
  have : ¬ (k = 1) := by omega
  simp [this]

/-- the measurement certificate is met by `y = 2 x + 3 + w` written as `-y + 2 x + 3 + w = 0`: `F = -1, G = 2, H = 3, J = 1`, `Z = 2, D = 3, Hm = 1` -/
example : (!![-1] : Matrix (Fin 1) (Fin 1) ℚ) * !![2] + !![2] = 0 ∧ (!![-1] : Matrix (Fin 1) (Fin 1) ℚ) *ᵥ ![3] + ![3] = 0
    ∧ (!![-1] : Matrix (Fin 1) (Fin 1) ℚ) * !![1] + !![1] = 0 := by
  decide +kernel

/-- the executable discipline check of the driver is the `disciplined` of `runObj_pure` -/
theorem disciplinedOps_eq {π : Type} (fr : Bool) (ops : List (FirstOrder.ObjOp π)) :
    FirstOrder.disciplinedOps fr ops = C01State.disciplined fr ops := by
  induction ops generalizing fr with
  | nil => rfl
  | cons op ops ih => cases op <;> simp [FirstOrder.disciplinedOps, C01State.disciplined, ih]

section measurement
variable {nf nb ny nw : Type} [Fintype nf] [Fintype nb] [Fintype ny] [Fintype nw] [DecidableEq nf] [DecidableEq nb]
variable {K : Type} [CommRing K]

theorem measurement_residual (F : Matrix ny ny K) (Gf : Matrix ny nf K) (Gb : Matrix ny nb K) (Hc : ny → K) (Jm : Matrix ny nw K)
    (Z : Matrix ny nb K) (Dm : ny → K) (Hm : Matrix ny nw K)
    (h1 : F * Z + Gb = 0) (h2 : F *ᵥ Dm + Hc = 0) (h3 : F * Hm + Jm = 0) (f : nf → K) (x : nb → K) (w : nw → K) :
    F *ᵥ measure Z Dm Hm x w + Gf *ᵥ f + Gb *ᵥ x + Hc + Jm *ᵥ w = Gf *ᵥ f := by
  have h := measurement_equations_hold F Gb Hc Jm Z Dm Hm h1 h2 h3 x w
  rw [add_right_comm _ (Gf *ᵥ f), add_right_comm _ (Gf *ᵥ f), add_right_comm _ (Gf *ᵥ f), h, zero_add]

/-- **what is claimed and what is rejected**: with the certificate, the measurement equations hold for EVERY lead vector iff the lead
columns `G_f` are zero (the executable `measurementCertificate` reports `gLead`; a model with a lead in a measurement equation has
`gLead ≠ 0` and is the known finding `measurement-equation-with-lead`) -/
theorem measurement_holds_iff (F : Matrix ny ny K) (Gf : Matrix ny nf K) (Gb : Matrix ny nb K) (Hc : ny → K) (Jm : Matrix ny nw K)
    (Z : Matrix ny nb K) (Dm : ny → K) (Hm : Matrix ny nw K)
    (h1 : F * Z + Gb = 0) (h2 : F *ᵥ Dm + Hc = 0) (h3 : F * Hm + Jm = 0) :
    (∀ (f : nf → K) (x : nb → K) (w : nw → K), F *ᵥ measure Z Dm Hm x w + Gf *ᵥ f + Gb *ᵥ x + Hc + Jm *ᵥ w = 0) ↔ Gf = 0 := by
  simp only [measurement_residual F Gf Gb Hc Jm Z Dm Hm h1 h2 h3]
  exact ⟨fun h => matrix_eq_zero_of_mulVec Gf fun f => h f 0 0, fun hG f _ _ => by rw [hG, Matrix.zero_mulVec]⟩

end measurement

section converse
variable {nf nb ne nu : Type} [Fintype nf] [Fintype nb] [Fintype ne] [Fintype nu] [DecidableEq nb] [DecidableEq nu]
variable {K : Type} [CommRing K]
variable (T : Matrix nb nb K) (Kc : nb → K) (P : Matrix nb nu K) (sh : nf → ℕ) (src : nf → nb)
variable (Af : Matrix ne nf K) (Ab Bb : Matrix ne nb K) (C : ne → K) (D : Matrix ne nu K)

/-- **The certificate is necessary and sufficient**: `E1 = E2 = E3 = 0` iff every claimed row holds in the first simulated period for
every initial condition and every unanticipated shock -- so if a certificate block is not zero there IS a history (an initial
condition and a shock) with a violated equation. -/
theorem certificate_iff :
    (E1 T sh src Af Ab Bb = 0 ∧ E2 T Kc sh src Af Ab C = 0 ∧ E3 T P sh src Af Ab D = 0) ↔
    (∀ (x0 : nb → K) (u : ℕ → nu → K), residAt T Kc P sh src Af Ab Bb C D x0 u (fun _ => 0) (fun _ => 0) 0 = 0) :=
  ⟨fun ⟨h1, h2, h3⟩ x0 u => equations_hold_unanticipated T Kc P sh src Af Ab Bb C D h1 h2 h3 x0 u 0,
    certificate_of_first_period T Kc P sh src Af Ab Bb C D⟩

theorem certificate_fails_witness
    (hne : ¬ (E1 T sh src Af Ab Bb = 0 ∧ E2 T Kc sh src Af Ab C = 0 ∧ E3 T P sh src Af Ab D = 0)) :
    ∃ (x0 : nb → K) (u : ℕ → nu → K), residAt T Kc P sh src Af Ab Bb C D x0 u (fun _ => 0) (fun _ => 0) 0 ≠ 0 := by
  simpa only [certificate_iff T Kc P sh src Af Ab Bb C D, not_forall] using hne

end converse

section uniqueness
variable {nr nf nb nu : Type} [Fintype nr] [Fintype nf] [Fintype nb] [Fintype nu]
variable [DecidableEq nr] [DecidableEq nf] [DecidableEq nb]
variable {F : Type} [Field F] [LinearOrder F] [IsStrictOrderedRing F] [Archimedean F]
variable (d : QZ nr nf nb nu F)

/-- **Uniqueness.**  Under the hypotheses of `C01QZ` (exact QZ identities, invertible `S11`, `T22`, `S22+T22`, `Z21`), an inverse of
`Z`, and a contracting power of `J = -T22⁻¹ S22` (the unstable roots are outside the unit circle): ANY shock-free path `ζ[t]` of the
whole stacked system `A ζ[t+1] + B ζ[t] + C = 0` (all rows, every `t`) whose unstable block `(Z⁻¹ ζ[t])₂` stays bounded has the
state recursion of the computed solution, `ξ[t+1] = T ξ[t] + K` -- there is no other non-explosive solution. -/
theorem uniqueness_qz (hS11' : d.S11i * d.S11 = 1) (hT22' : d.T22i * d.T22 = 1)
    (Zi : Matrix (nb ⊕ nf) (nf ⊕ nb) F) (hZ : d.Zm * Zi = 1)
    (m : ℕ) (q : F) (hq : RowSumLe (d.Jm ^ m) q) (hq0 : 0 ≤ q) (hq1 : q < 1)
    (ζ : ℕ → nf ⊕ nb → F) (hsys : ∀ t, d.A *ᵥ ζ (t + 1) + d.B *ᵥ ζ t + d.C = 0)
    (Bd : F) (hb : ∀ t, VecLe (fun i => (Zi *ᵥ ζ t) (Sum.inr i)) Bd) (t : ℕ) :
    (fun b => ζ (t + 1) (Sum.inr b)) = d.Tsq *ᵥ (fun b => ζ t (Sum.inr b)) + d.Ksq := by
  -- transformed coordinates `Z⁻¹ ζ = (s ; un)`, kept opaque
  obtain ⟨s, hs⟩ : ∃ s : ℕ → nb → F, ∀ t, s t = (Zi *ᵥ ζ t) ∘ Sum.inl := ⟨_, fun _ => rfl⟩
  obtain ⟨un, hun⟩ : ∃ un : ℕ → nf → F, ∀ t, un t = (Zi *ᵥ ζ t) ∘ Sum.inr := ⟨_, fun _ => rfl⟩
  have hζ : ∀ t, ζ t = d.Zm *ᵥ Sum.elim (s t) (un t) := fun t => by
    rw [hs, hun, Sum.elim_comp_inl_inr, Matrix.mulVec_mulVec, hZ, Matrix.one_mulVec]
  have hblk := fun t => (d.stacked_iff (s (t + 1)) (s t) (un (t + 1)) (un t) 0).mp (by
    rw [← hζ, ← hζ, Matrix.mulVec_zero, add_zero]; exact hsys t)
  simp only [Matrix.mulVec_zero, add_zero] at hblk
  -- the lower block is the backward recursion `un[t] = J un[t+1] + c`, whose only bounded solution is the constant `Ku`
  have hback : ∀ x y : nf → F, d.S22 *ᵥ y + d.T22 *ᵥ x + d.QC2 = 0 → x = d.Jm *ᵥ y + -(d.T22i *ᵥ d.QC2) := by
    intro x y h
    rw [add_right_comm] at h
    rw [QZ.Jm, ← mulVec_cancel hT22' x, eq_neg_of_add_eq_zero_right h, Matrix.mulVec_neg, Matrix.mulVec_add, neg_add,
      Matrix.mulVec_mulVec, ← Matrix.neg_mulVec]
  have hun_const : ∀ t, un t = d.Ku := fun t =>
    C01State.unstable_block_unique d.Jm (-(d.T22i *ᵥ d.QC2)) d.Ku (hback _ _ d.lower_block_Ku) m q hq hq0 hq1
      un (fun t => hback _ _ (hblk t).2) Bd (fun t => by rw [hun]; exact hb t) t
  -- with `s = γ + G Ku`, the upper block and `upper_block_qz` differ in `S11 γ[t+1]` only
  obtain ⟨γ, hγ⟩ : ∃ γ : ℕ → nb → F, ∀ t, s t = γ t + d.G *ᵥ d.Ku :=
    ⟨fun t => s t - d.G *ᵥ d.Ku, fun t => (sub_add_cancel _ _).symm⟩
  have hstep : ∀ t, γ (t + 1) = d.Tg *ᵥ γ t + d.Kg := by
    intro t
    have h1 := (hblk t).1
    have h2 := d.upper_block_qz (γ t) 0
    rw [hun_const, hun_const, hγ, hγ] at h1
    simp only [Matrix.mulVec_zero, add_zero] at h2
    have h := h1.trans h2.symm
    rw [add_left_inj, add_left_inj, add_left_inj, add_left_inj] at h
    exact add_right_cancel (mulVec_left_cancel hS11' h)
  -- back to the state: `ξ = Z21 γ`
  have hξ : ∀ t, (fun b => ζ t (Sum.inr b)) = d.Z21 *ᵥ γ t := fun t => by
    rw [hζ, hun_const, hγ, d.Zm_mulVec_qz]
    rfl
  rw [hξ, hξ, hstep, QZ.Tsq, QZ.Ksq, Matrix.mulVec_add, ← Matrix.mulVec_mulVec, ← Matrix.mulVec_mulVec, d.Z21i_Z21_mulVec]

/-- **End to end, input-level hypotheses only** (exact QZ identities, invertible named blocks, the dynamic identities of the lead
tokens, claimed rows reading `ζ[t-1]` in its `ξ` part, an inverse of `Z`, a contracting power of `J`): the matrices computed by
`_solve_transition_equations` (i) make every claimed row hold in every period along every simulated path -- every initial
condition, every unanticipated and finite-horizon anticipated shock path --, and (ii) are the only non-explosive solution. -/
theorem end_to_end_qz {nc : Type} [Fintype nc] [DecidableEq nu]
    {sh : nf → ℕ} {src : nf → nb} {prev : nf → nf ⊕ nb} {idr : nf → nr} (cr : nc → nr)
    (hl : LeadIdentities d sh src prev idr) (hB0 : ∀ r i, d.B (cr r) (Sum.inl i) = 0)
    (hS11' : d.S11i * d.S11 = 1) (hT22' : d.T22i * d.T22 = 1)
    (Zi : Matrix (nb ⊕ nf) (nf ⊕ nb) F) (hZ : d.Zm * Zi = 1)
    (m : ℕ) (q : F) (hq : RowSumLe (d.Jm ^ m) q) (hq0 : 0 ≤ q) (hq1 : q < 1) :
    (∀ (H : ℕ) (x0 : nb → F) (u v : ℕ → nu → F), (∀ s, H < s → v s = 0) → ∀ t,
        residAt d.Tsq d.Ksq d.Psq sh src (Afq d cr) (Abq d cr) (Bbq d cr) (Ccq d cr) (Ddq d cr) x0 u v
          (impact d.Psq d.Xsq d.Jm d.Ru H v) t = 0) ∧
    (∀ (ζ : ℕ → nf ⊕ nb → F), (∀ t, d.A *ᵥ ζ (t + 1) + d.B *ᵥ ζ t + d.C = 0) →
        (∃ Bd, ∀ t, VecLe (fun i => (Zi *ᵥ ζ t) (Sum.inr i)) Bd) →
        ∀ t, (fun b => ζ (t + 1) (Sum.inr b)) = d.Tsq *ᵥ (fun b => ζ t (Sum.inr b)) + d.Ksq) :=
  ⟨fun H x0 u v hv t => equations_hold_qz d cr hl hB0 H x0 u v hv t,
   fun ζ hsys ⟨Bd, hb⟩ t => uniqueness_qz d hS11' hT22' Zi hZ m q hq hq0 hq1 ζ hsys Bd hb t⟩

end uniqueness

section example_final

/-- inverse of `Z = [[1, 3], [2, 2]]` -/
def exZi : Matrix (Fin 1 ⊕ Fin 1) (Fin 1 ⊕ Fin 1) ℚ := Matrix.of (Sum.elim (fun _ => Sum.elim ![-1/2] ![3/4]) (fun _ => Sum.elim ![1/2] ![-1/4]))

example : exQZ.Zm * exZi = 1 ∧ exQZ.S11i * exQZ.S11 = 1 ∧ exQZ.T22i * exQZ.T22 = 1 ∧ RowSumLe (exQZ.Jm ^ 1) (2/3 : ℚ) := by
  unfold RowSumLe
  decide +kernel

/-- the steady state `(x[+1]; x) = (8; 8)` is a bounded solution of the whole stacked system of the example -/
example : exQZ.A *ᵥ (fun _ => (8 : ℚ)) + exQZ.B *ᵥ (fun _ => (8 : ℚ)) + exQZ.C = 0 := by
  decide +kernel

/-- the shape hypotheses of the simulator bridge `BridgeC01Sim.foldl_xiStep_eq_path_PU` are met by concrete `QMat`s
(`T = P = 1`, `K = 0`, three data columns, frame starting in column 1, two periods); the statement is `True` because only the
hypotheses are at stake: the `have` type-checks the instance -/
example : True := by
  have _h := BridgeC01Sim.foldl_xiStep_eq_path_PU (QMat.identity 1) (QMat.zero 1 1) (QMat.identity 1) (QMat.zero 1 3) #[]
    (QMat.zero 1 1) 1 1 1 rfl rfl rfl rfl rfl 2 (by decide)
  trivial

end example_final

end IrisVerif.C01Final
