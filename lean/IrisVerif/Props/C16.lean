/-
C16 -- Block decomposition of an incidence matrix is a valid sequential ordering.

Theorems about the executable model `IrisVerif/Model/Blazer.lean` of irispie/incidences/blazer.py
and of `Sequential.sequentialize`.  Vocabulary (defined in `Lemmas/Blazer.lean`):

* `HasPerfectMatching im rows cols` -- there is a list of incident (row, column) pairs whose rows are a
  permutation of `rows` and whose columns are a permutation of `cols` (decidable: `hasPMb_iff`);
* `blockRows bs` / `blockCols bs` -- concatenation of the row / column lists of the blocks;
* `NoInc im b b'` -- no row of block `b` has an incidence in a column of block `b'`.

The `blaze` theorems (`blaze_relabel_equivariant` apart, which holds for every matrix) are for every size `n`,
every incidence function `im` with a perfect matching on `range n × range n`, and **every** pair `rp`, `cp` of
permutations standing for what the heuristic `triangularize_inner_block` does to the inner rows and columns.
-/
import IrisVerif.Lemmas.Blazer

namespace IrisVerif.C16
open IrisVerif.Blazer

/-- the hypotheses about the heuristic: it permutes the inner rows and the inner columns -/
def InnerPerms (im : Inc) (n : Nat) (rp cp : List Nat) : Prop :=
  rp.Perm (List.range (prefetch im (List.range n) (List.range n)).ri.length) ∧
  cp.Perm (List.range (prefetch im (List.range n) (List.range n)).ci.length)

/-- The recursion of `prefetch` stops only at a fixed point: in what it returns as the inner part no
row has exactly one incidence within the inner columns (nor any column within the inner rows: `prefetch_stuck`).
(Termination itself is the `termination_by` of the model: the recursive call is guarded by `im.size < initial_size`.) -/
theorem prefetch_stops_at_fixed_point (im : Inc) (n : Nat)
    (hpm : HasPerfectMatching im (List.range n) (List.range n)) :
    firstPairs im (prefetch im (List.range n) (List.range n)).ri
      (prefetch im (List.range n) (List.range n)).ci = [] :=
  (prefetch_stuck im _ _ List.nodup_range List.nodup_range hpm).1

/-- `prefetch` splits rows and columns into first ++ inner ++ last (as permutations of all rows and
of all columns), the inner part keeps a perfect matching, and every prefetched pair is an incidence
that belongs to *every* perfect matching of the matrix. -/
theorem prefetch_partitions (im : Inc) (n : Nat)
    (hpm : HasPerfectMatching im (List.range n) (List.range n)) :
    let p := prefetch im (List.range n) (List.range n)
    (rowsOf p.first ++ p.ri ++ rowsOf p.last).Perm (List.range n) ∧
    (colsOf p.first ++ p.ci ++ colsOf p.last).Perm (List.range n) ∧
    HasPerfectMatching im p.ri p.ci ∧
    ∀ P, IsPM im (List.range n) (List.range n) P → ∀ q ∈ p.first ++ p.last, q ∈ P ∧ im q.1 q.2 = true := by
  have hs := prefetch_spec im _ _ List.nodup_range List.nodup_range hpm
  exact ⟨hs.rows_perm hpm, hs.cols_perm hpm, hs.hasPM hpm,
    fun P hP q hq => ⟨hs.sub_pm hP hq, hP.2.2 q (hs.sub_pm hP hq)⟩⟩

/-- **Merge order across recursion rounds.** When a round (`step1`: rows with one incidence first, then
columns with one incidence last) shrinks the matrix, the result is: this round's first pairs *followed by*
the recursive call's first pairs, and the recursive call's last pairs *followed by* this round's last pairs
(`eids_last = eids_last_next + eids_last`); otherwise it is this round alone.  The pairs put last by an
outer round therefore come after all pairs put last by inner rounds -- the order on which
`blaze_blocks_lower_triangular` rests: an outer-round row may well involve an inner-round "last" column
(example below), never the other way round. -/
theorem prefetch_merge_order (im : Inc) (ri ci : List Nat) :
    let s := step1 im ri ci
    (s.ri.length * s.ci.length < ri.length * ci.length →
      (prefetch im ri ci).first = s.first ++ (prefetch im s.ri s.ci).first ∧
      (prefetch im ri ci).last = (prefetch im s.ri s.ci).last ++ s.last ∧
      (prefetch im ri ci).ri = (prefetch im s.ri s.ci).ri ∧
      (prefetch im ri ci).ci = (prefetch im s.ri s.ci).ci) ∧
    (¬ s.ri.length * s.ci.length < ri.length * ci.length → prefetch im ri ci = s) := by
  intro s
  constructor
  · intro h
    rw [prefetch_eq, if_pos h]
    exact ⟨rfl, rfl, rfl, rfl⟩
  · intro h
    rw [prefetch_eq, if_neg h]

/-- the order matters from n = 4 on: here round one puts `(3,0)` first and `(0,3)` last, round two puts
`(2,1)` first and `(1,2)` last; the trailing blocks `(1,2), (0,3)` are lower block-triangular, the other
order is not (row 0 involves column 2) -/
example : HasPerfectMatching (incOf orderMatrix) (List.range 4) (List.range 4) ∧
    prefetch (incOf orderMatrix) (List.range 4) (List.range 4) =
      { first := [(3, 0), (2, 1)], last := [(1, 2), (0, 3)], ri := [], ci := [] } ∧
    (singles [(3, 0), (2, 1), (1, 2), (0, 3)]).Pairwise (NoInc (incOf orderMatrix)) ∧
    ¬ (singles [(3, 0), (2, 1), (0, 3), (1, 2)]).Pairwise (NoInc (incOf orderMatrix)) := by
  decide +kernel

/-- `blaze` does not raise on a square matrix with a perfect matching (the generator's `next(...)`
always finds a cut), and its blocks are the prefetched first pairs, then the blocks cut from the
re-ordered inner part, then the prefetched last pairs. -/
theorem blaze_succeeds (im : Inc) (n : Nat) (rp cp : List Nat)
    (hpm : HasPerfectMatching im (List.range n) (List.range n)) (hp : InnerPerms im n rp cp) :
    ∃ o inner, blazePos im n n rp cp = .ok o ∧
      o.blocks = singles o.pre.first ++ inner ++ singles o.pre.last ∧
      o.pre = prefetch im (List.range n) (List.range n) ∧
      blockRows inner = o.innerRows ∧ blockCols inner = o.innerCols := by
  obtain ⟨o, ho, hs⟩ := blazePos_spec im n rp cp hpm hp.1 hp.2
  obtain ⟨inner, h1, h2⟩ := hs.shape
  exact ⟨o, inner, ho, h1, hs.pre_eq, h2.rows, h2.cols⟩

/-- (i) the blocks partition the rows (equations) and the columns (quantities) -/
theorem blaze_blocks_partition (im : Inc) (n : Nat) (rp cp : List Nat)
    (hpm : HasPerfectMatching im (List.range n) (List.range n)) (hp : InnerPerms im n rp cp)
    (o : BlazeOut) (ho : blazePos im n n rp cp = .ok o) :
    (blockRows o.blocks).Perm (List.range n) ∧ (blockCols o.blocks).Perm (List.range n) :=
  ⟨(blazePos_spec_of_ok hpm hp.1 hp.2 ho).rows_perm, (blazePos_spec_of_ok hpm hp.1 hp.2 ho).cols_perm⟩

/-- (ii) every block is square -/
theorem blaze_blocks_square (im : Inc) (n : Nat) (rp cp : List Nat)
    (hpm : HasPerfectMatching im (List.range n) (List.range n)) (hp : InnerPerms im n rp cp)
    (o : BlazeOut) (ho : blazePos im n n rp cp = .ok o) :
    ∀ b ∈ o.blocks, b.1.length = b.2.length :=
  (blazePos_spec_of_ok hpm hp.1 hp.2 ho).square

/-- (iii) no block has an incidence in a column of a later block -/
theorem blaze_blocks_lower_triangular (im : Inc) (n : Nat) (rp cp : List Nat)
    (hpm : HasPerfectMatching im (List.range n) (List.range n)) (hp : InnerPerms im n rp cp)
    (o : BlazeOut) (ho : blazePos im n n rp cp = .ok o) :
    o.blocks.Pairwise (NoInc im) :=
  (blazePos_spec_of_ok hpm hp.1 hp.2 ho).lbt

/-- (iii), as in the property statement: the equations of block `k` involve only quantities of block
`k` and of earlier blocks -/
theorem blaze_incidences_in_same_or_earlier_blocks (im : Inc) (n : Nat) (rp cp : List Nat)
    (hpm : HasPerfectMatching im (List.range n) (List.range n)) (hp : InnerPerms im n rp cp)
    (o : BlazeOut) (ho : blazePos im n n rp cp = .ok o)
    (k : Nat) (hk : k < o.blocks.length) (r : Nat) (hr : r ∈ o.blocks[k].1)
    (c : Nat) (hc : c < n) (hi : im r c = true) :
    c ∈ blockCols (o.blocks.take (k + 1)) :=
  have hs := blazePos_spec_of_ok hpm hp.1 hp.2 ho
  lbt_same_or_earlier hs.lbt hk hr (hs.cols_perm.symm.subset (List.mem_range.2 hc)) hi

/-- (iv) every diagonal block has a perfect matching (is structurally non-singular) -/
theorem blaze_diagonal_blocks_nonsingular (im : Inc) (n : Nat) (rp cp : List Nat)
    (hpm : HasPerfectMatching im (List.range n) (List.range n)) (hp : InnerPerms im n rp cp)
    (o : BlazeOut) (ho : blazePos im n n rp cp = .ok o) :
    ∀ b ∈ o.blocks, HasPerfectMatching im b.1 b.2 :=
  (blazePos_spec_of_ok hpm hp.1 hp.2 ho).pm

/-- (v) a singleton block `([r], [c])` -- in particular every prefetched one, see `blaze_succeeds` --
has exactly one unknown given the earlier blocks: `c` is an incidence of row `r`, and every other
incidence of row `r` is a column of an earlier block -/
theorem blaze_singleton_blocks_one_unknown (im : Inc) (n : Nat) (rp cp : List Nat)
    (hpm : HasPerfectMatching im (List.range n) (List.range n)) (hp : InnerPerms im n rp cp)
    (o : BlazeOut) (ho : blazePos im n n rp cp = .ok o)
    (k : Nat) (hk : k < o.blocks.length) (r c : Nat) (hb : o.blocks[k] = ([r], [c])) :
    im r c = true ∧ ∀ c' < n, im r c' = true → c' = c ∨ c' ∈ blockCols (o.blocks.take k) := by
  have hs := blazePos_spec_of_ok hpm hp.1 hp.2 ho
  constructor
  · have h := hs.pm _ (List.getElem_mem hk)
    rwa [hb, hasPM_singleton] at h
  · intro c' hc' hi
    have := lbt_same_or_earlier hs.lbt hk (hb ▸ List.mem_singleton_self r)
      (hs.cols_perm.symm.subset (List.mem_range.2 hc')) hi
    rw [List.take_add_one, blockCols_append, List.mem_append, List.getElem?_eq_getElem hk, hb] at this
    exact this.symm.imp_left fun h => by simpa [blockCols] using h

/-! ### the hypotheses of the theorems above are met: worked examples -/

example : HasPerfectMatching (incOf exampleMatrix) (List.range 5) (List.range 5) := by decide

example : InnerPerms (incOf exampleMatrix) 5 [1, 0, 2, 3] [0, 1, 3, 2] := by
  unfold InnerPerms
  rw [example_prefetch]
  constructor <;> decide

/-- the hypotheses about the heuristic are satisfiable for every matrix (identity re-ordering) -/
example (im : Inc) (n : Nat) : ∃ rp cp, InnerPerms im n rp cp :=
  ⟨_, _, List.Perm.refl _, List.Perm.refl _⟩

example : (blazePos (incOf exampleMatrix) 5 5 [1, 0, 2, 3] [0, 1, 3, 2]).map (·.blocks) =
    .ok [([0], [0]), ([2, 1], [1, 2]), ([3, 4], [4, 3])] := by
  decide +kernel

/-- **Equivariance.** For every matrix (square or not, with or without a perfect matching), every id
tuples and every pair of id maps `f`, `g` (injective or not): `blaze` on the re-labelled ids is `blaze`
on the original ids with every block re-labelled (and sorted again, as `Block.__init__` does).  The
decomposition depends on the incidence pattern only; the caller's ids are attached at the end -- so
anything remembered per pattern has to have the *current* ids re-applied. -/
theorem blaze_relabel_equivariant (f g : Int → Int) (m : List (List Bool)) (eids qids : List Int)
    (rp cp : List Nat) :
    blaze m (eids.map f) (qids.map g) rp cp =
      (blaze m eids qids rp cp).map fun bs => bs.map (relabelBlock f g) := by
  unfold blaze
  simp only [List.length_map]
  split
  · rfl
  · cases hb : blazePos (incOf m) eids.length qids.length rp cp with
    | error e => rfl
    | ok o =>
      simp only [Except.map, List.map_map]
      congr 1
      refine List.map_congr_left fun b hb' => ?_
      have := blazePos_mem hb
      exact labelBlock_map f g eids qids b
        (fun r hr => List.mem_range.1 (this.1 (List.mem_flatMap.2 ⟨b, hb', hr⟩)))
        (fun c hc => List.mem_range.1 (this.2 (List.mem_flatMap.2 ⟨b, hb', hc⟩)))

/-- (i)–(iv) for `blaze(im, eids, qids)` itself, i.e. after the ids are attached and sorted: for every
`n × n` matrix with a perfect matching, every id tuples of length `n` and every inner permutations,
`blaze` returns blocks whose eids are a permutation of `eids` and whose qids are a permutation of `qids`,
all square, each the labelled image of a position block with a perfect matching; and when the ids are
pairwise distinct no equation id of a block is incident (`IncId`) with a quantity id of a later block. -/
theorem blaze_ids_valid (m : List (List Bool)) (eids qids : List Int) (rp cp : List Nat) (n : Nat)
    (he : eids.length = n) (hq : qids.length = n) (hm : m.length = n) (hrow : ∀ row ∈ m, row.length = n)
    (hpm : HasPerfectMatching (incOf m) (List.range n) (List.range n))
    (hp : InnerPerms (incOf m) n rp cp) :
    ∃ bs, blaze m eids qids rp cp = .ok bs ∧
      (bs.flatMap (·.1)).Perm eids ∧ (bs.flatMap (·.2)).Perm qids ∧
      (∀ b ∈ bs, b.1.length = b.2.length) ∧
      (eids.Nodup → qids.Nodup →
        bs.Pairwise fun b b' => ∀ e ∈ b.1, ∀ q ∈ b'.2, ¬ IncId m eids qids e q) ∧
      (∀ b ∈ bs, ∃ pb : Block, b = labelBlock eids qids pb ∧ HasPerfectMatching (incOf m) pb.1 pb.2) := by
  obtain ⟨bs, h, hs⟩ := blaze_id_spec m eids qids rp cp n he hq hm hrow hpm hp.1 hp.2
  exact ⟨bs, h, hs.eids_perm, hs.qids_perm, hs.square, hs.lbt, hs.pm⟩

/-- `Simultaneous.split_into_blocks(plan)`: with `n` solved equations whose steady incidence matrix over
the `n` unknowns has a perfect matching, the blocks partition the equation ids and the unknowns, where a
qid is an unknown -- hence in exactly one block -- iff it can be exogenized and the plan does not
exogenize it, or the plan endogenizes it (a swapped-out variable is in no block, a swapped-in parameter
is in one); blocks are square and lower block-triangular for the steady (any-shift) incidence. -/
theorem split_into_blocks_valid (tokens : List (List Int)) (eids canExo exo endo : List Int)
    (rp cp : List Nat) (n : Nat) (ht : tokens.length = n) (he : eids.length = n)
    (hw : (wrtQids canExo exo endo).length = n)
    (hpm : HasPerfectMatching (incOf (steadyInc tokens (wrtQids canExo exo endo))) (List.range n) (List.range n))
    (hp : InnerPerms (incOf (steadyInc tokens (wrtQids canExo exo endo))) n rp cp) :
    ∃ bs, splitIntoBlocks tokens eids canExo exo endo rp cp = .ok bs ∧
      (bs.flatMap (·.1)).Perm eids ∧
      (bs.flatMap (·.2)).Nodup ∧
      (∀ q, q ∈ bs.flatMap (·.2) ↔ (q ∈ canExo ∧ q ∉ exo) ∨ q ∈ endo) ∧
      (∀ b ∈ bs, b.1.length = b.2.length) ∧
      (eids.Nodup → bs.Pairwise fun b b' => ∀ e ∈ b.1, ∀ q ∈ b'.2,
        ¬ IncId (steadyInc tokens (wrtQids canExo exo endo)) eids (wrtQids canExo exo endo) e q) := by
  obtain ⟨bs, h, hs⟩ := blaze_id_spec (steadyInc tokens (wrtQids canExo exo endo)) eids
    (wrtQids canExo exo endo) rp cp n he hw (by rw [steadyInc_length, ht])
    (fun row hr => by rw [steadyInc_row_length _ _ row hr, hw]) hpm hp.1 hp.2
  refine ⟨bs, h, hs.eids_perm, (hs.qids_perm.nodup_iff).2 (wrtQids_nodup _ _ _), ?_, hs.square,
    fun hne => hs.lbt hne (wrtQids_nodup _ _ _)⟩
  intro q
  rw [hs.qids_perm.mem_iff, mem_wrtQids]

/-- **No claim outside the square case.**  `wrtQids` does not look at what a plan *fixes* (neither does
`_resolve_steady_wrt`: a quantity whose level and change are both fixed stays an unknown column), so a plan
that endogenizes a parameter without exogenizing a variable yields more unknowns than equations.  Then
hypothesis `hw` of `split_into_blocks_valid` fails, and nothing can be valid: whatever list of blocks is
returned, it cannot consist of square blocks that partition both the equations and the unknowns.
(Recorded as finding `split-blocks-fully-fixed-quantity` under C05; for C16 it is outside the statement,
which speaks of square matrices with a perfect matching.) -/
theorem split_into_blocks_not_square_not_valid (eids canExo exo endo : List Int)
    (bs : List (List Int × List Int)) (hne : eids.length ≠ (wrtQids canExo exo endo).length) :
    ¬ ((bs.flatMap (·.1)).Perm eids ∧ (bs.flatMap (·.2)).Perm (wrtQids canExo exo endo) ∧
        ∀ b ∈ bs, b.1.length = b.2.length) := by
  rintro ⟨h1, h2, h3⟩
  have := flatMap_length_of_square h3
  rw [h1.length_eq, h2.length_eq] at this
  exact hne this

/-- what the model (as the code) does there: three equations, unknowns `0 1 2` plus the endogenized
parameter `11` -- equation `102` ends up in two blocks; with another pattern unknown `1` is in no block -/
example : wrtQids [0, 1, 2] [] [11] = [0, 1, 2, 11] ∧
    splitIntoBlocks [[0, 10], [0, 1, 2, 11], [2, 11, 12]] [100, 101, 102] [0, 1, 2] [] [11] [0, 1] [0, 1, 2] =
      .ok [([100], [0]), ([102], [2]), ([102], [11]), ([101], [1])] ∧
    splitIntoBlocks [[0], [0, 1, 11], [1, 2]] [100, 101, 102] [0, 1, 2] [] [11] [] [] =
      .ok [([100], [0]), ([102], [2]), ([101], [11])] := by
  decide +kernel

/-- the id-level theorems are not vacuous: the 5×5 example under a non-monotone labelling -/
example : blaze exampleMatrix [50, 40, 30, 20, 10] [7, 3, 9, 1, 5] [1, 0, 2, 3] [0, 1, 3, 2] =
    .ok [([50], [7]), ([30, 40], [3, 9]), ([10, 20], [1, 5])] := by decide +kernel

/-- ... and `split_into_blocks` with a plan that swaps variable `1` for parameter `11`:
equations `0: {0, 10}`, `1: {0, 1, 2, 11}`, `2: {2, 11, 12}` over variables `0 1 2`, parameters `10 11 12` -/
example : wrtQids [0, 1, 2] [1] [11] = [0, 2, 11] ∧
    splitIntoBlocks [[0, 10], [0, 1, 2, 11], [2, 11, 12]] [100, 101, 102] [0, 1, 2] [1] [11] [0, 1] [0, 1] =
      .ok [([100], [0]), ([101, 102], [2, 11])] := by decide +kernel

/-- hypotheses of `blaze_ids_valid` / `split_into_blocks_valid` met by the two examples above -/
example : exampleMatrix.length = 5 ∧ (∀ row ∈ exampleMatrix, row.length = 5) ∧
    (wrtQids [0, 1, 2] [1] [11]).length = 3 ∧
    HasPerfectMatching (incOf (steadyInc [[0, 10], [0, 1, 2, 11], [2, 11, 12]] (wrtQids [0, 1, 2] [1] [11])))
      (List.range 3) (List.range 3) := by
  decide +kernel

/-! ### Sequential models

`SModel` is the tuple of equations (LHS name, names read at zero shift) that `reorder_equations`
mutates; `sequentialize m` returns the outcome and the state afterwards.  `SeqValid m'` says: every
zero-shift LHS name an equation of `m'` reads is its own LHS or the LHS of an earlier equation. -/

/-- `reorder_equations` raises before it assigns: an error leaves the state unchanged -/
theorem reorder_error_state_unchanged (m : SModel) (order : List Nat) (e : Err)
    (h : (reorderEquations m order).1 = .error e) : (reorderEquations m order).2 = m := by
  by_cases hp : order.Perm (List.range m.length)
  · rw [reorderEquations_of_perm hp] at h
    cases h
  · rw [reorderEquations_of_not_perm hp]

/-- `reorder_equations` accepts exactly the permutations of `0 .. num_equations-1` -/
theorem reorder_accepts_iff_permutation (m : SModel) (order : List Nat) :
    (reorderEquations m order).1 = .ok () ↔ order.Perm (List.range m.length) := by
  by_cases hp : order.Perm (List.range m.length)
  · rw [reorderEquations_of_perm hp]
    exact iff_of_true rfl hp
  · rw [reorderEquations_of_not_perm hp]
    exact iff_of_false (fun h => nomatch h) hp

/-- whenever `sequentialize` ends in an error, the model state is unchanged; and the only error there
is, is the permutation check of `reorder_equations` (the `IrisPieError` that `sequentialize_strictly`
builds is never raised) -/
theorem sequentialize_error_state_unchanged (m : SModel) (e : Err)
    (h : (sequentialize m).1 = .error e) : (sequentialize m).2 = m ∧ e = .notPermutation := by
  rcases sequentialize_cases m rfl with ⟨_, h'⟩ | ⟨_, h'⟩ | ⟨_, h'⟩
  · rw [h'] at h
    cases h
  · rw [h'] at h
    cases h
  · rw [h'] at h ⊢
    exact ⟨rfl, (Except.error.inj h).symm⟩

/-- the hypothesis is met both by a model with distinct LHS names (a two-equation loop) and by one with
repeated LHS names (`v0 = v1 + 1; v0 = 2; v1 = 3`): both raise, both are left exactly as they were -/
example : (sequentialize [⟨0, [1]⟩, ⟨1, [0]⟩, ⟨2, []⟩]).1 = .error .notPermutation ∧
    (sequentialize [⟨0, [1]⟩, ⟨1, [0]⟩, ⟨2, []⟩]).2 = [⟨0, [1]⟩, ⟨1, [0]⟩, ⟨2, []⟩] ∧
    (sequentialize [⟨0, [1]⟩, ⟨0, []⟩, ⟨1, []⟩]).1 = .error .notPermutation ∧
    (sequentialize [⟨0, [1]⟩, ⟨0, []⟩, ⟨1, []⟩]).2 = [⟨0, [1]⟩, ⟨0, []⟩, ⟨1, []⟩] := by
  decide +kernel

/-- Soundness, for models whose LHS names are unique (then `Sequential.incidence_matrix` is square with
the equations' own LHS on the diagonal): if `sequentialize` returns an order `π`, then `π` is a
permutation of the equation indexes, the state afterwards is the equations in that order, and in that
order every zero-shift LHS name an equation reads is its own LHS or the LHS of an earlier equation. -/
theorem sequentialize_sound (m : SModel) (hu : (m.map (·.lhs)).Nodup) (π : List Nat) (m' : SModel)
    (h : sequentialize m = (.ok π, m')) :
    π.Perm (List.range m.length) ∧ m' = π.filterMap (fun i => m[i]?) ∧ SeqValid m' := by
  have hc := sequentialize_cases m rfl
  rw [lhsNames_length hu] at hc
  rcases hc with ⟨hseq, h'⟩ | ⟨hπ, h'⟩ | ⟨_, h'⟩
  · rw [h'] at h
    cases h
    refine ⟨List.Perm.refl _, (filterMap_getElem?_range m).symm, ?_⟩
    rw [isSequential_eq, lhsNames_length hu] at hseq
    have := (seqValid_reorder_iff m hu _ (List.Perm.refl _)).2 (isSequentialIm_pairwise hseq)
    rwa [filterMap_getElem?_range] at this
  · rw [h'] at h
    cases h
    exact ⟨hπ, rfl, (seqValid_reorder_iff m hu _ hπ).2 (strict_order_pairwise (seqInc_self hu))⟩
  · rw [h'] at h
    cases h

/-- hence: if no valid order of the equations exists, `sequentialize` ends in an error (and, by
`sequentialize_error_state_unchanged`, leaves the model untouched) -/
theorem sequentialize_raises_when_no_order_exists (m : SModel) (hu : (m.map (·.lhs)).Nodup)
    (hno : ¬ ∃ π : List Nat, π.Perm (List.range m.length) ∧ SeqValid (π.filterMap fun i => m[i]?)) :
    (sequentialize m).1 = .error .notPermutation ∧ (sequentialize m).2 = m := by
  cases hres : (sequentialize m).1 with
  | error e =>
    obtain ⟨h1, h2⟩ := sequentialize_error_state_unchanged m e hres
    exact ⟨by rw [h2], h1⟩
  | ok π =>
    exfalso
    obtain ⟨h1, h2, h3⟩ := sequentialize_sound m hu π (sequentialize m).2 (by rw [← hres])
    exact hno ⟨π, h1, h2 ▸ h3⟩

/-- Completeness, for unique LHS names: whenever some valid order of the equations exists,
`sequentialize` returns one (by `sequentialize_sound` a valid one).  Together with
`sequentialize_raises_when_no_order_exists`: it raises exactly when no valid order exists, i.e. the
error object that `sequentialize_strictly` builds without raising never lets a wrong order through -- the
permutation check of `reorder_equations` rejects exactly the incomplete orders. -/
theorem sequentialize_complete (m : SModel) (hu : (m.map (·.lhs)).Nodup)
    (hex : ∃ σ : List Nat, σ.Perm (List.range m.length) ∧ SeqValid (σ.filterMap fun i => m[i]?)) :
    ∃ π, (sequentialize m).1 = .ok π := by
  obtain ⟨σ, hσ, hv⟩ := hex
  rcases sequentialize_cases m rfl with ⟨_, h⟩ | ⟨_, h⟩ | ⟨hp, _⟩
  · exact ⟨_, by rw [h]⟩
  · exact ⟨_, by rw [h]⟩
  · rw [lhsNames_length hu] at hp
    rw [seqValid_reorder_iff m hu σ hσ] at hv
    exact absurd (strict_order_perm_of_valid_order (seqInc_self hu) hσ hv) hp

/-- every call (`reorder_equations(p)` accepted or rejected, `sequentialize()` successful or not,
`copy()`) leaves a permutation of the equations -/
theorem applyOp_perm (m : SModel) (op : SOp) : (applyOp m op).Perm m := by
  cases op with
  | reorder p =>
    show (reorderEquations m p).2.Perm m
    by_cases hp : p.Perm (List.range m.length)
    · rw [reorderEquations_of_perm hp]
      exact reorder_perm hp
    · rw [reorderEquations_of_not_perm hp]
  | sequentialize =>
    show (sequentialize m).2.Perm m
    rcases sequentialize_cases m rfl with ⟨_, h⟩ | ⟨hp, h⟩ | ⟨_, h⟩
    · rw [h]
    · rw [h]
      exact reorder_perm hp
    · rw [h]
  | copy => exact List.Perm.refl _

/-- ... hence so does every history of calls -/
theorem runOps_perm (m : SModel) (ops : List SOp) : (runOps m ops).Perm m :=
  List.foldlRecOn (motive := fun m' => m'.Perm m) ops applyOp (List.Perm.refl m)
    fun m' h op _ => (applyOp_perm m' op).trans h

/-- Soundness after any history: whatever re-orderings, earlier `sequentialize()` calls and copies
the object went through, a `sequentialize()` that returns does so with a permutation under which the
state is in a valid order.  (The model recomputes the incidence matrix from the current order after
every call; that the code does the same -- `collect_names` + `finalize_explanatories` -- is what the
`sequential-histories` correspondence stream and its order oracle check.) -/
theorem sequentialize_sound_after_any_history (m0 : SModel) (hu : (m0.map (·.lhs)).Nodup)
    (ops : List SOp) (π : List Nat) (m' : SModel)
    (h : sequentialize (runOps m0 ops) = (.ok π, m')) :
    π.Perm (List.range m0.length) ∧ m' = π.filterMap (fun i => (runOps m0 ops)[i]?) ∧
      SeqValid m' ∧ m'.Perm m0 := by
  have hp := runOps_perm m0 ops
  have hu' : ((runOps m0 ops).map (·.lhs)).Nodup := ((hp.map _).nodup_iff).2 hu
  obtain ⟨h1, h2, h3⟩ := sequentialize_sound _ hu' π m' h
  exact ⟨hp.length_eq ▸ h1, h2, h3, h2 ▸ (reorder_perm h1).trans hp⟩

/-- For **every** model (repeated LHS names included): `sequentialize` never returns anything but a
permutation of `0 .. num_equations-1`, the state afterwards is the equations in that order, and no
equation is ever dropped or duplicated -- whether it returns or raises.  (The order from
`sequentialize_strictly` may be partial -- the looped equations are missing from it -- and it is the
permutation check of `reorder_equations` that keeps it from being applied.) -/
theorem sequentialize_never_returns_non_permutation (m : SModel) :
    (∀ π, (sequentialize m).1 = .ok π →
      π.Perm (List.range m.length) ∧ (sequentialize m).2 = π.filterMap fun i => m[i]?) ∧
    (sequentialize m).2.Perm m ∧ (sequentialize m).2.length = m.length := by
  have hperm : (sequentialize m).2.Perm m := applyOp_perm m .sequentialize
  refine ⟨?_, hperm, hperm.length_eq⟩
  intro π h
  rcases sequentialize_cases m rfl with ⟨_, h'⟩ | ⟨hp, h'⟩ | ⟨_, h'⟩
  · rw [h'] at h ⊢
    cases h
    exact ⟨List.Perm.refl _, (filterMap_getElem?_range m).symm⟩
  · rw [h'] at h ⊢
    cases h
    exact ⟨hp, rfl⟩
  · rw [h'] at h
    cases h

/-- `reorder_equations(p)` never drops or duplicates an equation either -/
theorem reorder_never_drops_equations (m : SModel) (p : List Nat) :
    (reorderEquations m p).2.Perm m ∧ (reorderEquations m p).2.length = m.length :=
  ⟨applyOp_perm m (.reorder p), (applyOp_perm m (.reorder p)).length_eq⟩

/-- `Sequential.incidence_matrix` is `num_equations × num_unique_lhs_names`: never more columns than
rows, and square exactly when the LHS names are pairwise distinct -/
theorem incidence_matrix_square_iff_distinct_lhs (m : SModel) :
    (lhsNames m).length ≤ m.length ∧
    ((lhsNames m).length = m.length ↔ (m.map (·.lhs)).Nodup) := by
  have h1 := dedup_length_le (m.map (·.lhs))
  have h2 := dedup_length_eq_iff (m.map (·.lhs))
  simp only [List.length_map] at h1 h2
  exact ⟨h1, h2⟩

/-- The correct behaviour in the square case.  With pairwise distinct LHS names the incidence matrix is
square with every equation's own LHS on the diagonal, and `sequentialize` is exactly right: it returns
(a permutation `π` whose application leaves the equations in a valid order) if and only if a valid order
exists; otherwise it raises and leaves the model untouched. -/
theorem sequentialize_correct_of_distinct_lhs (m : SModel) (hu : (m.map (·.lhs)).Nodup) :
    (lhsNames m).length = m.length ∧ (∀ i < m.length, seqInc m i i = true) ∧
    ((∃ π, (sequentialize m).1 = .ok π) ↔
      ∃ σ : List Nat, σ.Perm (List.range m.length) ∧ SeqValid (σ.filterMap fun i => m[i]?)) ∧
    (∀ π, (sequentialize m).1 = .ok π → SeqValid (sequentialize m).2) ∧
    (∀ e, (sequentialize m).1 = .error e → (sequentialize m).2 = m) := by
  refine ⟨lhsNames_length hu, seqInc_self hu, ⟨?_, sequentialize_complete m hu⟩, ?_, ?_⟩
  · rintro ⟨π, h⟩
    obtain ⟨h1, h2, h3⟩ := sequentialize_sound m hu π (sequentialize m).2 (by rw [← h])
    exact ⟨π, h1, h2 ▸ h3⟩
  · intro π h
    exact (sequentialize_sound m hu π (sequentialize m).2 (by rw [← h])).2.2
  · intro e h
    exact (sequentialize_error_state_unchanged m e h).1

/-- Lags **and leads** are not within-period dependencies: tokens with a non-zero shift never enter the
model of an equation (`Sequential.incidence_matrix` keeps `tok.shift == 0` only), so they change neither
the incidence matrix nor `is_sequential` nor the outcome of `sequentialize`. -/
theorem shifted_tokens_do_not_count (lhs : Nat) (toks extra : List STok) (h : ∀ t ∈ extra, t.2 ≠ 0) :
    SEq.ofTokens lhs (toks ++ extra) = SEq.ofTokens lhs toks := by
  have : (extra.filter fun t => t.2 == 0) = [] := by
    rw [List.filter_eq_nil_iff]
    intro t ht
    simpa using h t ht
  simp [SEq.ofTokens, List.filter_append, this]

/-- `x0 = 0.5*x1[+1]; x1 = x0` is in sequential order as written (the lead of `x1` does not count) -/
example : isSequential [SEq.ofTokens 0 [(1, 1)], SEq.ofTokens 1 [(0, 0)]] = true ∧
    (sequentialize [SEq.ofTokens 0 [(1, 1)], SEq.ofTokens 1 [(0, 0)]]).1 = .ok [0, 1] := by
  decide +kernel

/-- a Sequential model with unique LHS names that is not in sequential order and has a valid order:
`v0 = v1 + ..; v1 = v2 + ..; v2 = ..` -/
example : (([⟨0, [1]⟩, ⟨1, [2]⟩, ⟨2, []⟩] : SModel).map (·.lhs)).Nodup := by decide

/-- ... and a cyclic one, for which no valid order exists (`sequentialize` raises on it, and it is complete) -/
example : ¬ ∃ π : List Nat, π.Perm (List.range 2) ∧
    SeqValid (π.filterMap fun i => ([⟨0, [1]⟩, ⟨1, [0]⟩] : SModel)[i]?) := by
  intro h
  obtain ⟨π, hπ⟩ := sequentialize_complete [⟨0, [1]⟩, ⟨1, [0]⟩] (by decide) h
  have : (sequentialize [⟨0, [1]⟩, ⟨1, [0]⟩]).1 = .error .notPermutation := by decide +kernel
  rw [this] at hπ
  cases hπ

/-- hypothesis of `sequentialize_complete` met: `v0 = v1; v1 = v2; v2 = 1` has the valid order (2, 1, 0),
and `sequentialize` finds it -/
example : (∃ σ : List Nat, σ.Perm (List.range 3) ∧
      SeqValid (σ.filterMap fun i => ([⟨0, [1]⟩, ⟨1, [2]⟩, ⟨2, []⟩] : SModel)[i]?)) ∧
    (sequentialize [⟨0, [1]⟩, ⟨1, [2]⟩, ⟨2, []⟩]).1 = .ok [2, 1, 0] :=
  ⟨⟨[2, 1, 0], by decide, by decide +kernel⟩, by decide +kernel⟩

/-- a history (`reorder_equations([1, 0, 2])`, `sequentialize()`, `copy()`, a rejected
`reorder_equations([0, 0, 1])`) after which `sequentialize()` still returns, with the state in valid order -/
example :
    let m := runOps [⟨0, [1]⟩, ⟨1, [2]⟩, ⟨2, []⟩] [.reorder [1, 0, 2], .sequentialize, .copy, .reorder [0, 0, 1]]
    m = [⟨2, []⟩, ⟨1, [2]⟩, ⟨0, [1]⟩] ∧ (sequentialize m).1 = .ok [0, 1, 2] ∧ SeqValid (sequentialize m).2 := by
  decide +kernel

/-! ### the known finding `sequential-repeated-lhs`, machine-checked on the model

With repeated LHS names the incidence matrix is strictly rectangular and the code's square-matrix logic
goes wrong in all three ways recorded in known_findings.json. -/

/-- `v0 = 1; v0 = v1 + 2; v1 = 3` -/
def findingA : SModel := [⟨0, []⟩, ⟨0, [1]⟩, ⟨1, []⟩]
/-- `v0 = v1 + 1; v1 = v0 + 2; v0 = 3` -/
def findingB : SModel := [⟨0, [1]⟩, ⟨1, [0]⟩, ⟨0, []⟩]
/-- `v0 = v1 + 1; v0 = 2; v1 = 3` -/
def findingC : SModel := [⟨0, [1]⟩, ⟨0, []⟩, ⟨1, []⟩]

/-- reported sequential and returned as is, although the second equation reads `v1` too early -/
example : (lhsNames findingA).length < findingA.length ∧ isSequential findingA = true ∧
    (sequentialize findingA).1 = .ok [0, 1, 2] ∧ ¬ SeqValid (sequentialize findingA).2 := by
  decide +kernel

/-- re-ordered to `(2, 0, 1)`, which is still not a valid order, although `(2, 1, 0)` is one -/
example : (sequentialize findingB).1 = .ok [2, 0, 1] ∧ ¬ SeqValid (sequentialize findingB).2 ∧
    SeqValid ([2, 1, 0].filterMap fun i => findingB[i]?) := by
  decide +kernel

/-- raises although `(2, 0, 1)` is a valid order -/
example : (sequentialize findingC).1 = .error .notPermutation ∧
    SeqValid ([2, 0, 1].filterMap fun i => findingC[i]?) := by
  decide +kernel

end IrisVerif.C16
