/-
Client of the `QMat → Matrix` bridge (`Lemmas/QMatRefines.lean`) for the first-order solution (the reduced-form VAR is
`Props/QMatBridge.lean`, whose namespace this file shares): the blocks `E1 E2 E3 E4_a W` that `FirstOrder.certificate` (run by
the C01 driver on the rational images of irispie's system and solution matrices) computes are,
seen through `QMat.toMat`, the certificate matrices of `Props/C01.lean`; an exactly-zero certificate gives `C01.Certified`, an inexact
one the exact residual expansion.  A few facts about lists and arrays that the views need come first.

`Examples` at the end: the hypotheses are met by a concrete run.  What stays unbridged is said at the end and in
`notes/QMatRefines.md`.
-/
import IrisVerif.Lemmas.QMatViews
import IrisVerif.Lemmas.Monads
import IrisVerif.Lemmas.Lists
import IrisVerif.Lemmas.Iterates
import IrisVerif.Props.C01
import IrisVerif.Model.FirstOrder

open Matrix

namespace IrisVerif.QMatBridge

open IrisVerif IrisVerif.QMat

section C01
open IrisVerif.FirstOrder

theorem indexOf?_lt (l : List Token) (t : Token) (i : Nat) (h : indexOf? l t = some i) : i < l.length := by
  obtain ⟨hlt, hi⟩ := Option.ite_none_right_eq_some.mp h
  exact Option.some.inj hi ▸ hlt

theorem toArray_getD {α : Type} (l : List α) (i : Nat) (d : α) : l.toArray.getD i d = l.getD i d := by
  simp [Array.getD_eq_getD_getElem?, List.getD_eq_getElem?_getD]

theorem leadStruct_ok (sysvec : List Token) (ls : LeadStruct) (h : leadStruct sysvec = some ls) :
    (∀ i, i < ls.nf → ls.sh.getD i 0 ≤ ls.smax) ∧ (∀ i, i < ls.nf → ls.src.getD i 0 < ls.nb) := by
  obtain ⟨src, hsrc, h⟩ := Option.bind_eq_some_iff.mp h
  obtain rfl := Option.some.inj h
  refine ⟨fun i _ => ?_, fun i hi => ?_⟩
  · rw [toArray_getD, List.getD_eq_getElem?_getD]
    cases hx : (List.map (fun t => t.shift.toNat) (List.take (numForwards sysvec) sysvec))[i]? with
    | none => exact Nat.zero_le _
    | some x => exact IrisVerif.le_foldl_max _ _ x (List.mem_cons_of_mem _ (List.mem_of_getElem? hx))
  · have hi' : i < src.length := by
      rw [mapM_some_length hsrc, List.length_take]
      exact Nat.lt_min.mpr ⟨hi, Nat.lt_of_lt_of_le hi (List.length_filter_le _ _)⟩
    rw [toArray_getD, List.getD_eq_getElem?_getD, List.getElem?_eq_getElem hi', Option.getD_some]
    obtain ⟨x, _, hx⟩ := mapM_some_mem hsrc (List.getElem_mem hi')
    exact indexOf?_lt _ _ _ hx

section
variable {nb : Type} [Fintype nb] [DecidableEq nb] {K : Type} [CommRing K]
theorem geom_succ (T : Matrix nb nb K) (j : Nat) : C01.geom T (j + 1) = C01.geom T j + T ^ j := by
  induction j with
  | zero => simp [C01.geom]
  | succ j ih =>
    show T * C01.geom T (j + 1) + 1 = (T * C01.geom T j + 1) + T ^ (j + 1)
    rw [ih, Matrix.mul_add, ← pow_succ']
    abel
end

/-- the pieces of the `do`-block of `FirstOrder.certificate`, named (`certificate_eq` holds by `rfl`, so the bodies
repeat the model's text): `Lq` stacks row `src i` of `T ^ sh i`, `geomArr` holds the partial sums `Σ_{k<j} T^k K`,
`lKq` reads them at `(sh i, src i)`, `Mq = Af Lq + Ab`, and `foldVE` carries `(V_a, [E4_1 … E4_a])` through `stepVE` -/
def Lq (ls : LeadStruct) (T : QMat) : QMat :=
  QMat.ofFn ls.nf ls.nb fun i j => ((powers T ls.smax).getD (ls.sh.getD i 0) (QMat.zero 0 0)).get (ls.src.getD i 0) j

def geomArr (ls : LeadStruct) (T K : QMat) : Array QMat :=
  (List.range ls.smax).foldl (fun acc k => acc.push (acc.back! + ((powers T ls.smax).getD k (QMat.zero 0 0)) * K))
    #[QMat.zero ls.nb 1]

def lKq (ls : LeadStruct) (T K : QMat) : QMat :=
  QMat.ofFn ls.nf 1 fun i _ => ((geomArr ls T K).getD (ls.sh.getD i 0) (QMat.zero 0 0)).get (ls.src.getD i 0) 0

def Mq (ls : LeadStruct) (Af Ab T : QMat) : QMat := Af * Lq ls T + Ab

def stepVE (ls : LeadStruct) (Af : QMat) (sol : Solution) (VE : QMat × List QMat) (k : Nat) : QMat × List QMat :=
  (VE.1 * sol.J - Af * leadRows ls (powers sol.T ls.smax) (k + 1) sol.X,
   VE.2 ++ [Af * leadRows ls (powers sol.T ls.smax) (k + 1) sol.P + VE.1 * sol.Ru])

def foldVE (ls : LeadStruct) (Af Ab : QMat) (sol : Solution) (n : Nat) : QMat × List QMat :=
  (List.range n).foldl (stepVE ls Af sol) (-(Mq ls Af Ab sol.T * sol.X), [])

section
variable (sysvec : List Token) (ne : Nat) (sys : System) (sol : Solution) (ls : LeadStruct)

/-- the blocks of the unsolved system on the claimed rows, as `certificate` cuts them -/
def selAf : QMat := colsTo (sys.A.selectRows (claimRows sysvec ne)) ls.nf
def selAb : QMat := colsFrom (sys.A.selectRows (claimRows sysvec ne)) ls.nf
def selBb : QMat := colsFrom (sys.B.selectRows (claimRows sysvec ne)) ls.nf
def selC : QMat := sys.C.selectRows (claimRows sysvec ne)
def selD : QMat := sys.D.selectRows (claimRows sysvec ne)

theorem certificate_eq (hls : leadStruct sysvec = some ls) (c : Certificate) (h : certificate sysvec ne sys sol = some c) :
    c.E1 = Mq ls (selAf sysvec ne sys ls) (selAb sysvec ne sys ls) sol.T * sol.T + selBb sysvec ne sys ls ∧
    c.E2 = Mq ls (selAf sysvec ne sys ls) (selAb sysvec ne sys ls) sol.T * sol.K
      + selAf sysvec ne sys ls * lKq ls sol.T sol.K + selC sysvec ne sys ∧
    c.E3 = Mq ls (selAf sysvec ne sys ls) (selAb sysvec ne sys ls) sol.T * sol.P + selD sysvec ne sys ∧
    c.E4 = (foldVE ls (selAf sysvec ne sys ls) (selAb sysvec ne sys ls) sol ls.smax).2 ∧
    c.W = (foldVE ls (selAf sysvec ne sys ls) (selAb sysvec ne sys ls) sol ls.smax).1 := by
  unfold certificate at h
  rw [hls] at h
  obtain rfl := Option.some.inj h
  exact ⟨rfl, rfl, rfl, rfl, rfl⟩

end

section views
variable (ls : LeadStruct)
variable (hsh : ∀ i, i < ls.nf → ls.sh.getD i 0 ≤ ls.smax) (hsrc : ∀ i, i < ls.nf → ls.src.getD i 0 < ls.nb)

/-- lead depths and sources as functions on `Fin` -/
def shF : Fin ls.nf → ℕ := fun i => ls.sh.getD i 0
def srcF (hsrc : ∀ i, i < ls.nf → ls.src.getD i 0 < ls.nb) : Fin ls.nf → Fin ls.nb :=
  fun i => ⟨ls.src.getD i 0, hsrc i i.isLt⟩

variable {T : QMat} {Tm : Matrix (Fin ls.nb) (Fin ls.nb) ℚ} (hT : T.Views Tm)
variable {Af Ab : QMat} {m : Nat} {Afm : Matrix (Fin m) (Fin ls.nf) ℚ} (hAf : Af.Views Afm)

include hsh hT in
theorem Lq_view : (Lq ls T).Views (C01.Lmat Tm (shF ls) (srcF ls hsrc)) :=
  (Views.ofFn _ _ _).congr <| Matrix.ext fun i j => by
    rw [Matrix.of_apply, powers_getD _ _ _ (hsh i i.isLt)]
    exact congrFun (congrFun (hT.pow _).toMat (srcF ls hsrc i)) j

theorem Lq_rows (T : QMat) : (Lq ls T).rows = ls.nf := rfl

include hsh hT hAf in
theorem Mq_view : (Mq ls Af Ab T).Views (C01.Mmat Tm (shF ls) (srcF ls hsrc) Afm (Ab.toMat m ls.nb)) :=
  (hAf.mul (Lq_view ls hsh hsrc hT)).add_of Ab

/-- the iteration behind `geomArr` -/
def geomQ (ls : LeadStruct) (T K : QMat) : Nat → QMat :=
  iter (fun x k => x + ((powers T ls.smax).getD k (QMat.zero 0 0)) * K) (QMat.zero ls.nb 1)

theorem geomArr_getD (T K : QMat) (j : Nat) (hj : j ≤ ls.smax) :
    (geomArr ls T K).getD j (QMat.zero 0 0) = geomQ ls T K j := by
  unfold geomArr geomQ
  rw [Array.getD_eq_getD_getElem?,
    foldl_push_back (fun x k => x + ((powers T ls.smax).getD k (QMat.zero 0 0)) * K) (QMat.zero ls.nb 1) ls.smax j hj,
    Option.getD_some]

include hT in
theorem geomQ_view {K : QMat} (hK : 0 < K.cols) (j : Nat) (hj : j ≤ ls.smax) :
    (geomQ ls T K j).ViewsVec (C01.geom Tm j *ᵥ fun k : Fin ls.nb => K.get k 0) := by
  induction j with
  | zero =>
    rw [C01.geom, Matrix.zero_mulVec]
    exact ViewsVec.zero ls.nb 1 Nat.one_pos
  | succ j ih =>
    have hstep : geomQ ls T K (j + 1) = geomQ ls T K j + ((powers T ls.smax).getD j (QMat.zero 0 0)) * K := rfl
    rw [hstep, powers_getD _ _ _ (Nat.le_of_succ_le hj), geom_succ, Matrix.add_mulVec]
    exact (ih (Nat.le_of_succ_le hj)).add ((hT.pow j).mulVec_of hK)

include hsh hT in
theorem lKq_view {K : QMat} (hK : 0 < K.cols) :
    (lKq ls T K).ViewsVec (C01.lK Tm (fun k : Fin ls.nb => K.get k 0) (shF ls) (srcF ls hsrc)) :=
  ⟨rfl, Nat.one_pos, funext fun i => by
    unfold lKq C01.lK
    rw [get_ofFn_of_lt _ _ _ _ _ i.isLt Nat.one_pos, geomArr_getD ls T K _ (hsh i i.isLt)]
    exact congrFun (geomQ_view ls hT hK _ (hsh i i.isLt)).get (srcF ls hsrc i)⟩

include hsh hT in
theorem leadRows_view {Y : QMat} {c : Nat} (hY : Y.cols = c) (a : Nat) (ha : 1 ≤ a) :
    (leadRows ls (powers T ls.smax) a Y).Views (C01.leadMat Tm (shF ls) (srcF ls hsrc) a (Y.toMat ls.nb c)) := by
  subst hY
  refine (Views.ofFn _ _ _).congr (Matrix.ext fun i j => ?_)
  unfold C01.leadMat
  rw [Matrix.of_apply, Matrix.of_apply]
  by_cases h : a ≤ ls.sh.getD i 0
  · rw [if_pos ⟨ha, h⟩, if_pos (show a ≤ shF ls i from h), Array.getD_eq_getD_getElem?, Array.getElem?_map,
      powers_getElem? _ _ _ (le_trans (Nat.sub_le _ _) (hsh i i.isLt)), Option.map_some, Option.getD_some]
    exact congrFun (congrFun ((hT.pow _).mul_of rfl).toMat (srcF ls hsrc i)) j
  · rw [if_neg (fun hh => h hh.2), if_neg (show ¬ a ≤ shF ls i from h)]
    rfl

theorem leadRows_rows (Tp : Array QMat) (a : Nat) (Y : QMat) : (leadRows ls Tp a Y).rows = ls.nf := rfl

end views

section fold
variable (ls : LeadStruct) (sol : Solution) (Af Ab : QMat)

/-- `V_n` of the model: the state of the `(V, E4)` fold after `n` steps -/
def Vq : Nat → QMat :=
  iter (fun V k => V * sol.J - Af * leadRows ls (powers sol.T ls.smax) (k + 1) sol.X) (-(Mq ls Af Ab sol.T * sol.X))

theorem foldVE_eq (n : Nat) :
    foldVE ls Af Ab sol n = (Vq ls sol Af Ab n, (List.range n).map fun k =>
      Af * leadRows ls (powers sol.T ls.smax) (k + 1) sol.P + Vq ls sol Af Ab k * sol.Ru) :=
  foldl_state_out (fun V k => V * sol.J - Af * leadRows ls (powers sol.T ls.smax) (k + 1) sol.X)
    (fun V k => Af * leadRows ls (powers sol.T ls.smax) (k + 1) sol.P + V * sol.Ru) _ n

variable (hsh : ∀ i, i < ls.nf → ls.sh.getD i 0 ≤ ls.smax) (hsrc : ∀ i, i < ls.nf → ls.src.getD i 0 < ls.nb)
variable {Tm : Matrix (Fin ls.nb) (Fin ls.nb) ℚ} (hT : sol.T.Views Tm)
variable {m nj : Nat} {Afm : Matrix (Fin m) (Fin ls.nf) ℚ} (hAf : Af.Views Afm)
variable (hX : sol.X.cols = nj) (hJ : sol.J.cols = nj)

include hsh hT hAf hX hJ in
theorem Vq_view (n : Nat) :
    (Vq ls sol Af Ab n).Views (C01.Vmat Tm (shF ls) (srcF ls hsrc) Afm (Ab.toMat m ls.nb) (sol.X.toMat ls.nb nj)
      (sol.J.toMat nj nj) n) := by
  induction n with
  | zero => exact ((Mq_view ls hsh hsrc hT hAf).mul_of hX).neg
  | succ n ih => exact (ih.mul_of hJ).sub (hAf.mul (leadRows_view ls hsh hsrc hT hX (n + 1) (Nat.le_add_left 1 n)))

end fold

section final
variable (sysvec : List Token) (ne : Nat) (sys : System) (sol : Solution) (ls : LeadStruct)

/-- dimension side conditions on the solution matrices (`nu` shocks, `nj` unstable roots) -/
structure SolDims (nu nj : Nat) : Prop where
  T_rows : sol.T.rows = ls.nb
  T_cols : sol.T.cols = ls.nb
  K_cols : sol.K.cols = 1
  P_cols : sol.P.cols = nu
  X_cols : sol.X.cols = nj
  J_cols : sol.J.cols = nj
  Ru_cols : sol.Ru.cols = nu

variable (hls : leadStruct sysvec = some ls) (nu nj : Nat)

-- the notations mention the section variables, hence no precheck; from here on `Tm` and `Afm` are these views of
-- `sol.T` and `selAf`, not the variables of the two sections above
set_option quotPrecheck false
local notation "mm" => (claimRows sysvec ne).length
local notation "srcm" => srcF ls (leadStruct_ok sysvec ls hls).2
local notation "Tm" => sol.T.toMat ls.nb ls.nb
local notation "Kc" => (fun k : Fin ls.nb => sol.K.get k 0)
local notation "Pm" => sol.P.toMat ls.nb nu
local notation "Xm" => sol.X.toMat ls.nb nj
local notation "Jm" => sol.J.toMat nj nj
local notation "Rum" => sol.Ru.toMat nj nu
local notation "Afm" => (selAf sysvec ne sys ls).toMat mm ls.nf
local notation "Abm" => (selAb sysvec ne sys ls).toMat mm ls.nb
local notation "Bbm" => (selBb sysvec ne sys ls).toMat mm ls.nb
local notation "Cv" => (fun i : Fin mm => (selC sysvec ne sys).get i 0)
local notation "Dm" => (selD sysvec ne sys).toMat mm nu

/-- Bridge (C01), refinement form.  The matrices computed by the executable `FirstOrder.certificate` are, seen as
Mathlib matrices, exactly the certificate matrices `E1 E2 E3 E4_a V_smax` of `Props/C01.lean` built from the views
of the model's inputs -- for every lead structure, every size, every (rational) system and solution. -/
theorem certificate_refines (c : Certificate) (h : certificate sysvec ne sys sol = some c)
    (hd : SolDims sol ls nu nj) :
    c.E1.toMat mm ls.nb = C01.E1 Tm (shF ls) srcm Afm Abm Bbm ∧
    (fun i : Fin mm => c.E2.get i 0) = C01.E2 Tm Kc (shF ls) srcm Afm Abm Cv ∧
    c.E3.toMat mm nu = C01.E3 Tm Pm (shF ls) srcm Afm Abm Dm ∧
    c.E4.length = ls.smax ∧
    (∀ a, a < ls.smax → (c.E4.getD a (QMat.zero 0 0)).toMat mm nu =
      C01.E4 Tm Pm (shF ls) srcm Afm Abm Xm Jm Rum (a + 1)) ∧
    c.W.toMat mm nj = C01.Vmat Tm (shF ls) srcm Afm Abm Xm Jm ls.smax := by
  obtain ⟨h1, h2, h3, h4, h5⟩ := certificate_eq sysvec ne sys sol ls hls c h
  obtain ⟨hsh, hsrc⟩ := leadStruct_ok sysvec ls hls
  have hT : sol.T.Views Tm := .of hd.T_rows hd.T_cols
  have hAf : (selAf sysvec ne sys ls).Views Afm := .of rfl rfl
  have hM := Mq_view ls hsh hsrc hT hAf (Ab := selAb sysvec ne sys ls)
  have hV := Vq_view ls sol _ (selAb sysvec ne sys ls) hsh hsrc hT hAf hd.X_cols hd.J_cols
  have hK : 0 < sol.K.cols := by rw [hd.K_cols]; exact Nat.one_pos
  rw [foldVE_eq] at h4 h5
  -- each `Views` term follows the shape of the model text of its block (`certificate_eq`); what it views is the matching
  -- definition of `Props/C01.lean`
  refine ⟨h1 ▸ ((hM.mul hT).add_of _).toMat,
    h2 ▸ (((hM.mulVec_of hK).add (hAf.mulVec (lKq_view ls hsh hsrc hT hK))).add_of _).get,
    h3 ▸ ((hM.mul_of hd.P_cols).add_of _).toMat,
    by rw [h4, List.length_map, List.length_range],
    fun a ha => ?_,
    h5 ▸ (hV _).toMat⟩
  rw [h4, List.getD_eq_getElem?_getD, List.getElem?_map, List.getElem?_range ha]
  exact ((hAf.mul (leadRows_view ls hsh hsrc hT hd.P_cols (a + 1) (Nat.le_add_left 1 a))).add
    ((hV a).mul_of hd.Ru_cols)).toMat

/-- Bridge (C01), exact form.  If every block of the executable certificate is exactly zero (`QMat.isZero`), the
hypothesis `Certified` of `C01.equations_hold` holds for the views of the model's inputs. -/
theorem certified_of_isZero (c : Certificate) (h : certificate sysvec ne sys sol = some c)
    (hd : SolDims sol ls nu nj)
    (z1 : c.E1.isZero = true) (z2 : c.E2.isZero = true) (z3 : c.E3.isZero = true)
    (z4 : ∀ e ∈ c.E4, e.isZero = true) (zW : c.W.isZero = true) :
    C01.Certified Tm Kc Pm (shF ls) srcm Afm Abm Bbm Cv Dm Xm Jm Rum ls.smax := by
  obtain ⟨r1, r2, r3, r4, r5, r6⟩ := certificate_refines sysvec ne sys sol ls hls nu nj c h hd
  refine ⟨fun i => (leadStruct_ok sysvec ls hls).1 i i.isLt,
    r1.symm.trans (toMat_of_isZero _ z1 _ _),
    r2.symm.trans (funext fun i => get_of_isZero _ z2 _ _),
    r3.symm.trans (toMat_of_isZero _ z3 _ _),
    fun a ha1 ha2 => ?_,
    r6.symm.trans (toMat_of_isZero _ zW _ _)⟩
  obtain ⟨a', rfl⟩ := Nat.exists_eq_succ_of_ne_zero (Nat.ne_of_gt ha1)
  rw [← r5 a' ha2, List.getD_eq_getElem?_getD, List.getElem?_eq_getElem (r4.symm ▸ ha2), Option.getD_some]
  exact toMat_of_isZero _ (z4 _ (List.getElem_mem _)) _ _

/-- C01 carried down to the executable model: an exactly-zero executable certificate makes every claimed equation
hold in every period, for every initial condition, every path of unanticipated shocks and every finite-horizon path
of anticipated shocks. -/
theorem equations_hold_of_certificate (c : Certificate) (h : certificate sysvec ne sys sol = some c)
    (hd : SolDims sol ls nu nj)
    (z1 : c.E1.isZero = true) (z2 : c.E2.isZero = true) (z3 : c.E3.isZero = true)
    (z4 : ∀ e ∈ c.E4, e.isZero = true) (zW : c.W.isZero = true)
    (H : ℕ) (x0 : Fin ls.nb → ℚ) (u v : ℕ → Fin nu → ℚ) (hv : ∀ s, H < s → v s = 0) (t : ℕ) :
    C01.residAt Tm Kc Pm (shF ls) srcm Afm Abm Bbm Cv Dm x0 u v (C01.impact Pm Xm Jm Rum H v) t = 0 :=
  C01.equations_hold _ _ _ _ _ _ _ _ _ _ _ _ _ ls.smax
    (certified_of_isZero sysvec ne sys sol ls hls nu nj c h hd z1 z2 z3 z4 zW) H x0 u v hv t

/-- … and for the inexact certificates the driver actually sees (solution matrices converted from floats): the
residual of the claimed rows along any simulated path is *exactly* the combination of the executable certificate's
blocks given by `C01.residAt_expansion` -- so bounds on the printed `maxAbs` of the blocks bound the residual. -/
theorem residAt_of_certificate (c : Certificate) (h : certificate sysvec ne sys sol = some c)
    (hd : SolDims sol ls nu nj)
    (H : ℕ) (x0 : Fin ls.nb → ℚ) (u v : ℕ → Fin nu → ℚ) (hv : ∀ s, H < s → v s = 0) (t : ℕ) :
    C01.residAt Tm Kc Pm (shF ls) srcm Afm Abm Bbm Cv Dm x0 u v (C01.impact Pm Xm Jm Rum H v) t
      = c.E1.toMat mm ls.nb *ᵥ C01.path Tm Kc Pm x0 u (C01.impact Pm Xm Jm Rum H v) t
        + (fun i : Fin mm => c.E2.get i 0)
        + c.E3.toMat mm nu *ᵥ (u (t + 1) + v (t + 1))
        + (∑ a ∈ Finset.range ls.smax, (c.E4.getD a (QMat.zero 0 0)).toMat mm nu *ᵥ v (t + 1 + (a + 1)))
        + c.W.toMat mm nj *ᵥ C01.phi Jm Rum H v (t + 1 + ls.smax) := by
  obtain ⟨r1, r2, r3, _, r5, r6⟩ := certificate_refines sysvec ne sys sol ls hls nu nj c h hd
  rw [r1, r2, r3, r6,
    Finset.sum_congr rfl fun a ha => congrArg (· *ᵥ v (t + 1 + (a + 1))) (r5 a (Finset.mem_range.1 ha))]
  exact C01.residAt_expansion Tm Kc Pm (shF ls) srcm Afm Abm Bbm Cv Dm Xm Jm Rum ls.smax
    (fun i => (leadStruct_ok sysvec ls hls).1 i i.isLt) H x0 u v hv t

end final

/-
What is NOT bridged for C01:
* `bLead = 0` (the stacked `B` reads no lead column on the claimed rows) is an assumption built into `C01.resid`; the
  executable certificate reports it, the bridge does not use it;
* the views `Afm Abm Bbm Cv Dm` are views of the *selected and cut* blocks (`selectRows` + `block`); unfolding them to
  submatrices of the views of `sys.A … sys.D` is `toMat_selectRows` + `toMat_block` (not done here, not needed);
* `SolDims` (dimension side conditions on `T K P X J Ru`) is a hypothesis: the driver parses these matrices from text,
  nothing in the model enforces their dimensions;
* the simulation part of the model is not connected here: `Props/BridgeC01Sim.lean` ties the state recursion of
  `simulateFrame` to `C01.path` and `expansion` to `C01.Rexp`; `antImpact` = `C01.impact` is proved nowhere;
* the stability certificate (`infNorm`, `powTwo`, `stableCert`) is not connected to `C01.RowSumLe`/`nonexplosive`.
-/

end C01

/-! ## Non-vacuity: the hypotheses of the bridge theorems are met by a concrete run of the executable model
(evaluated by the kernel with `decide +kernel`; nothing beyond the standard kernel trust base) -/

namespace Examples
open IrisVerif.FirstOrder

/-- the forward-looking model of `Props/C01.lean` (non-vacuity section):
`x[t] = 3/8 x[t-1] + 1/2 E x[t+1] + 1 + e[t]`, stacked vector `(x[t+1], x[t])`, one claimed row -/
def exVec : List Token := [⟨0, 1⟩, ⟨0, 0⟩]
def exSys : System :=
  ⟨QMat.ofRows [[1/2, -1], [0, 1]], QMat.ofRows [[0, 3/8], [-1, 0]], QMat.ofRows [[1], [0]], QMat.ofRows [[1], [0]]⟩
def exSol : Solution :=
  ⟨QMat.ofRows [[1/2]], QMat.ofRows [[4]], QMat.ofRows [[4/3]], QMat.ofRows [[1]], QMat.ofRows [[2/3]], QMat.ofRows [[-8/9]]⟩

def certExact (c : Certificate) : Bool :=
  c.E1.isZero && c.E2.isZero && c.E3.isZero && c.E4.all QMat.isZero && c.W.isZero

theorem ex_certificate : (certificate exVec 1 exSys exSol).map certExact = some true := by decide +kernel
theorem ex_leadStruct : (leadStruct exVec).map (fun ls => (ls.nf, ls.nb, ls.smax)) = some (1, 1, 1) := by
  decide +kernel

/-- all hypotheses of `equations_hold_of_certificate` at once -/
example : ∃ c ls, certificate exVec 1 exSys exSol = some c ∧ leadStruct exVec = some ls ∧ SolDims exSol ls 1 1 ∧
    c.E1.isZero = true ∧ c.E2.isZero = true ∧ c.E3.isZero = true ∧ (∀ e ∈ c.E4, e.isZero = true) ∧
    c.W.isZero = true := by
  obtain ⟨c, hc, h1⟩ := Option.map_eq_some_iff.mp ex_certificate
  obtain ⟨ls, hl, h2⟩ := Option.map_eq_some_iff.mp ex_leadStruct
  simp only [certExact, Bool.and_eq_true, List.all_eq_true] at h1
  obtain ⟨⟨⟨⟨z1, z2⟩, z3⟩, z4⟩, zW⟩ := h1
  have hnb : ls.nb = 1 := (Prod.mk.inj (Prod.mk.inj h2).2).1
  exact ⟨c, ls, hc, hl, ⟨hnb ▸ rfl, hnb ▸ rfl, rfl, rfl, rfl, rfl, rfl⟩, z1, z2, z3, z4, zW⟩

end Examples

end IrisVerif.QMatBridge
