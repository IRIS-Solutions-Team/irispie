/-
Bridge for property C05 (linear steady state): the hypotheses of `linear_flat`, `stacked_solution_all_dates` and
`measurement_all_dates` of `Props/C05.lean` are derived from the executable `Linear.solveFlat`, `Linear.solveNonflat`,
`Linear.solveMeasurement` of `Model/Steady.lean` returning a result, so that the model's own residual
`Linear.residAt` / `Linear.measResidAt` is the zero matrix at every rational date. The executable matrices are read through
`QMat.Views`, one-column ones through their first column (`QMat.ViewsVec`, `colVec`).
-/
import IrisVerif.Lemmas.QMatSystem
import IrisVerif.Props.C05

open Matrix

namespace IrisVerif.BridgeC05

open IrisVerif IrisVerif.QMat IrisVerif.Steady IrisVerif.Steady.Linear

/-- read through `get`, so that no shape is asked of `x` -/
def colVec (x : QMat) (n : Nat) : Fin n → ℚ := fun i => x.get i 0

theorem residAt_view {A B xi dxi : QMat} {n : Nat} {Am Bm : Matrix (Fin n) (Fin n) ℚ} {x d : Fin n → ℚ}
    (hA : A.Views Am) (hB : B.Views Bm) (hx : xi.ViewsVec x) (hd : dxi.ViewsVec d) (C : QMat) (t : ℚ) :
    (residAt A B C xi dxi t).ViewsVec (Am *ᵥ (x + t • d) + Bm *ᵥ (x + (t - 1) • d) + colVec C n) :=
  ((hA.mulVec (hx.add (hd.smul t))).add (hB.mulVec (hx.add (hd.smul (t - 1))))).add_of C

/-! ## the non-flat algorithm: from the checked stacked solve to the two block rows -/

/-- the view of the stacked two-date matrix is `fromBlocks (A+B) (-B) (A+B) A` (k = 1), up to `Fin n ⊕ Fin n ≃ Fin (n+n)` -/
theorem stackedAB_view {A B : QMat} {n : Nat} {Am Bm : Matrix (Fin n) (Fin n) ℚ} (hA : A.Views Am) (hB : B.Views Bm) :
    (stackedAB A B 1).Views
      ((Matrix.fromBlocks (Am + Bm) (-Bm) (Am + Bm) Am).submatrix finSumFinEquiv.symm finSumFinEquiv.symm) :=
  (Views.fromBlocks (hA.add hB) (hB.smul (-1)) (hA.add hB) ((hA.smul 1).add (hB.smul (1 - 1)))).congr
    (by rw [sub_self, zero_smul, add_zero, one_smul, neg_one_smul])

theorem colVec_halves (x : QMat) (n : Nat) :
    colVec x (n + n) ∘ finSumFinEquiv = Sum.elim (colVec (QMat.block x 0 n 0 1) n) (colVec (QMat.block x n (2 * n) 0 1) n) := by
  funext s
  have hi : ∀ i : Fin n, (i : Nat) < n - 0 ∧ (i : Nat) < 2 * n - n := fun i => by have := i.isLt; omega
  cases s with
  | inl i =>
    simp only [Function.comp_apply, finSumFinEquiv_apply_left, Sum.elim_inl, colVec, Fin.val_castAdd]
    rw [get_block, if_pos ⟨(hi i).1, Nat.one_pos⟩, Nat.zero_add]
  | inr i =>
    simp only [Function.comp_apply, finSumFinEquiv_apply_right, Sum.elim_inr, colVec, Fin.val_natAdd]
    rw [get_block, if_pos ⟨(hi i).2, Nat.one_pos⟩]

/-- **what `solveNonflat` returning a result means**: the two returned columns have length `n` and solve the stacked
two-date system of `Props/C05.lean` -- the hypothesis of `C05.stacked_solution_all_dates`, derived, not assumed -/
theorem solveNonflat_sound {A B C xi dxi : QMat} {n : Nat} {Am Bm : Matrix (Fin n) (Fin n) ℚ} {c : Fin n → ℚ}
    (hA : A.Views Am) (hB : B.Views Bm) (hC : C.ViewsVec c) (hCc : C.cols = 1) (h : solveNonflat A B C = some (xi, dxi)) :
    xi.ViewsVec (colVec xi n) ∧ dxi.ViewsVec (colVec dxi n) ∧
      Matrix.fromBlocks (Am + Bm) (-Bm) (Am + Bm) Am *ᵥ Sum.elim (colVec xi n) (colVec dxi n) + Sum.elim c c = 0 := by
  unfold solveNonflat at h
  split at h
  · rename_i x hx
    simp only [Option.some.injEq, Prod.mk.injEq] at h
    obtain ⟨rfl, rfl⟩ := h
    obtain rfl := hA.cols
    have hS := (stackedAB_view hA hB).neg
    have hCC := hC.vstack hCc hC
    -- the checked solve, read along `Fin n ⊕ Fin n`: unknown and right-hand side split into their halves
    have hx2 : (fun i => x.get (finSumFinEquiv (m := A.cols) (n := A.cols) i) 0) = _ := colVec_halves x A.cols
    have hc2 : (fun i => (QMat.vstack C C).get (finSumFinEquiv (m := A.cols) (n := A.cols) i) 0) = Sum.elim c c :=
      funext fun i => (congrFun hCC.get _).trans (congrArg _ (Equiv.symm_apply_apply _ i))
    have hmv : -(Matrix.fromBlocks (Am + Bm) (-Bm) (Am + Bm) Am *ᵥ
          Sum.elim (colVec (QMat.block x 0 A.cols 0 1) A.cols) (colVec (QMat.block x A.cols (2 * A.cols) 0 1) A.cols))
        = Sum.elim c c := by
      simpa only [hS.toMat, Matrix.submatrix_neg, Pi.neg_apply, Matrix.submatrix_submatrix, Equiv.symm_comp_self,
        Matrix.submatrix_id_id, hx2, hc2, Matrix.neg_mulVec] using
        solveChecked_mulVec finSumFinEquiv _ _ x hS.rows hCC.cols hx
    exact ⟨.of rfl Nat.one_pos, .of (by rw [block_rows, Nat.two_mul, Nat.add_sub_cancel]) Nat.one_pos,
      by rw [← hmv, add_neg_cancel]⟩
  · cases h

/-- **every date, for the model's output (executable form)**: the model's own residual function evaluates to the zero
column at every rational date -/
theorem solveNonflat_residAt_zero (A B C xi dxi : QMat) (n : Nat)
    (hAr : A.rows = n) (hAc : A.cols = n) (hBr : B.rows = n) (hBc : B.cols = n) (hCr : C.rows = n) (hCc : C.cols = 1)
    (h : solveNonflat A B C = some (xi, dxi)) (t : ℚ) :
    (residAt A B C xi dxi t).toMat n 1 = 0 := by
  have hA := Views.of hAr hAc
  have hB := Views.of hBr hBc
  obtain ⟨hx, hd, hs⟩ := solveNonflat_sound hA hB (.of hCr (hCc ▸ Nat.one_pos)) hCc h
  exact (residAt_view hA hB hx hd C t).toMat_eq_zero (C05.stacked_solution_all_dates _ _ _ _ _ hs t)

/-- **flat steady state of the model's output at every date**: the constant path `ξ` (change 0) makes the executable
residual vanish at every rational date -/
theorem solveFlat_residAt_zero (A B C xi : QMat) (n : Nat)
    (hAr : A.rows = n) (hAc : A.cols = n) (hBr : B.rows = n) (hBc : B.cols = n) (hCc : C.cols = 1)
    (h : solveFlat A B C = some xi) (t : ℚ) :
    (residAt A B C xi (QMat.zero n 1) t).toMat n 1 = 0 := by
  have hA := Views.of hAr hAc
  have hB := Views.of hBr hBc
  -- `solveFlat` returning `ξ` means `(-(A+B)) ξ = C` for the views: the hypothesis of `C05.linear_flat`. `C` is only read
  -- entry by entry (`colVec`), so its number of rows is not asked for; `solveNonflat` stacks `C` on itself and needs it
  obtain ⟨_, hx, h3⟩ := Views.of_solveChecked_vec h (hA.add hB).neg.rows (hCc ▸ Nat.one_pos)
  rw [(hA.add hB).neg.toMat] at h3
  refine (residAt_view hA hB hx (.zero n 1 Nat.one_pos) C t).toMat_eq_zero ?_
  rw [smul_zero, smul_zero, add_zero]
  exact C05.linear_flat h3

theorem measResidAt_view {F G xi dxi y dy : QMat} {p n : Nat} {Fm : Matrix (Fin p) (Fin p) ℚ} {Gm : Matrix (Fin p) (Fin n) ℚ}
    {x d : Fin n → ℚ} {u du : Fin p → ℚ} (hF : F.Views Fm) (hG : G.Views Gm) (hx : xi.ViewsVec x) (hd : dxi.ViewsVec d)
    (hy : y.ViewsVec u) (hdy : dy.ViewsVec du) (H : QMat) (t : ℚ) :
    (measResidAt F G H xi dxi y dy t).ViewsVec (Fm *ᵥ (u + t • du) + Gm *ᵥ (x + t • d) + colVec H p) :=
  ((hF.mulVec (hy.add (hdy.smul t))).add (hG.mulVec (hx.add (hd.smul t)))).add_of H

theorem solveMeasurement_sound {F G H xi y : QMat} {p n : Nat} {Fm : Matrix (Fin p) (Fin p) ℚ} {Gm : Matrix (Fin p) (Fin n) ℚ}
    {x : Fin n → ℚ} (hF : F.Views Fm) (hG : G.Views Gm) (hx : xi.ViewsVec x) (h : solveMeasurement F G H xi = some y) :
    y.ViewsVec (colVec y p) ∧ Fm *ᵥ colVec y p + Gm *ᵥ x + colVec H p = 0 := by
  have hb := (hG.mulVec hx).add_of H
  obtain ⟨_, hy, hv⟩ := Views.of_solveChecked_vec h hF.neg.rows hb.cols
  rw [hF.neg.toMat, Matrix.neg_mulVec] at hv
  have e : -(Fm *ᵥ colVec y p) = Gm *ᵥ x + colVec H p := hv.trans hb.get
  exact ⟨hy, by rw [add_assoc, ← e, add_neg_cancel]⟩

/-- **measurement block, every date (executable form)**: for any columns `ξ`, `δ` of length `n`, the `(y, dy)` that
`solveMeasurementNonflat` returns makes the model's measurement residual `F (y + t dy) + G (ξ + t δ) + H` the zero
column at every rational date: the level solve is date 0, level plus change solve is date 1, and the residual is affine -/
theorem solveMeasurementNonflat_measResidAt_zero (F G H xi dxi y dy : QMat) (p n : Nat)
    (hFr : F.rows = p) (hFc : F.cols = p) (hGr : G.rows = p) (hGc : G.cols = n)
    (hxr : xi.rows = n) (hxc : xi.cols = 1) (hdr : dxi.rows = n) (hdc : dxi.cols = 1)
    (h : solveMeasurementNonflat F G H xi dxi = some (y, dy)) (t : ℚ) :
    (measResidAt F G H xi dxi y dy t).toMat p 1 = 0 := by
  unfold solveMeasurementNonflat at h
  split at h
  · rename_i y' dy' hy hdy
    simp only [Option.some.injEq, Prod.mk.injEq] at h
    obtain ⟨rfl, rfl⟩ := h
    have hF := Views.of hFr hFc
    have hG := Views.of hGr hGc
    have hx : xi.ViewsVec (colVec xi n) := .of hxr (hxc ▸ Nat.one_pos)
    have hd : dxi.ViewsVec (colVec dxi n) := .of hdr (hdc ▸ Nat.one_pos)
    obtain ⟨h1, h0⟩ := solveMeasurement_sound hF hG hx hy
    obtain ⟨h2, hd0⟩ := solveMeasurement_sound hF hG hd hdy
    rw [show colVec (QMat.zero H.rows 1) p = 0 from funext fun i => get_zero _ _ _ _, add_zero] at hd0
    -- the level solve plus the change solve is the system one date later
    refine (measResidAt_view hF hG hx hd h1 h2 H t).toMat_eq_zero
      (C05.measurement_all_dates h0 ?_ t)
    rw [Matrix.mulVec_add, Matrix.mulVec_add, add_add_add_comm, hd0, add_zero, h0]
  · cases h

/-! ## non-vacuity: the executable algorithms do return results -/

-- `x = 1/2 x[-1] + 1` (stationary: ξ = 2, δ = 0); a flat 2×2 system; the unit root with drift `x = x[-1] + 1`, whose
-- stacked matrix is singular (the level is indeterminate)
example : (solveNonflat (QMat.ofRows [[1]]) (QMat.ofRows [[-1/2]]) (QMat.ofRows [[-1]])).isSome = true := by decide +kernel
example : (solveFlat (QMat.ofRows [[1, 0], [-1/2, 1]]) (QMat.ofRows [[-1/2, 0], [0, -1/4]]) (QMat.ofRows [[-1], [-3]])).isSome = true := by
  decide +kernel
example : (solveNonflat (QMat.ofRows [[1]]) (QMat.ofRows [[-1]]) (QMat.ofRows [[-1]])).isSome = false := by decide +kernel

end IrisVerif.BridgeC05
