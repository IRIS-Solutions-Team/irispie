/-
C14 — Trend filters return the optimum of their problem; trend plus gap is the data.

In file order:
Part A (Mathlib matrices over any linearly ordered field `K`, every size `n`, every observation pattern, every
set of level/change constraint positions): the bordered system solved by
`series/_hp.py: _ConstrainedHodrickPrescottFilter` characterises the constrained minimiser of the
Hodrick-Prescott objective; uniqueness; straight lines; missing observations.
Part D (existence, same setting; it stands before Part B, whose `model_sysMatrix_nonsingular` rests on it): the bordered
matrix is non-singular exactly for independent constraints, so the unique minimiser exists.
Part B (the executable model `IrisVerif.HP` over `QMat`): the model's matrices are entrywise the matrices of
Part A; what `filterData` returns solves the bordered system exactly; trend + gap = data; zeros at missing
observations; `log=True` is `exp ∘ hpf ∘ log`; clipping is restriction.
Part C (l1 trend filter, `series/_ell_one.py`): the dual-form optimality conditions imply optimality, and any
dual-feasible `ν` bounds the sub-optimality of `y − Dᵀν` by its duality gap (the certificate the harness
evaluates in exact arithmetic on `lonf`'s output).
-/
import IrisVerif.Lemmas.HPModel
import IrisVerif.Lemmas.QuadExist
import IrisVerif.Lemmas.QMatSystem
import Mathlib.Algebra.Order.Field.Basic
import Mathlib.Tactic.Push

namespace IrisVerif.C14

open Matrix IrisVerif.QuadMin IrisVerif.HPMatrix

variable {K : Type} [Field K] [LinearOrder K] [IsStrictOrderedRing K]
variable {n kl kc : Nat}

/-! ## Part A — the Hodrick-Prescott problem -/

/-- observation weights: `1` where the observation exists, `0` where it is missing -/
def wt (obs : Fin n → Bool) : Fin n → K := fun t => if obs t then 1 else 0

/-- the objective of the property statement:
`Σ_{t observed} (y_t − τ_t)² + λ Σ_i (τ_i − 2 τ_{i+1} + τ_{i+2})²` -/
def hpObj (obs : Fin n → Bool) (y : Fin n → K) (lam : K) (τ : Fin n → K) : K :=
  (∑ t, if obs t then (y t - τ t) ^ 2 else 0)
    + lam * ∑ i : Fin (n - 2), (τ (p0 i) - 2 * τ (p1 i) + τ (p2 i)) ^ 2

/-- the matrix the code builds: `λ KᵀK + diag(obs)` -/
def hpA (obs : Fin n → Bool) (lam : K) : Matrix (Fin n) (Fin n) K :=
  lam • ((Kmat n)ᵀ * Kmat n) + Matrix.diagonal (wt obs)

/-- the right-hand side: the data, with zeros at the missing observations -/
def hpRhs (obs : Fin n → Bool) (y : Fin n → K) : Fin n → K := fun t => if obs t then y t else 0

/-- the full bordered matrix `F = [[λKᵀK + W, Cᵀ], [C, 0]]` -/
def hpF (obs : Fin n → Bool) (lam : K) (lw : Fin kl → Fin n) (cw : Fin kc → Fin n) :
    Matrix (Fin n ⊕ (Fin kl ⊕ Fin kc)) (Fin n ⊕ (Fin kl ⊕ Fin kc)) K :=
  Matrix.fromBlocks (hpA obs lam) (Cmat lw cw)ᵀ (Cmat lw cw) 0

omit [LinearOrder K] [IsStrictOrderedRing K] in
theorem hpObj_eq_wls (obs : Fin n → Bool) (y : Fin n → K) (lam : K) (τ : Fin n → K) :
    hpObj obs y lam τ = wlsObj (wt obs) y lam (Kmat n) τ := by
  unfold hpObj wlsObj
  rw [Kmat_penalty]
  congr 1
  refine Finset.sum_congr rfl (fun t _ => ?_)
  unfold wt
  split_ifs <;> simp

omit [LinearOrder K] [IsStrictOrderedRing K] in
theorem hpA_eq_wlsA (obs : Fin n → Bool) (lam : K) : hpA obs lam = wlsA (wt obs) lam (Kmat n) := by
  unfold hpA wlsA; rw [add_comm]

omit [LinearOrder K] [IsStrictOrderedRing K] in
theorem hpRhs_eq (obs : Fin n → Bool) (y : Fin n → K) : hpRhs obs y = fun t => wt obs t * y t := by
  funext t; unfold hpRhs wt; split_ifs <;> simp

theorem wt_nonneg (obs : Fin n → Bool) (t : Fin n) : (0 : K) ≤ wt obs t := by
  unfold wt; split_ifs <;> simp

omit [LinearOrder K] [IsStrictOrderedRing K] in
/-- the two KKT equations contained in the bordered system -/
theorem hp_system_iff (obs : Fin n → Bool) (y : Fin n → K) (lam : K) (lw : Fin kl → Fin n) (cw : Fin kc → Fin n)
    (lv : Fin kl → K) (cv : Fin kc → K) (τ : Fin n → K) (μ : Fin kl ⊕ Fin kc → K) :
    hpF obs lam lw cw *ᵥ Sum.elim τ μ = Sum.elim (hpRhs obs y) (Sum.elim lv cv) ↔
      (hpA obs lam *ᵥ τ + (Cmat lw cw)ᵀ *ᵥ μ = hpRhs obs y ∧ Cmat lw cw *ᵥ τ = Sum.elim lv cv) :=
  bordered_iff _ _ _ _ _ _

omit [LinearOrder K] [IsStrictOrderedRing K] in
/-- … read as the KKT equations of weighted least squares (weights `wt obs`, penalty matrix `Kmat`), the form in which
`Lemmas/QuadMin.lean` states optimality, excess and uniqueness -/
theorem hp_kkt {obs : Fin n → Bool} {y : Fin n → K} {lam : K} {lw : Fin kl → Fin n} {cw : Fin kc → Fin n}
    {lv : Fin kl → K} {cv : Fin kc → K} {τ : Fin n → K} {μ : Fin kl ⊕ Fin kc → K}
    (hsys : hpF obs lam lw cw *ᵥ Sum.elim τ μ = Sum.elim (hpRhs obs y) (Sum.elim lv cv)) :
    wlsA (wt obs) lam (Kmat n) *ᵥ τ + (Cmat lw cw)ᵀ *ᵥ μ = (fun t => wt obs t * y t) ∧
      Cmat lw cw *ᵥ τ = Sum.elim lv cv := by
  rw [← hpA_eq_wlsA, ← hpRhs_eq]
  exact (hp_system_iff obs y lam lw cw lv cv τ μ).1 hsys

omit [LinearOrder K] [IsStrictOrderedRing K] in
/-- **Constraints are met exactly.** A solution of `F (τ, μ) = (W y, c)` satisfies every level constraint
`τ_{lw i} = lv i` and every change constraint `τ_{cw i} − τ_{cw i − 1} = cv i`. -/
theorem hp_constraints_met (obs : Fin n → Bool) (y : Fin n → K) (lam : K)
    (lw : Fin kl → Fin n) (cw : Fin kc → Fin n) (hcw : ∀ i, 0 < (cw i).val)
    (lv : Fin kl → K) (cv : Fin kc → K) (τ : Fin n → K) (μ : Fin kl ⊕ Fin kc → K)
    (hsys : hpF obs lam lw cw *ᵥ Sum.elim τ μ = Sum.elim (hpRhs obs y) (Sum.elim lv cv)) :
    (∀ i, τ (lw i) = lv i) ∧ (∀ i, τ (cw i) - τ (pred (cw i)) = cv i) :=
  (Cmat_feasible_iff lw cw hcw lv cv τ).1 ((hp_system_iff obs y lam lw cw lv cv τ μ).1 hsys).2

/-- **Optimality.** For `λ ≥ 0` (in particular `λ > 0`), a solution of `F (τ, μ) = (W y, c)` minimises the objective
`hpObj` among all sequences meeting the constraints. -/
theorem hp_optimal (obs : Fin n → Bool) (y : Fin n → K) (lam : K) (hlam : 0 ≤ lam)
    (lw : Fin kl → Fin n) (cw : Fin kc → Fin n) (hcw : ∀ i, 0 < (cw i).val)
    (lv : Fin kl → K) (cv : Fin kc → K) (τ : Fin n → K) (μ : Fin kl ⊕ Fin kc → K)
    (hsys : hpF obs lam lw cw *ᵥ Sum.elim τ μ = Sum.elim (hpRhs obs y) (Sum.elim lv cv))
    (τ' : Fin n → K) (hl' : ∀ i, τ' (lw i) = lv i) (hc' : ∀ i, τ' (cw i) - τ' (pred (cw i)) = cv i) :
    hpObj obs y lam τ ≤ hpObj obs y lam τ' := by
  obtain ⟨hstat, hfeas⟩ := hp_kkt hsys
  rw [hpObj_eq_wls, hpObj_eq_wls]
  exact wls_kkt_min (wt obs) y (wt_nonneg obs) lam hlam (Kmat n) (Cmat lw cw) _ τ μ hstat hfeas τ'
    ((Cmat_feasible_iff lw cw hcw lv cv τ').2 ⟨hl', hc'⟩)

omit [LinearOrder K] [IsStrictOrderedRing K] in
/-- **Exact excess**: any other feasible sequence is worse by exactly the objective of the difference
(fidelity of the difference at the observed points plus `λ` times its roughness). -/
theorem hp_excess (obs : Fin n → Bool) (y : Fin n → K) (lam : K)
    (lw : Fin kl → Fin n) (cw : Fin kc → Fin n) (hcw : ∀ i, 0 < (cw i).val)
    (lv : Fin kl → K) (cv : Fin kc → K) (τ : Fin n → K) (μ : Fin kl ⊕ Fin kc → K)
    (hsys : hpF obs lam lw cw *ᵥ Sum.elim τ μ = Sum.elim (hpRhs obs y) (Sum.elim lv cv))
    (τ' : Fin n → K) (hl' : ∀ i, τ' (lw i) = lv i) (hc' : ∀ i, τ' (cw i) - τ' (pred (cw i)) = cv i) :
    hpObj obs y lam τ' = hpObj obs y lam τ + hpObj obs 0 lam (τ' - τ) := by
  obtain ⟨hstat, hfeas⟩ := hp_kkt hsys
  have hd : Cmat lw cw *ᵥ (τ' - τ) = 0 := by
    rw [Matrix.mulVec_sub, hfeas, (Cmat_feasible_iff lw cw hcw lv cv τ').2 ⟨hl', hc'⟩, sub_self]
  have := wls_kkt_excess (wt obs) y lam (Kmat n) (Cmat lw cw) τ μ hstat _ hd
  rw [add_sub_cancel] at this
  rw [hpObj_eq_wls obs y, hpObj_eq_wls obs y, hpObj_eq_wls obs 0, this]
  unfold wlsObj
  simp only [Pi.zero_apply, zero_sub, neg_sq]

omit [LinearOrder K] [IsStrictOrderedRing K] in
/-- **Kernel of `K` = the affine sequences** (both directions, every `n ≥ 2`): `K τ = 0 ↔ τ_t = a + b t`. -/
theorem hp_kernel_iff_affine (hn : 2 ≤ n) (τ : Fin n → K) :
    Kmat n *ᵥ τ = 0 ↔ ∃ a b : K, ∀ t : Fin n, τ t = a + b * (t.val : K) := by
  constructor
  · intro h
    exact ⟨τ ⟨0, by omega⟩, τ ⟨1, by omega⟩ - τ ⟨0, by omega⟩, fun t => Kmat_kernel n hn τ h t.val t.isLt⟩
  · rintro ⟨a, b, h⟩
    have : τ = fun t : Fin n => a + b * (t.val : K) := funext h
    rw [this]; exact Kmat_affine n a b

/-- a sequence that is invisible to the smoothness term (`K d = 0`) and vanishes at two distinct observed
positions is zero: two observations pin the null space of `K` -/
theorem two_observations_pin (obs : Fin n → Bool) (s t : Fin n) (hst : s ≠ t) (hs : obs s = true) (ht : obs t = true)
    (d : Fin n → K) (hw : ∀ i, wt obs i * d i ^ 2 = (0 : K)) (hK : Kmat n *ᵥ d = 0) : d = 0 := by
  have hn : 2 ≤ n := by
    have := s.isLt; have := t.isLt; have := Fin.val_ne_of_ne hst
    omega
  obtain ⟨a, b, aff⟩ := (hp_kernel_iff_affine hn d).1 hK
  have h0 : ∀ r, obs r = true → a + b * (r.val : K) = 0 := fun r hr => by
    have := hw r
    rwa [wt, if_pos hr, one_mul, sq_eq_zero_iff, aff r] at this
  have hb : b = 0 :=
    (mul_eq_zero.1 (show b * ((s.val : K) - (t.val : K)) = 0 by linear_combination h0 s hs - h0 t ht)).resolve_right
      (sub_ne_zero.2 fun h => hst (Fin.ext (Nat.cast_injective h)))
  have ha := h0 s hs
  rw [hb, zero_mul, add_zero] at ha
  funext k
  rw [aff k, ha, hb, zero_mul, add_zero, Pi.zero_apply]

/-- **Uniqueness.** For `λ > 0` and at least two observations, every feasible sequence that is not worse than
the solution of the bordered system *is* that solution: the trend is the unique minimiser. -/
theorem hp_unique (obs : Fin n → Bool) (y : Fin n → K) (lam : K) (hlam : 0 < lam)
    (s t : Fin n) (hst : s ≠ t) (hs : obs s = true) (ht : obs t = true)
    (lw : Fin kl → Fin n) (cw : Fin kc → Fin n) (hcw : ∀ i, 0 < (cw i).val)
    (lv : Fin kl → K) (cv : Fin kc → K) (τ : Fin n → K) (μ : Fin kl ⊕ Fin kc → K)
    (hsys : hpF obs lam lw cw *ᵥ Sum.elim τ μ = Sum.elim (hpRhs obs y) (Sum.elim lv cv))
    (τ' : Fin n → K) (hl' : ∀ i, τ' (lw i) = lv i) (hc' : ∀ i, τ' (cw i) - τ' (pred (cw i)) = cv i)
    (hle : hpObj obs y lam τ' ≤ hpObj obs y lam τ) : τ' = τ := by
  obtain ⟨hstat, hfeas⟩ := hp_kkt hsys
  rw [hpObj_eq_wls, hpObj_eq_wls] at hle
  exact wls_kkt_unique (wt obs) y (wt_nonneg obs) lam hlam (Kmat n) (Cmat lw cw) _ τ μ
    (fun d _ hw hK => two_observations_pin obs s t hst hs ht d hw hK) hstat hfeas τ'
    ((Cmat_feasible_iff lw cw hcw lv cv τ').2 ⟨hl', hc'⟩) hle

/-- the system has at most one trend solution (so "the" solution returned by an exact solver is well defined) -/
theorem hp_solution_unique (obs : Fin n → Bool) (y : Fin n → K) (lam : K) (hlam : 0 < lam)
    (s t : Fin n) (hst : s ≠ t) (hs : obs s = true) (ht : obs t = true)
    (lw : Fin kl → Fin n) (cw : Fin kc → Fin n) (hcw : ∀ i, 0 < (cw i).val)
    (lv : Fin kl → K) (cv : Fin kc → K) (τ τ' : Fin n → K) (μ μ' : Fin kl ⊕ Fin kc → K)
    (hsys : hpF obs lam lw cw *ᵥ Sum.elim τ μ = Sum.elim (hpRhs obs y) (Sum.elim lv cv))
    (hsys' : hpF obs lam lw cw *ᵥ Sum.elim τ' μ' = Sum.elim (hpRhs obs y) (Sum.elim lv cv)) : τ' = τ := by
  obtain ⟨hl', hc'⟩ := hp_constraints_met obs y lam lw cw hcw lv cv τ' μ' hsys'
  obtain ⟨hl, hc⟩ := hp_constraints_met obs y lam lw cw hcw lv cv τ μ hsys
  exact hp_unique obs y lam hlam s t hst hs ht lw cw hcw lv cv τ μ hsys τ' hl' hc'
    (hp_optimal obs y lam hlam.le lw cw hcw lv cv τ' μ' hsys' τ hl hc)

omit [LinearOrder K] [IsStrictOrderedRing K] in
/-- **A straight line solves the system**: a fully observed affine series `a + b t` (no constraints, or
constraints that lie on the line) satisfies the normal equations with zero multipliers … -/
theorem hp_line_solves (lam a b : K) (lw : Fin kl → Fin n) (cw : Fin kc → Fin n) :
    let line : Fin n → K := fun t => a + b * (t.val : K)
    hpA (fun _ => true) lam *ᵥ line + (Cmat lw cw)ᵀ *ᵥ (0 : Fin kl ⊕ Fin kc → K) = hpRhs (fun _ => true) line := by
  intro line
  have hK : Kmat n *ᵥ line = 0 := Kmat_affine n a b
  unfold hpA
  rw [Matrix.add_mulVec, Matrix.smul_mulVec, ← Matrix.mulVec_mulVec, hK, Matrix.mulVec_zero, smul_zero,
    Matrix.mulVec_zero, zero_add, add_zero]
  funext t
  rw [Matrix.mulVec_diagonal]
  simp [wt, hpRhs]

/-- … hence **a straight line is returned unchanged**: whatever solves the system for fully observed affine
data (with `n ≥ 2`, `λ > 0` and any constraints the line itself meets) is the line. -/
theorem hp_line_fixed (hn : 2 ≤ n) (lam : K) (hlam : 0 < lam) (a b : K)
    (lw : Fin kl → Fin n) (cw : Fin kc → Fin n) (hcw : ∀ i, 0 < (cw i).val)
    (τ : Fin n → K) (μ : Fin kl ⊕ Fin kc → K) :
    let line : Fin n → K := fun t => a + b * (t.val : K)
    hpF (fun _ => true) lam lw cw *ᵥ Sum.elim τ μ
        = Sum.elim (hpRhs (fun _ => true) line) (Cmat lw cw *ᵥ line) →
    τ = line := by
  intro line hsys
  rw [← Sum.elim_comp_inl_inr (Cmat lw cw *ᵥ line)] at hsys
  have hline := (hp_system_iff (fun _ => true) line lam lw cw _ _ line 0).2
    ⟨hp_line_solves lam a b lw cw, (Sum.elim_comp_inl_inr _).symm⟩
  exact hp_solution_unique (fun _ => true) line lam hlam ⟨0, by omega⟩ ⟨1, by omega⟩
    (by simp [Fin.ext_iff]) rfl rfl lw cw hcw _ _ line τ 0 μ hline hsys

omit [LinearOrder K] [IsStrictOrderedRing K] in
/-- **Missing observations contribute no fidelity term**: the objective does not depend on the value stored at
an unobserved position (only the smoothness term bridges it). -/
theorem hp_missing_no_fidelity (obs : Fin n → Bool) (y y' : Fin n → K) (lam : K) (τ : Fin n → K)
    (h : ∀ t, obs t = true → y t = y' t) : hpObj obs y lam τ = hpObj obs y' lam τ := by
  unfold hpObj
  congr 1
  exact Finset.sum_congr rfl fun t _ => ite_congr rfl (fun ho => by rw [h t ho]) fun _ => rfl

omit [LinearOrder K] [IsStrictOrderedRing K] in
/-- … and neither does the right-hand side of the system (zeros are enforced there). -/
theorem hp_missing_rhs (obs : Fin n → Bool) (y y' : Fin n → K) (h : ∀ t, obs t = true → y t = y' t) :
    hpRhs obs y = hpRhs obs y' :=
  funext fun t => ite_congr rfl (h t) fun _ => rfl

/-- non-vacuity of the hypotheses of `hp_constraints_met` / `hp_optimal` / `hp_unique`: `n = 12`, `λ = 1600`, the fully
observed data `3 + 2t`, a level constraint at position 7 and a change constraint at position 4 (both on the line):
the bordered system has the solution `(line, 0)`.  (Instances with missing observations and non-zero multipliers are
produced, and re-checked exactly, by the executable model on every run.) -/
example : ∃ (τ : Fin 12 → ℚ) (μ : Fin 1 ⊕ Fin 1 → ℚ),
    hpF (fun _ => true) 1600 (![7] : Fin 1 → Fin 12) (![4] : Fin 1 → Fin 12) *ᵥ Sum.elim τ μ
      = Sum.elim (hpRhs (fun _ => true) (fun t => 3 + 2 * (t.val : ℚ)))
          (Cmat ![7] ![4] *ᵥ (fun t : Fin 12 => 3 + 2 * (t.val : ℚ))) :=
  ⟨_, 0, (bordered_iff _ _ _ _ _ _).2 ⟨hp_line_solves 1600 3 2 _ _, rfl⟩⟩

/-! ## Part D — existence: the system matrix is non-singular, so the unique minimiser exists -/

section Existence

/-- `λKᵀK + W` is definite when `λ > 0` and two observations exist:
`dᵀ(λKᵀK + W)d = 0 ⇒ Kd = 0 ∧ Wd = 0 ⇒ d` affine with two zeros `⇒ d = 0`. -/
theorem hpA_definite (obs : Fin n → Bool) (lam : K) (hlam : 0 < lam)
    (s t : Fin n) (hst : s ≠ t) (hs : obs s = true) (ht : obs t = true)
    (d : Fin n → K) (h : d ⬝ᵥ hpA obs lam *ᵥ d = 0) : d = 0 := by
  rw [hpA_eq_wlsA] at h
  obtain ⟨h1, h2⟩ := wls_form_eq_zero (wt obs) (wt_nonneg obs) lam hlam (Kmat n) d h
  exact two_observations_pin obs s t hst hs ht d h1 h2

/-- **Unconstrained system matrix is non-singular** (`λ > 0`, two observations). -/
theorem hp_plain_nonsingular (obs : Fin n → Bool) (lam : K) (hlam : 0 < lam)
    (s t : Fin n) (hst : s ≠ t) (hs : obs s = true) (ht : obs t = true) : IsUnit (hpA obs lam).det :=
  isUnit_det_of_definite _ (hpA_definite obs lam hlam s t hst hs ht)

omit [LinearOrder K] [IsStrictOrderedRing K] in
/-- **Independent constraints have full row rank**: distinct level positions, distinct change positions (`≥ 1`), and
between two level positions `p < q` at least one of the periods `p+1 … q` without a change constraint. -/
theorem hp_independent_constraints (lw : Fin kl → Fin n) (cw : Fin kc → Fin n)
    (hlinj : Function.Injective lw) (hcinj : Function.Injective cw) (hcw : ∀ k, 0 < (cw k).val)
    (hnc : ∀ i i', (lw i).val < (lw i').val → ∃ j, (lw i).val < j ∧ j ≤ (lw i').val ∧ ∀ k, (cw k).val ≠ j)
    (μ : Fin kl ⊕ Fin kc → K) (h : (Cmat lw cw)ᵀ *ᵥ μ = 0) : μ = 0 :=
  Cmat_rank_mixed lw cw hlinj hcinj hcw hnc μ h

/-- **The bordered system matrix `F` is non-singular** for `λ > 0`, two observations and a constraint matrix of full
row rank (`hC`; see `hp_independent_constraints`). -/
theorem hp_bordered_nonsingular (obs : Fin n → Bool) (lam : K) (hlam : 0 < lam)
    (s t : Fin n) (hst : s ≠ t) (hs : obs s = true) (ht : obs t = true)
    (lw : Fin kl → Fin n) (cw : Fin kc → Fin n)
    (hC : ∀ μ : Fin kl ⊕ Fin kc → K, (Cmat lw cw)ᵀ *ᵥ μ = 0 → μ = 0) :
    IsUnit (hpF obs lam lw cw).det :=
  bordered_isUnit_det _ _ (fun d _ hq => hpA_definite obs lam hlam s t hst hs ht d hq) hC

/-- **The system is solvable for every data and every constraint values** … -/
theorem hp_system_solvable (obs : Fin n → Bool) (y : Fin n → K) (lam : K) (hlam : 0 < lam)
    (s t : Fin n) (hst : s ≠ t) (hs : obs s = true) (ht : obs t = true)
    (lw : Fin kl → Fin n) (cw : Fin kc → Fin n)
    (hC : ∀ μ : Fin kl ⊕ Fin kc → K, (Cmat lw cw)ᵀ *ᵥ μ = 0 → μ = 0)
    (lv : Fin kl → K) (cv : Fin kc → K) :
    ∃ (τ : Fin n → K) (μ : Fin kl ⊕ Fin kc → K),
      hpF obs lam lw cw *ᵥ Sum.elim τ μ = Sum.elim (hpRhs obs y) (Sum.elim lv cv) := by
  obtain ⟨τ, μ, h1, h2⟩ := kkt_exists (hpA obs lam) (Cmat lw cw)
    (fun d _ hq => hpA_definite obs lam hlam s t hst hs ht d hq) hC (hpRhs obs y) (Sum.elim lv cv)
  exact ⟨τ, μ, (hp_system_iff obs y lam lw cw lv cv τ μ).2 ⟨h1, h2⟩⟩

/-- … hence **the constrained Hodrick-Prescott minimiser exists and is unique**: for `λ > 0`, two observations and
independent constraints there is exactly one sequence that meets all constraints and minimises the objective among
the sequences that do. -/
theorem hp_minimiser_exists_unique (obs : Fin n → Bool) (y : Fin n → K) (lam : K) (hlam : 0 < lam)
    (s t : Fin n) (hst : s ≠ t) (hs : obs s = true) (ht : obs t = true)
    (lw : Fin kl → Fin n) (cw : Fin kc → Fin n) (hcw : ∀ i, 0 < (cw i).val)
    (hC : ∀ μ : Fin kl ⊕ Fin kc → K, (Cmat lw cw)ᵀ *ᵥ μ = 0 → μ = 0)
    (lv : Fin kl → K) (cv : Fin kc → K) :
    ∃! τ : Fin n → K,
      ((∀ i, τ (lw i) = lv i) ∧ (∀ i, τ (cw i) - τ (pred (cw i)) = cv i)) ∧
      ∀ σ : Fin n → K, (∀ i, σ (lw i) = lv i) → (∀ i, σ (cw i) - σ (pred (cw i)) = cv i) →
        hpObj obs y lam τ ≤ hpObj obs y lam σ := by
  obtain ⟨τ, μ, hsys⟩ := hp_system_solvable obs y lam hlam s t hst hs ht lw cw hC lv cv
  have hfeas := hp_constraints_met obs y lam lw cw hcw lv cv τ μ hsys
  refine ⟨τ, ⟨hfeas, fun σ h1 h2 => hp_optimal obs y lam hlam.le lw cw hcw lv cv τ μ hsys σ h1 h2⟩, ?_⟩
  rintro σ ⟨⟨h1, h2⟩, hmin⟩
  exact hp_unique obs y lam hlam s t hst hs ht lw cw hcw lv cv τ μ hsys σ h1 h2 (hmin τ hfeas.1 hfeas.2)

/-- the unconstrained case, spelled out: the plain Hodrick-Prescott trend exists and is unique -/
theorem hp_plain_minimiser_exists_unique (obs : Fin n → Bool) (y : Fin n → K) (lam : K) (hlam : 0 < lam)
    (s t : Fin n) (hst : s ≠ t) (hs : obs s = true) (ht : obs t = true) :
    ∃! τ : Fin n → K, ∀ σ : Fin n → K, hpObj obs y lam τ ≤ hpObj obs y lam σ := by
  obtain ⟨τ, ⟨_, hmin⟩, huniq⟩ := hp_minimiser_exists_unique obs y lam hlam s t hst hs ht
    (Fin.elim0 : Fin 0 → Fin n) (Fin.elim0 : Fin 0 → Fin n) (fun i => i.elim0)
    (fun μ _ => Subsingleton.elim μ 0) Fin.elim0 Fin.elim0
  refine ⟨τ, fun σ => hmin σ (fun i => i.elim0) (fun i => i.elim0), ?_⟩
  intro σ hσ
  exact huniq σ ⟨⟨fun i => i.elim0, fun i => i.elim0⟩, fun ρ _ _ => hσ ρ⟩

/-! ### converse: dependent constraints make the system singular -/

omit [LinearOrder K] [IsStrictOrderedRing K] in
/-- **Converse of `hp_bordered_nonsingular`**: if the constraint rows are linearly dependent (`Cᵀμ = 0` for some `μ ≠ 0`)
the bordered matrix is singular, whatever the data, `λ` and the observation pattern. -/
theorem hp_singular_of_dependent (obs : Fin n → Bool) (lam : K) (lw : Fin kl → Fin n) (cw : Fin kc → Fin n)
    (μ : Fin kl ⊕ Fin kc → K) (hμ : μ ≠ 0) (h : (Cmat lw cw)ᵀ *ᵥ μ = 0) :
    ¬ IsUnit (hpF obs lam lw cw).det :=
  bordered_singular_of_dependent _ _ μ hμ h

omit [LinearOrder K] [IsStrictOrderedRing K] in
/-- two equal rows of the constraint matrix are dependent: `Cᵀ (e_r − e_r') = row r − row r' = 0` -/
theorem dependent_of_equal_rows (lw : Fin kl → Fin n) (cw : Fin kc → Fin n) (r r' : Fin kl ⊕ Fin kc) (hne : r ≠ r')
    (h : Cmat (K := K) lw cw r = Cmat lw cw r') :
    ∃ μ : Fin kl ⊕ Fin kc → K, μ ≠ 0 ∧ (Cmat lw cw)ᵀ *ᵥ μ = 0 := by
  refine ⟨Pi.single r 1 - Pi.single r' 1, fun h0 => ?_, ?_⟩
  · have := congrFun h0 r
    rw [Pi.sub_apply, Pi.single_eq_same, Pi.single_eq_of_ne hne, sub_zero] at this
    exact one_ne_zero this
  · rw [Matrix.mulVec_sub, Matrix.mulVec_single_one, Matrix.mulVec_single_one]
    funext j
    exact sub_eq_zero.2 (congrFun h j)

omit [LinearOrder K] [IsStrictOrderedRing K] in
theorem dependent_of_duplicate_level (lw : Fin kl → Fin n) (cw : Fin kc → Fin n) (i i' : Fin kl) (hne : i ≠ i')
    (hdup : lw i = lw i') :
    ∃ μ : Fin kl ⊕ Fin kc → K, μ ≠ 0 ∧ (Cmat lw cw)ᵀ *ᵥ μ = 0 :=
  dependent_of_equal_rows lw cw (Sum.inl i) (Sum.inl i') (fun h => hne (Sum.inl.inj h))
    (congrArg (fun p j => if j = p then (1 : K) else 0) hdup)

omit [LinearOrder K] [IsStrictOrderedRing K] in
theorem dependent_of_duplicate_change (lw : Fin kl → Fin n) (cw : Fin kc → Fin n) (k k' : Fin kc) (hne : k ≠ k')
    (hdup : cw k = cw k') :
    ∃ μ : Fin kl ⊕ Fin kc → K, μ ≠ 0 ∧ (Cmat lw cw)ᵀ *ᵥ μ = 0 :=
  dependent_of_equal_rows lw cw (Sum.inr k) (Sum.inr k') (fun h => hne (Sum.inr.inj h))
    (congrArg (fun p j : Fin n => if j = p then (1 : K) else if j.val + 1 = p.val then -1 else 0) hdup)

omit [LinearOrder K] [IsStrictOrderedRing K] in
/-- **a level–changes–level cycle is dependent**: level constraints at periods `p < q` together with a change constraint at
every period `p+1, …, q` — the excluded configuration of `hp_independent_constraints` — admit
`μ = e_{level p} − e_{level q} + Σ_j e_{change j}` with `Cᵀμ = 0`. -/
theorem dependent_of_cycle (lw : Fin kl → Fin n) (cw : Fin kc → Fin n) (i i' : Fin kl)
    (hpq : (lw i).val < (lw i').val)
    (hall : ∀ j, (lw i).val < j → j ≤ (lw i').val → ∃ k, (cw k).val = j) :
    ∃ μ : Fin kl ⊕ Fin kc → K, μ ≠ 0 ∧ (Cmat lw cw)ᵀ *ᵥ μ = 0 := by
  have : Nonempty (Fin kc) := (hall _ hpq le_rfl).nonempty
  choose! kf hkf using hall
  have hne : Sum.inl i ≠ (Sum.inl i' : Fin kl ⊕ Fin kc) := fun h => by
    rw [Sum.inl.inj h] at hpq; exact lt_irrefl _ hpq
  refine ⟨Pi.single (Sum.inl i) 1 - Pi.single (Sum.inl i') 1
    + ∑ j ∈ Finset.Ico (lw i).val (lw i').val, Pi.single (Sum.inr (kf (j + 1))) 1, fun h0 => ?_, ?_⟩
  · have := congrFun h0 (Sum.inl i)
    rw [Pi.add_apply, Pi.sub_apply, Pi.single_eq_same, Pi.single_eq_of_ne hne, Finset.sum_apply,
      Finset.sum_eq_zero (fun j _ => Pi.single_eq_of_ne Sum.inl_ne_inr _), sub_zero, add_zero] at this
    exact one_ne_zero this
  · -- with `e j` the indicator of period `j`, the level rows are `e p`, `e q` and the change row at `j + 1` is
    -- `e (j + 1) − e j`: the change rows telescope to `e q − e p`
    let e : Nat → Fin n → K := fun j t => if t.val = j then 1 else 0
    have hl : ∀ a, (Cmat lw cw)ᵀ *ᵥ Pi.single (Sum.inl a) 1 = e (lw a).val := fun a => by
      rw [Matrix.mulVec_single_one]
      funext t
      show (if t = lw a then (1 : K) else 0) = if t.val = (lw a).val then 1 else 0
      simp only [Fin.ext_iff]
    have hc : ∀ j ∈ Finset.Ico (lw i).val (lw i').val,
        (Cmat lw cw)ᵀ *ᵥ Pi.single (Sum.inr (kf (j + 1))) 1 = e (j + 1) - e j := fun j hj => by
      obtain ⟨h1, h2⟩ := Finset.mem_Ico.1 hj
      rw [Matrix.mulVec_single_one]
      funext t
      show (if t = cw (kf (j + 1)) then (1 : K) else if t.val + 1 = (cw (kf (j + 1))).val then -1 else 0)
        = (if t.val = j + 1 then 1 else 0) - (if t.val = j then 1 else 0)
      simp only [Fin.ext_iff, hkf (j + 1) (by omega) (by omega), Nat.add_right_cancel_iff]
      by_cases h0 : t.val = j
      · rw [if_neg (by omega), if_pos h0, if_neg (by omega), if_pos h0, zero_sub]
      · rw [if_neg h0, if_neg h0, sub_zero]
    rw [Matrix.mulVec_add, Matrix.mulVec_sub, Matrix.mulVec_sum, hl, hl, Finset.sum_congr rfl hc,
      Finset.sum_Ico_sub e hpq.le]
    abel

omit [LinearOrder K] [IsStrictOrderedRing K] in
/-- **Rank of the constraint matrix**: the rows are linearly independent iff the constraints are independent in the
combinatorial sense: distinct level positions, distinct change positions, and no two level positions joined by change
constraints at every period in between. -/
theorem Cmat_rank_iff (lw : Fin kl → Fin n) (cw : Fin kc → Fin n) (hcw : ∀ k, 0 < (cw k).val) :
    (∀ μ : Fin kl ⊕ Fin kc → K, (Cmat lw cw)ᵀ *ᵥ μ = 0 → μ = 0) ↔
      (Function.Injective lw ∧ Function.Injective cw ∧
        ∀ i i', (lw i).val < (lw i').val → ∃ j, (lw i).val < j ∧ j ≤ (lw i').val ∧ ∀ k, (cw k).val ≠ j) := by
  refine ⟨fun hC => ?_, fun ⟨h1, h2, h3⟩ => Cmat_rank_mixed lw cw h1 h2 hcw h3⟩
  have dep : ¬ ∃ μ : Fin kl ⊕ Fin kc → K, μ ≠ 0 ∧ (Cmat lw cw)ᵀ *ᵥ μ = 0 := fun ⟨μ, hμ, hd⟩ => hμ (hC μ hd)
  refine ⟨fun i i' h => by_contra fun hne => dep (dependent_of_duplicate_level lw cw i i' hne h),
    fun k k' h => by_contra fun hne => dep (dependent_of_duplicate_change lw cw k k' hne h), fun i i' hpq => ?_⟩
  -- otherwise every period of `p+1 … q` carries a change constraint: a cycle
  by_contra hcon
  push Not at hcon
  exact dep (dependent_of_cycle lw cw i i' hpq hcon)

/-- **Non-singularity characterised**: for `λ > 0`, two observations and change positions `≥ 1`, the bordered system
matrix is non-singular **iff** the constraints are independent in the combinatorial sense: distinct level positions, distinct
change positions, and no two level positions joined by change constraints at every period in between. -/
theorem hp_nonsingular_iff_independent (obs : Fin n → Bool) (lam : K) (hlam : 0 < lam)
    (s t : Fin n) (hst : s ≠ t) (hs : obs s = true) (ht : obs t = true)
    (lw : Fin kl → Fin n) (cw : Fin kc → Fin n) (hcw : ∀ k, 0 < (cw k).val) :
    IsUnit (hpF obs lam lw cw).det ↔
      (Function.Injective lw ∧ Function.Injective cw ∧
        ∀ i i', (lw i).val < (lw i').val → ∃ j, (lw i).val < j ∧ j ≤ (lw i').val ∧ ∀ k, (cw k).val ≠ j) :=
  (bordered_isUnit_det_iff _ _ (fun d _ hq => hpA_definite obs lam hlam s t hst hs ht d hq)).trans (Cmat_rank_iff lw cw hcw)

/-- non-vacuity (independent side): `n = 4`, all observed, one level at period 3 and one change at period 1 — non-singular -/
example : IsUnit (hpF (K := ℚ) (fun _ : Fin 4 => true) 1 (![3] : Fin 1 → Fin 4) (![1] : Fin 1 → Fin 4)).det :=
  (hp_nonsingular_iff_independent (fun _ => true) 1 one_pos 0 1 (by decide) rfl rfl _ _ (by decide)).2
    ⟨Function.injective_of_subsingleton _, Function.injective_of_subsingleton _,
      fun i i' h => absurd h (by rw [Subsingleton.elim i i']; exact lt_irrefl _)⟩

/-- non-vacuity (dependent side): two level constraints at the same period make the system singular -/
example : ¬ IsUnit (hpF (K := ℚ) (fun _ : Fin 4 => true) 1 (![2, 2] : Fin 2 → Fin 4) (Fin.elim0 : Fin 0 → Fin 4)).det := by
  obtain ⟨μ, hμ, hd⟩ := dependent_of_duplicate_level (K := ℚ) (![2, 2] : Fin 2 → Fin 4) (Fin.elim0 : Fin 0 → Fin 4) 0 1
    (by decide) rfl
  exact hp_singular_of_dependent _ _ _ _ μ hμ hd

/-- non-vacuity: the plain and the constrained minimiser exist and are unique on concrete instances -/
example : ∃! τ : Fin 3 → ℚ, ∀ σ : Fin 3 → ℚ, hpObj (fun _ => true) ![1, 5, 2] 1 τ ≤ hpObj (fun _ => true) ![1, 5, 2] 1 σ :=
  hp_plain_minimiser_exists_unique (fun _ => true) ![1, 5, 2] 1 one_pos 0 1 (by decide) rfl rfl

example : ∃! τ : Fin 4 → ℚ,
    ((∀ i : Fin 1, τ ((![3] : Fin 1 → Fin 4) i) = (![7] : Fin 1 → ℚ) i) ∧
     (∀ i : Fin 1, τ ((![1] : Fin 1 → Fin 4) i) - τ (pred ((![1] : Fin 1 → Fin 4) i)) = (![2] : Fin 1 → ℚ) i)) ∧
    ∀ σ : Fin 4 → ℚ, (∀ i : Fin 1, σ ((![3] : Fin 1 → Fin 4) i) = (![7] : Fin 1 → ℚ) i) →
      (∀ i : Fin 1, σ ((![1] : Fin 1 → Fin 4) i) - σ (pred ((![1] : Fin 1 → Fin 4) i)) = (![2] : Fin 1 → ℚ) i) →
      hpObj ![true, true, false, true] ![0, 1, 4, 9] 1 τ ≤ hpObj ![true, true, false, true] ![0, 1, 4, 9] 1 σ :=
  hp_minimiser_exists_unique ![true, true, false, true] ![0, 1, 4, 9] 1 one_pos 0 1 (by decide) rfl rfl
    (![3] : Fin 1 → Fin 4) (![1] : Fin 1 → Fin 4) (by decide)
    (hp_independent_constraints _ _ (Function.injective_of_subsingleton _) (Function.injective_of_subsingleton _)
      (by decide) fun i i' h => absurd h (by rw [Subsingleton.elim i i']; exact lt_irrefl _)) ![7] ![2]

end Existence

/-! ## Part B — the executable model (`IrisVerif.HP`, exact rationals) -/

section Model

open IrisVerif.HP IrisVerif.HPModel

/-- **The model's system matrix is the theorem's `F`**, entry by entry: for every pair of block positions
(`emb` enumerates trend positions, then level rows, then change rows), the matrix built by the model exactly as
`_ConstrainedHodrickPrescottFilter` builds it (`λ KᵀK`, bordered by `vstack`/`hstack`, plus the observation
diagonal) equals `hpF = [[λKᵀK + W, Cᵀ], [C, 0]]` over `ℚ`. -/
theorem model_sysMatrix_eq_hpF (n : Nat) (lam : Rat) (lw cw : List Nat) (y : Array (Option Rat))
    (hl : ∀ a, a < lw.length → lw.getD a 0 < n) (hc : ∀ a, a < cw.length → cw.getD a 0 < n)
    (r c : Fin n ⊕ (Fin lw.length ⊕ Fin cw.length)) :
    (sysMatrix n lam lw cw y).get (emb n lw.length r) (emb n lw.length c)
      = hpF (K := ℚ) (obsOf n y) lam (posF n lw hl) (posF n cw hc) r c := by
  unfold hpF
  rcases r with t | a | a <;> rcases c with u | b | b
  · -- top-left: λKᵀK + diag(obs)
    have ht := t.isLt; have hu := u.isLt
    rw [emb, emb, sysMatrix_get n lam lw cw y _ _ (by omega) (by omega), if_pos (by omega), if_pos (by omega),
      if_pos hu, if_pos ht, plainF_get n lam _ _ ht hu, Matrix.fromBlocks_apply₁₁, hpA, Matrix.add_apply,
      Matrix.diagonal_apply]
    congr 1
    unfold wt obsOf
    by_cases htu : t = u
    · subst htu; simp
    · simp [htu, Fin.val_ne_of_ne htu]
  -- off the trend block an entry is a constraint pattern (`sysMatrix_get_levelCol` …), inside `Cmat` or beyond its range
  · rw [emb, emb, sysMatrix_get_levelCol n lam lw cw y _ _ (by omega) b.isLt]
    exact levelPat_eq n lw cw hl hc b t
  · rw [emb, emb, sysMatrix_get_changeCol n lam lw cw y _ _ (by omega) b.isLt]
    exact changePat_eq n lw cw hl hc b t
  · rw [emb, emb, sysMatrix_get_levelRow n lam lw cw y _ _ a.isLt u.isLt]
    exact levelPat_eq n lw cw hl hc a u
  · rw [emb, emb, sysMatrix_get_levelCol n lam lw cw y _ _ (by omega) b.isLt]
    exact levelPat_out (by have := hl b.val b.isLt; omega)
  · rw [emb, emb, sysMatrix_get_changeCol n lam lw cw y _ _ (by omega) b.isLt]
    exact changePat_out (by have := hc b.val b.isLt; omega)
  · rw [emb, emb, sysMatrix_get_changeRow n lam lw cw y _ _ a.isLt (by omega)]
    exact changePat_eq n lw cw hl hc a u
  · rw [emb, emb, sysMatrix_get_changeRow n lam lw cw y _ _ a.isLt (by omega)]
    exact changePat_out (by have := hc a.val a.isLt; omega)
  · rw [emb, emb, sysMatrix_get_changeCol n lam lw cw y _ _ (by omega) b.isLt]
    exact changePat_out (by have := hc b.val b.isLt; omega)

/-- … hence, read through `blockEquiv`, the model's system matrix is the bordered matrix `hpF` -/
theorem sysMatrix_view (n : Nat) (lam : Rat) (lw cw : List Nat) (y : Array (Option Rat))
    (hl : ∀ a, a < lw.length → lw.getD a 0 < n) (hc : ∀ a, a < cw.length → cw.getD a 0 < n) :
    ((sysMatrix n lam lw cw y).toMat (n + lw.length + cw.length) (n + lw.length + cw.length)).submatrix
        (blockEquiv n lw.length cw.length) (blockEquiv n lw.length cw.length)
      = hpF (K := ℚ) (obsOf n y) lam (posF n lw hl) (posF n cw hc) := by
  ext r c
  rw [Matrix.submatrix_apply, QMat.toMat_apply, blockEquiv_val, blockEquiv_val]
  exact model_sysMatrix_eq_hpF n lam lw cw y hl hc r c

/-- **`hpK` entry formula**: the model's `K` is the second-difference matrix of Part A (over `ℚ`). -/
theorem model_hpK_eq_Kmat (n i j : Nat) (hi : i < n - 2) (hj : j < n) :
    (hpK n).get i j = (Kmat n : Matrix _ _ ℚ) ⟨i, hi⟩ ⟨j, hj⟩ := hpK_get n i j hi hj

/-- **`log=True` on the model: in logarithms, trend + gap = data.**  For abstract `lg`/`ex` with `lg (ex z) = z`
(`log ∘ exp = id`, true of the real functions; satisfiable over `ℚ`, see the example in `Props/C14Compose.lean`), wherever the observation
`v` exists the returned trend and gap satisfy `lg trend + lg gap = lg v`.
(Stated in logarithms because the hypotheses of the multiplicative form `trend · gap = data`, `ex (lg v) = v` and
`ex (a − b) · ex b = ex a` for *all* rationals, are met by no pair of functions `ℚ → ℚ`; `hleft` is satisfiable.) -/
theorem model_log_trend_plus_gap_in_logs (lg ex : Rat → Rat) (hleft : ∀ z, lg (ex z) = z)
    (n : Nat) (lam : Rat) (lw cw : List Nat) (ld cd : List Rat)
    (y : Array (Option Rat)) (f : Filtered) (h : filterData lg ex n lam lw cw ld cd y = some f)
    (i : Nat) (hi : i < n) (v : Rat) (hv : y.getD i none = some v) :
    ∃ g, f.gap.getD i none = some g ∧ lg (f.trend.getD i 0) + lg g = lg v := by
  obtain ⟨x, _, ht, hg⟩ := filterData_spec h
  refine ⟨ex (lg v - x.toVec.getD i 0), ?_, ?_⟩
  · rw [hg, QMat.getD_map_range, if_pos hi, hv]
  · rw [ht, Array.map_map, QMat.getD_map_range, if_pos hi, Function.comp, hleft, hleft, add_sub_cancel]

/-- **trend + gap = data on the model** (`log=False`): wherever the observation exists the returned trend and gap
add up to it exactly, and the gap is missing exactly where the observation is. -/
theorem model_trend_plus_gap (n : Nat) (lam : Rat) (lw cw : List Nat) (ld cd : List Rat)
    (y : Array (Option Rat)) (f : Filtered) (h : filterData id id n lam lw cw ld cd y = some f)
    (i : Nat) (hi : i < n) :
    (∀ v, y.getD i none = some v → ∃ g, f.gap.getD i none = some g ∧ f.trend.getD i 0 + g = v) ∧
    (y.getD i none = none → f.gap.getD i none = none) := by
  refine ⟨model_log_trend_plus_gap_in_logs id id (fun _ => rfl) n lam lw cw ld cd y f h i hi, fun hv => ?_⟩
  obtain ⟨x, _, _, hg⟩ := filterData_spec h
  rw [hg, QMat.getD_map_range, if_pos hi, hv]

/-- the system matrix sees the data only through the observation pattern (so `log=True`, which changes the
values but not the pattern, solves the same matrix against the logged right-hand side) -/
theorem model_sysMatrix_pattern_only (n : Nat) (lam : Rat) (lw cw : List Nat) (y y' : Array (Option Rat))
    (h : ∀ i, (y.getD i none).isSome = (y'.getD i none).isSome) :
    sysMatrix n lam lw cw y = sysMatrix n lam lw cw y' :=
  sysMatrix_congr n lam lw cw y y' h

/-- **`log=True` is `exp ∘ hpf ∘ log` on the model**: for arbitrary functions `lg`, `ex`, filtering with them equals
filtering the `lg`-transformed data, levels and changes with the identity and applying `ex` to trend and gap. -/
theorem model_log_is_exp_hpf_log (lg ex : Rat → Rat) (n : Nat) (lam : Rat) (lw cw : List Nat) (ld cd : List Rat)
    (y : Array (Option Rat)) :
    filterData lg ex n lam lw cw ld cd y =
      (filterData id id n lam lw cw (ld.map lg) (cd.map lg) (y.map (Option.map lg))).map
        (fun f => ⟨f.trend.map ex, f.gap.map (Option.map ex), f.mult⟩) :=
  filterData_log lg ex n lam lw cw ld cd y

/-- **Clipping is restriction of the unclipped result**: the variants are filtered on the whole encompassing range
(`(setup r).lo … (setup r).hi`, which uses the data outside the requested span), and the requested span enters the
output only through `Array.extract` (the slice `[clip_start:clip_end]`) and the reported start. -/
theorem model_span_only_clips (lg ex : Rat → Rat) (r : Request) :
    dataHpf lg ex r =
      (r.dcols.mapM (fun col => filterData lg ex (setup r).n r.lam (setup r).lw (setup r).cw (setup r).ld (setup r).cd
          ((Ser.mk r.dstart col).fromUntil (setup r).lo (setup r).hi))).map
        (fun fs => ⟨(setup r).slo,
          fs.map (fun f => f.trend.extract ((setup r).slo - (setup r).lo).toNat ((setup r).shi - (setup r).lo + 1).toNat),
          fs.map (fun f => f.gap.extract ((setup r).slo - (setup r).lo).toNat ((setup r).shi - (setup r).lo + 1).toNat)⟩) := by
  unfold dataHpf clip
  dsimp only
  -- `match o with | none => none | some fs => some (g fs)` is `o.map g`, for `o` the `mapM` over the variants
  split <;> next h => rw [h]; rfl

theorem extract_extract_zero {α : Type} {a : Array α} {c0 c1 N : Nat} (h : c1 ≤ N) :
    (a.extract 0 N).extract c0 c1 = a.extract c0 c1 := by
  rw [Array.extract_extract, Nat.zero_add, Nat.zero_add, Nat.min_eq_left h]

/-- **Clipping is restriction of the unclipped result** (full form): the answer for any requested span is the answer
for the encompassing span itself (same problem: `setup_wide`, idempotence of `get_encompassing_span`), sliced to
`[span.min − lo : span.max − lo + 1]` and re-dated. Data outside the requested span are still used. -/
theorem model_clip_of_unclipped (lg ex : Rat → Rat) (r : Request) :
    dataHpf lg ex r =
      (dataHpf lg ex { r with span := some ((setup r).lo, (setup r).hi) }).map (fun R =>
        ⟨(setup r).slo,
          R.trend.map (fun a => a.extract ((setup r).slo - (setup r).lo).toNat ((setup r).shi - (setup r).lo + 1).toNat),
          R.gap.map (fun a => a.extract ((setup r).slo - (setup r).lo).toNat ((setup r).shi - (setup r).lo + 1).toNat)⟩) := by
  rw [model_span_only_clips lg ex r, model_span_only_clips lg ex { r with span := some ((setup r).lo, (setup r).hi) },
    setup_wide r, Option.map_map]
  have hc1 : ((setup r).shi - (setup r).lo + 1).toNat ≤ ((setup r).hi - (setup r).lo + 1).toNat :=
    Int.toNat_le_toNat (by have := (setup_shi_le r).2; omega)
  congr 1
  funext fs
  simp only [Function.comp_def, List.map_map, Int.sub_self, Int.toNat_zero, extract_extract_zero hc1]

/-- the right-hand side has zeros at the missing observations and the (logged) data elsewhere -/
theorem model_rhs_zero_at_missing (lg : Rat → Rat) (y : Array (Option Rat)) (ld cd : List Rat) (i : Nat) (hi : i < y.size) :
    (rhs lg y ld cd).getD i 0 = (match y.getD i none with | some v => lg v | none => 0) :=
  rhs_get_data lg y ld cd i hi

/-- **What the model returns solves the bordered system of Part A exactly.**  If `filterData` answers (its exact
re-check `F·x = rhs` succeeded), the returned trend together with suitable multipliers `μ` satisfies
`hpF (τ, μ) = (W y, (levels, changes))` over `ℚ` — the hypothesis of `hp_constraints_met`, `hp_optimal`, `hp_unique`. -/
theorem model_answer_solves_system (n : Nat) (lam : Rat) (lw cw : List Nat) (ld cd : List Rat)
    (y : Array (Option Rat)) (hy : y.size = n) (hld : ld.length = lw.length) (hcd : cd.length = cw.length)
    (hl : ∀ a, a < lw.length → lw.getD a 0 < n) (hc : ∀ a, a < cw.length → cw.getD a 0 < n)
    (f : Filtered) (h : filterData id id n lam lw cw ld cd y = some f) :
    ∃ μ : Fin lw.length ⊕ Fin cw.length → ℚ,
      hpF (obsOf n y) lam (posF n lw hl) (posF n cw hc) *ᵥ Sum.elim (fun t : Fin n => f.trend.getD t.val 0) μ
        = Sum.elim (hpRhs (obsOf n y) (fun t => (y.getD t.val none).getD 0))
            (Sum.elim (fun a => ld.getD a.val 0) (fun a => cd.getD a.val 0)) := by
  obtain ⟨x, hsol, ht, _⟩ := filterData_spec h
  have hxr : x.rows = n + lw.length + cw.length :=
    (solveChecked_dims hsol).1.trans (sysMatrix_rows n lam lw cw y)
  have hsys := QMat.solveChecked_mulVec (blockEquiv n lw.length cw.length) _ _ x (sysMatrix_rows n lam lw cw y)
    Nat.one_pos hsol
  rw [sysMatrix_view n lam lw cw y hl hc] at hsys
  refine ⟨fun q => x.get (emb n lw.length (Sum.inr q)) 0, ?_⟩
  convert hsys using 1
  · -- the unknown: the returned trend is the head of `x`
    congr 1
    funext r
    rcases r with t | q
    · have htn := t.isLt
      rw [blockEquiv_val, Sum.elim_inl, ht, emb, Array.map_map, QMat.getD_map_range, if_pos htn, Function.comp_apply,
        id_eq, QMat.toVec_getD, if_pos (by omega)]
    · rw [blockEquiv_val, Sum.elim_inr]
  · -- the right-hand side, block by block
    funext r
    rw [blockEquiv_val, QMat.get_col_zero]
    rcases r with t | a | a
    · rw [emb, Sum.elim_inl, rhs_get_data id y ld cd t.val (by have := t.isLt; omega)]
      unfold hpRhs obsOf
      dsimp only
      rcases y.getD t.val none with _ | v <;> rfl
    · rw [emb, Sum.elim_inr, Sum.elim_inl, ← hy, rhs_get_level id y ld cd a.val (by rw [hld]; exact a.isLt), id_eq]
    · rw [emb, Sum.elim_inr, Sum.elim_inr, ← hy, ← hld, rhs_get_change id y ld cd a.val (by rw [hcd]; exact a.isLt), id_eq]

/-- **End-to-end on the model** (`λ > 0`, two observations): the trend returned by the executable model meets every
constraint exactly and is the unique minimiser of the Hodrick-Prescott objective among the sequences that meet them. -/
theorem model_trend_is_the_minimiser (n : Nat) (lam : Rat) (hlam : 0 < lam) (lw cw : List Nat) (ld cd : List Rat)
    (y : Array (Option Rat)) (hy : y.size = n) (hld : ld.length = lw.length) (hcd : cd.length = cw.length)
    (hl : ∀ a, a < lw.length → lw.getD a 0 < n) (hc : ∀ a, a < cw.length → cw.getD a 0 < n)
    (hc0 : ∀ a, a < cw.length → 0 < cw.getD a 0)
    (f : Filtered) (h : filterData id id n lam lw cw ld cd y = some f) :
    let τ : Fin n → ℚ := fun t => f.trend.getD t.val 0
    let obs := obsOf n y
    let yv : Fin n → ℚ := fun t => (y.getD t.val none).getD 0
    let feasible : (Fin n → ℚ) → Prop := fun σ =>
      (∀ a : Fin lw.length, σ (posF n lw hl a) = ld.getD a.val 0) ∧
      (∀ a : Fin cw.length, σ (posF n cw hc a) - σ (pred (posF n cw hc a)) = cd.getD a.val 0)
    feasible τ ∧ (∀ σ, feasible σ → hpObj obs yv lam τ ≤ hpObj obs yv lam σ) ∧
      (∀ s t : Fin n, s ≠ t → obs s = true → obs t = true →
        ∀ σ, feasible σ → hpObj obs yv lam σ ≤ hpObj obs yv lam τ → σ = τ) := by
  intro τ obs yv feasible
  obtain ⟨μ, hsys⟩ := model_answer_solves_system n lam lw cw ld cd y hy hld hcd hl hc f h
  have hcw : ∀ i : Fin cw.length, 0 < (posF n cw hc i).val := fun i => hc0 i.val i.isLt
  refine ⟨hp_constraints_met obs yv lam _ _ hcw _ _ τ μ hsys, ?_, ?_⟩
  · intro σ hσ
    exact hp_optimal obs yv lam hlam.le _ _ hcw _ _ τ μ hsys σ hσ.1 hσ.2
  · intro s t hst hs ht σ hσ hle
    exact hp_unique obs yv lam hlam s t hst hs ht _ _ hcw _ _ τ μ hsys σ hσ.1 hσ.2 hle

/-- **Existence on the model's own matrix.**  For `λ > 0`, two observed positions and independent constraints (distinct
level positions, distinct change positions `≥ 1`, no level–changes–level cycle) the matrix the executable model builds
(`sysMatrix`, indexed through `emb`) is non-singular over `ℚ`: an exact rational solution of the model's system exists and
is unique.  That `QMat.solve` (Gauss–Jordan with the first non-zero pivot) finds it is the completeness of `solve`
(`Lemmas/QMatSolve.lean`); the two are composed in `Props/C14Compose.lean`. -/
theorem model_sysMatrix_nonsingular (n : Nat) (lam : Rat) (hlam : 0 < lam) (lw cw : List Nat) (y : Array (Option Rat))
    (hl : ∀ a, a < lw.length → lw.getD a 0 < n) (hc : ∀ a, a < cw.length → cw.getD a 0 < n)
    (hc0 : ∀ a, a < cw.length → 0 < cw.getD a 0)
    (s t : Fin n) (hst : s ≠ t) (hs : obsOf n y s = true) (ht : obsOf n y t = true)
    (hlinj : Function.Injective (posF n lw hl)) (hcinj : Function.Injective (posF n cw hc))
    (hnc : ∀ i i', (posF n lw hl i).val < (posF n lw hl i').val →
      ∃ j, (posF n lw hl i).val < j ∧ j ≤ (posF n lw hl i').val ∧ ∀ k, (posF n cw hc k).val ≠ j) :
    IsUnit (Matrix.of (fun r c : Fin n ⊕ (Fin lw.length ⊕ Fin cw.length) =>
      (sysMatrix n lam lw cw y).get (emb n lw.length r) (emb n lw.length c))).det := by
  have e : Matrix.of (fun r c : Fin n ⊕ (Fin lw.length ⊕ Fin cw.length) =>
      (sysMatrix n lam lw cw y).get (emb n lw.length r) (emb n lw.length c))
        = hpF (K := ℚ) (obsOf n y) lam (posF n lw hl) (posF n cw hc) :=
    Matrix.ext (model_sysMatrix_eq_hpF n lam lw cw y hl hc)
  rw [e]
  exact hp_bordered_nonsingular (obsOf n y) lam hlam s t hst hs ht _ _
    (hp_independent_constraints _ _ hlinj hcinj (fun k => hc0 k.val k.isLt) hnc)

/-- non-vacuity of Part B: the model solves a concrete instance with a missing observation, a level constraint (`7` at
period 3) and a change constraint (`2` at period 1), by evaluation; the trend shown meets both -/
theorem filterData_example : (filterData id id 4 1 [3] [1] [7] [2] #[some 0, some 1, none, some 9]).map (·.trend)
    = some #[(-4 : Rat) / 11, 18 / 11, 46 / 11, 7] := by decide +kernel

example : (filterData id id 4 1 [3] [1] [7] [2] #[some 0, some 1, none, some 9]).map (·.trend)
    = some #[(-4 : Rat) / 11, 18 / 11, 46 / 11, 7] := filterData_example

end Model

/-! ## Part C — the l1 trend filter (`lonf`) -/

section L1

variable {m q : Type} [Fintype m] [Fintype q]

/-- `½‖y − τ‖² + λ‖Dτ‖₁` -/
def l1Obj (D : Matrix q m K) (lam : K) (y τ : m → K) : K :=
  (1 / 2) * ((y - τ) ⬝ᵥ (y - τ)) + lam * ∑ i, |(D *ᵥ τ) i|

/-- duality gap of a dual point `ν` (with `τ = y − Dᵀν`): `Σ_i (λ |(Dτ)_i| − ν_i (Dτ)_i)` -/
def l1Gap (D : Matrix q m K) (lam : K) (τ : m → K) (ν : q → K) : K :=
  ∑ i, (lam * |(D *ᵥ τ) i| - ν i * (D *ᵥ τ) i)

/-- `½ Σ wᵢ (yᵢ − τᵢ)² + λ‖Dτ‖₁` -/
def l1ObjW (D : Matrix q m K) (lam : K) (w y τ : m → K) : K :=
  (1 / 2) * (∑ t, w t * (y t - τ t) ^ 2) + lam * ∑ i, |(D *ᵥ τ) i|

omit [LinearOrder K] [IsStrictOrderedRing K] in
theorem dot_sub_self (a b : m → K) : (a - b) ⬝ᵥ (a - b) = ∑ t, (a t - b t) ^ 2 :=
  Finset.sum_congr rfl (fun t _ => by rw [Pi.sub_apply]; ring)

/-- **Duality-gap bound with missing observations**: if `|ν_i| ≤ λ` and `w_t (y_t − τ_t) = (Dᵀν)_t` for every `t`
(so `Dᵀν` is the gap at the observed periods and vanishes at the missing ones), every `τ'` satisfies
`l1ObjW τ' ≥ l1ObjW τ + ½ Σ w (τ' − τ)² − l1Gap`. -/
theorem l1w_gap_bound (D : Matrix q m K) (lam : K) (w y : m → K) (ν : q → K) (hbox : ∀ i, |ν i| ≤ lam)
    (τ : m → K) (hτ : ∀ t, w t * (y t - τ t) = (Dᵀ *ᵥ ν) t) (τ' : m → K) :
    l1ObjW D lam w y τ + (1 / 2) * (∑ t, w t * (τ' t - τ t) ^ 2) - l1Gap D lam τ ν ≤ l1ObjW D lam w y τ' := by
  have hold : ν ⬝ᵥ (D *ᵥ τ') ≤ lam * ∑ i, |(D *ᵥ τ') i| := by
    rw [Finset.mul_sum]
    exact Finset.sum_le_sum fun i _ => (le_abs_self _).trans
      ((abs_mul _ _).trans_le (mul_le_mul_of_nonneg_right (hbox i) (abs_nonneg _)))
  have hadj : (Dᵀ *ᵥ ν) ⬝ᵥ (τ' - τ) = ν ⬝ᵥ (D *ᵥ τ') - ν ⬝ᵥ (D *ᵥ τ) := by
    rw [Matrix.mulVec_transpose, ← Matrix.dotProduct_mulVec, Matrix.mulVec_sub, dotProduct_sub]
  have hsq : ∑ t, w t * (y t - τ' t) ^ 2
      = ∑ t, w t * (y t - τ t) ^ 2 - 2 * ((Dᵀ *ᵥ ν) ⬝ᵥ (τ' - τ)) + ∑ t, w t * (τ' t - τ t) ^ 2 := by
    rw [dotProduct, Finset.mul_sum, ← Finset.sum_sub_distrib, ← Finset.sum_add_distrib]
    exact Finset.sum_congr rfl fun t _ => by rw [← hτ t, Pi.sub_apply]; ring
  have hgap : l1Gap D lam τ ν = lam * ∑ i, |(D *ᵥ τ) i| - ν ⬝ᵥ (D *ᵥ τ) := by
    rw [l1Gap, Finset.sum_sub_distrib, Finset.mul_sum, dotProduct]
  rw [l1ObjW, l1ObjW, hgap, hsq, hadj]
  linear_combination hold

omit [LinearOrder K] [IsStrictOrderedRing K] [Fintype m] in
/-- all observations present: `τ = y − Dᵀν` is the stationarity condition with weights `1` -/
theorem l1w_one (D : Matrix q m K) (y : m → K) (ν : q → K) (τ : m → K) (hτ : τ = y - Dᵀ *ᵥ ν) (t : m) :
    (fun _ => (1 : K)) t * (y t - τ t) = (Dᵀ *ᵥ ν) t := by
  rw [hτ, one_mul, Pi.sub_apply, sub_sub_cancel]

omit [IsStrictOrderedRing K] in
theorem l1ObjW_one (D : Matrix q m K) (lam : K) (y τ : m → K) : l1ObjW D lam (fun _ => 1) y τ = l1Obj D lam y τ := by
  simp only [l1ObjW, l1Obj, one_mul, dot_sub_self]

/-- **Duality-gap bound** (what the certificate evaluates): for *any* `ν` in the box `|ν_i| ≤ λ`, the primal point
`τ = y − Dᵀν` is within `l1Gap` of the optimum; more precisely every `τ'` satisfies
`l1Obj τ' ≥ l1Obj τ + ½‖τ' − τ‖² − l1Gap`. -/
theorem l1_gap_bound (D : Matrix q m K) (lam : K) (y : m → K) (ν : q → K) (hbox : ∀ i, |ν i| ≤ lam)
    (τ : m → K) (hτ : τ = y - Dᵀ *ᵥ ν) (τ' : m → K) :
    l1Obj D lam y τ + (1 / 2) * ((τ' - τ) ⬝ᵥ (τ' - τ)) - l1Gap D lam τ ν ≤ l1Obj D lam y τ' := by
  have := l1w_gap_bound D lam (fun _ => 1) y ν hbox τ (l1w_one D y ν τ hτ) τ'
  simpa only [l1ObjW_one, one_mul, dot_sub_self] using this

/-- complementarity in the form the property states it: `ν_i = λ` where `(Dτ)_i > 0`, `ν_i = −λ` where
`(Dτ)_i < 0` — then the duality gap vanishes -/
theorem l1_gap_zero_of_kkt (D : Matrix q m K) (lam : K) (τ : m → K) (ν : q → K)
    (hpos : ∀ i, 0 < (D *ᵥ τ) i → ν i = lam) (hneg : ∀ i, (D *ᵥ τ) i < 0 → ν i = -lam) :
    l1Gap D lam τ ν = 0 := by
  unfold l1Gap
  refine Finset.sum_eq_zero (fun i _ => ?_)
  rcases lt_trichotomy ((D *ᵥ τ) i) 0 with h | h | h
  · rw [hneg i h, abs_of_neg h]; ring
  · rw [h]; simp
  · rw [hpos i h, abs_of_pos h]; ring

/-- **KKT ⇒ optimal, with missing observations** (weights `w`): the conditions `|ν| ≤ λ`, `w(y − τ) = Dᵀν`, `ν_i = ±λ` where
`(Dτ)_i ≷ 0` imply that every other point is worse than `τ` by at least the margin `½ Σ w (τ' − τ)²`. -/
theorem l1w_kkt_optimal (D : Matrix q m K) (lam : K) (w y : m → K) (ν : q → K)
    (hbox : ∀ i, |ν i| ≤ lam) (τ : m → K) (hτ : ∀ t, w t * (y t - τ t) = (Dᵀ *ᵥ ν) t)
    (hpos : ∀ i, 0 < (D *ᵥ τ) i → ν i = lam) (hneg : ∀ i, (D *ᵥ τ) i < 0 → ν i = -lam) (τ' : m → K) :
    l1ObjW D lam w y τ + (1 / 2) * (∑ t, w t * (τ' t - τ t) ^ 2) ≤ l1ObjW D lam w y τ' := by
  have := l1w_gap_bound D lam w y ν hbox τ hτ τ'
  rwa [l1_gap_zero_of_kkt D lam τ ν hpos hneg, sub_zero] at this

/-- … so for weights `w ≥ 0` a point that is not worse agrees with `τ` at every period that carries weight -/
theorem l1w_kkt_unique (D : Matrix q m K) (lam : K) (w y : m → K) (hw : ∀ t, 0 ≤ w t) (ν : q → K)
    (hbox : ∀ i, |ν i| ≤ lam) (τ : m → K) (hτ : ∀ t, w t * (y t - τ t) = (Dᵀ *ᵥ ν) t)
    (hpos : ∀ i, 0 < (D *ᵥ τ) i → ν i = lam) (hneg : ∀ i, (D *ᵥ τ) i < 0 → ν i = -lam) (τ' : m → K)
    (hle : l1ObjW D lam w y τ' ≤ l1ObjW D lam w y τ) (t : m) : w t * (τ' t - τ t) ^ 2 = 0 := by
  have hnn : ∀ t ∈ Finset.univ, 0 ≤ w t * (τ' t - τ t) ^ 2 := fun t _ => mul_nonneg (hw t) (sq_nonneg _)
  have h0 : (1 / 2 : K) * ∑ t, w t * (τ' t - τ t) ^ 2 ≤ 0 :=
    (add_le_iff_nonpos_right _).1 ((l1w_kkt_optimal D lam w y ν hbox τ hτ hpos hneg τ').trans hle)
  exact (Finset.sum_eq_zero_iff_of_nonneg hnn).1
    (le_antisymm (nonpos_of_mul_nonpos_right h0 one_half_pos) (Finset.sum_nonneg hnn)) t (Finset.mem_univ t)

/-- **KKT ⇒ optimal, with missing observations** (weights `w ≥ 0`): the conditions `|ν| ≤ λ`, `w(y − τ) = Dᵀν`,
`ν_i = ±λ` where `(Dτ)_i ≷ 0` imply that `τ` minimises `½ Σ_obs (y − τ)² + λ‖Dτ‖₁`.  (The minimiser need not be
unique at the missing periods; the margin `½ Σ w (τ' − τ)²` pins it at the observed ones.) -/
theorem l1w_kkt_min (D : Matrix q m K) (lam : K) (w y : m → K) (hw : ∀ t, 0 ≤ w t) (ν : q → K)
    (hbox : ∀ i, |ν i| ≤ lam) (τ : m → K) (hτ : ∀ t, w t * (y t - τ t) = (Dᵀ *ᵥ ν) t)
    (hpos : ∀ i, 0 < (D *ᵥ τ) i → ν i = lam) (hneg : ∀ i, (D *ᵥ τ) i < 0 → ν i = -lam) (τ' : m → K) :
    l1ObjW D lam w y τ ≤ l1ObjW D lam w y τ' :=
  (le_add_of_nonneg_right (mul_nonneg one_half_pos.le
    (Finset.sum_nonneg fun t _ => mul_nonneg (hw t) (sq_nonneg _)))).trans
    (l1w_kkt_optimal D lam w y ν hbox τ hτ hpos hneg τ')

/-- **KKT ⇒ optimal** for the l1 trend filter of any order (any `D`): if `τ = y − Dᵀν`, `|ν_i| ≤ λ` and
`ν_i = ±λ` where `(Dτ)_i ≷ 0`, then `τ` minimises `½‖y − τ‖² + λ‖Dτ‖₁`, and every other point is worse by at
least `½‖τ' − τ‖²` (so the minimiser is unique). -/
theorem l1_kkt_optimal (D : Matrix q m K) (lam : K) (y : m → K) (ν : q → K) (hbox : ∀ i, |ν i| ≤ lam)
    (τ : m → K) (hτ : τ = y - Dᵀ *ᵥ ν)
    (hpos : ∀ i, 0 < (D *ᵥ τ) i → ν i = lam) (hneg : ∀ i, (D *ᵥ τ) i < 0 → ν i = -lam) (τ' : m → K) :
    l1Obj D lam y τ + (1 / 2) * ((τ' - τ) ⬝ᵥ (τ' - τ)) ≤ l1Obj D lam y τ' := by
  simpa only [l1ObjW_one, one_mul, dot_sub_self] using
    l1w_kkt_optimal D lam (fun _ => 1) y ν hbox τ (l1w_one D y ν τ hτ) hpos hneg τ'

theorem l1_kkt_min (D : Matrix q m K) (lam : K) (y : m → K) (ν : q → K) (hbox : ∀ i, |ν i| ≤ lam)
    (τ : m → K) (hτ : τ = y - Dᵀ *ᵥ ν)
    (hpos : ∀ i, 0 < (D *ᵥ τ) i → ν i = lam) (hneg : ∀ i, (D *ᵥ τ) i < 0 → ν i = -lam) (τ' : m → K) :
    l1Obj D lam y τ ≤ l1Obj D lam y τ' := by
  simpa only [l1ObjW_one] using
    l1w_kkt_min D lam (fun _ => 1) y (fun _ => zero_le_one) ν hbox τ (l1w_one D y ν τ hτ) hpos hneg τ'

theorem l1_kkt_unique (D : Matrix q m K) (lam : K) (y : m → K) (ν : q → K) (hbox : ∀ i, |ν i| ≤ lam)
    (τ : m → K) (hτ : τ = y - Dᵀ *ᵥ ν)
    (hpos : ∀ i, 0 < (D *ᵥ τ) i → ν i = lam) (hneg : ∀ i, (D *ᵥ τ) i < 0 → ν i = -lam) (τ' : m → K)
    (hle : l1Obj D lam y τ' ≤ l1Obj D lam y τ) : τ' = τ := by
  funext t
  have := l1w_kkt_unique D lam (fun _ => 1) y (fun _ => zero_le_one) ν hbox τ (l1w_one D y ν τ hτ) hpos hneg τ'
    (by rwa [l1ObjW_one, l1ObjW_one]) t
  exact sub_eq_zero.1 (pow_eq_zero_iff two_ne_zero |>.1 (by rwa [one_mul] at this))

/-- data with `D y = 0` (affine for order 2, constant for order 1) are returned unchanged: `ν = 0` is a certificate -/
theorem l1_kernel_fixed (D : Matrix q m K) (lam : K) (hlam : 0 ≤ lam) (y : m → K) (hy : D *ᵥ y = 0) (τ' : m → K) :
    l1Obj D lam y y ≤ l1Obj D lam y τ' := by
  refine l1_kkt_min D lam y 0 (fun i => by simpa using hlam) y (by simp) ?_ ?_ τ'
  · intro i h; rw [hy] at h; exact absurd h (lt_irrefl _)
  · intro i h; rw [hy] at h; exact absurd h (lt_irrefl _)

/-! ### lonf's own difference matrices -/

section LonfModel
open IrisVerif.HP IrisVerif.HPModel

/-- **lonf's matrices, entry formulas by proof**: the model's (= the code's, `dmat` stream) first-order matrix … -/
theorem model_lonfD1_get (n i j : Nat) (hi : i < n - 1) (hj : j < n) :
    (lonfD 1 n).get i j = (Dmat1 n : Matrix _ _ ℚ) ⟨i, hi⟩ ⟨j, hj⟩ := by
  rw [lonfD, if_pos rfl, QMat.get_ofFn_of_lt _ _ _ _ _ hi hj]
  rfl

/-- … and second-order matrix (the Hodrick-Prescott `K`). -/
theorem model_lonfD2_get (n i j : Nat) (hi : i < n - 2) (hj : j < n) :
    (lonfD 2 n).get i j = (Kmat n : Matrix _ _ ℚ) ⟨i, hi⟩ ⟨j, hj⟩ := by
  rw [lonfD, if_neg (by decide)]
  exact hpK_get n i j hi hj

/-- the l1 objective of order 1 in sum form: `½ Σ (y−τ)² + λ Σ |τ_i − τ_{i+1}|` -/
def lonfObj1 {n : Nat} (lam : K) (y τ : Fin n → K) : K :=
  (1 / 2) * (∑ t, (y t - τ t) ^ 2) + lam * ∑ i : Fin (n - 1), |τ (q0 i) - τ (q1 i)|

/-- the l1 objective of order 2 in sum form: `½ Σ (y−τ)² + λ Σ |τ_i − 2τ_{i+1} + τ_{i+2}|` -/
def lonfObj2 {n : Nat} (lam : K) (y τ : Fin n → K) : K :=
  (1 / 2) * (∑ t, (y t - τ t) ^ 2) + lam * ∑ i : Fin (n - 2), |τ (p0 i) - 2 * τ (p1 i) + τ (p2 i)|

omit [IsStrictOrderedRing K] in
theorem lonfObj1_eq {n : Nat} (lam : K) (y τ : Fin n → K) : lonfObj1 lam y τ = l1Obj (Dmat1 n) lam y τ := by
  simp only [lonfObj1, l1Obj, dot_sub_self, Dmat1_mulVec]

omit [IsStrictOrderedRing K] in
theorem lonfObj2_eq {n : Nat} (lam : K) (y τ : Fin n → K) : lonfObj2 lam y τ = l1Obj (Kmat n) lam y τ := by
  simp only [lonfObj2, l1Obj, dot_sub_self, Kmat_mulVec]

/-- **`l1_kkt_optimal` on lonf's own first-order matrix**, objective in sum form -/
theorem lonf_order1_kkt_optimal {n : Nat} (lam : K) (y : Fin n → K) (ν : Fin (n - 1) → K) (hbox : ∀ i, |ν i| ≤ lam)
    (τ : Fin n → K) (hτ : τ = y - (Dmat1 n)ᵀ *ᵥ ν)
    (hpos : ∀ i, 0 < τ (q0 i) - τ (q1 i) → ν i = lam) (hneg : ∀ i, τ (q0 i) - τ (q1 i) < 0 → ν i = -lam)
    (τ' : Fin n → K) :
    lonfObj1 lam y τ + (1 / 2) * (∑ t, (τ' t - τ t) ^ 2) ≤ lonfObj1 lam y τ' := by
  simp only [← Dmat1_mulVec] at hpos hneg
  simpa only [lonfObj1_eq, dot_sub_self] using l1_kkt_optimal (Dmat1 n) lam y ν hbox τ hτ hpos hneg τ'

/-- **`l1_kkt_optimal` on lonf's own second-order matrix**, objective in sum form -/
theorem lonf_order2_kkt_optimal {n : Nat} (lam : K) (y : Fin n → K) (ν : Fin (n - 2) → K) (hbox : ∀ i, |ν i| ≤ lam)
    (τ : Fin n → K) (hτ : τ = y - (Kmat n)ᵀ *ᵥ ν)
    (hpos : ∀ i, 0 < τ (p0 i) - 2 * τ (p1 i) + τ (p2 i) → ν i = lam)
    (hneg : ∀ i, τ (p0 i) - 2 * τ (p1 i) + τ (p2 i) < 0 → ν i = -lam)
    (τ' : Fin n → K) :
    lonfObj2 lam y τ + (1 / 2) * (∑ t, (τ' t - τ t) ^ 2) ≤ lonfObj2 lam y τ' := by
  simp only [← Kmat_mulVec] at hpos hneg
  simpa only [lonfObj2_eq, dot_sub_self] using l1_kkt_optimal (Kmat n) lam y ν hbox τ hτ hpos hneg τ'
end LonfModel

/-- non-vacuity of the hypotheses of `l1w_gap_bound` / `l1w_kkt_min`: order 1, `y = (0, –, 4)` with the middle observation
missing, `λ = 1`: `ν = (−1, −1)`, `τ = (1, 2, 3)` -/
example :
    let D : Matrix (Fin 2) (Fin 3) ℚ := Matrix.of ![![1, -1, 0], ![0, 1, -1]]
    let w : Fin 3 → ℚ := ![1, 0, 1]
    let y : Fin 3 → ℚ := ![0, 100, 4]
    let ν : Fin 2 → ℚ := ![-1, -1]
    let τ : Fin 3 → ℚ := ![1, 2, 3]
    (∀ t, 0 ≤ w t) ∧ (∀ i, |ν i| ≤ 1) ∧ (∀ t, w t * (y t - τ t) = (Dᵀ *ᵥ ν) t) ∧
      (∀ i, 0 < (D *ᵥ τ) i → ν i = 1) ∧ (∀ i, (D *ᵥ τ) i < 0 → ν i = -1) := by
  decide +kernel

/-- non-vacuity of `lonf_order1_kkt_optimal` on lonf's own matrix: `n = 2`, `y = (0, 4)`, `λ = 1`, `ν = −1`, `τ = (1, 3)` -/
example :
    let y : Fin 2 → ℚ := ![0, 4]
    let ν : Fin (2 - 1) → ℚ := fun _ => -1
    let τ : Fin 2 → ℚ := ![1, 3]
    (∀ i, |ν i| ≤ 1) ∧ τ = y - (Dmat1 2)ᵀ *ᵥ ν ∧ (∀ i, 0 < τ (q0 i) - τ (q1 i) → ν i = 1) ∧
      (∀ i, τ (q0 i) - τ (q1 i) < 0 → ν i = -1) := by
  decide +kernel

/-- non-vacuity of the KKT hypotheses: order-1 filter of `y = (0, 4)` with `λ = 1`: `ν = 1·sign`, `τ = (1, 3)` -/
example :
    let D : Matrix (Fin 1) (Fin 2) ℚ := Matrix.of ![![1, -1]]
    let y : Fin 2 → ℚ := ![0, 4]
    let ν : Fin 1 → ℚ := ![-1]
    let τ : Fin 2 → ℚ := ![1, 3]
    (∀ i, |ν i| ≤ 1) ∧ τ = y - Dᵀ *ᵥ ν ∧ (∀ i, 0 < (D *ᵥ τ) i → ν i = 1) ∧ (∀ i, (D *ᵥ τ) i < 0 → ν i = -1) := by
  decide +kernel

end L1

end IrisVerif.C14
