/-
C14, second layer (`Model/HPSpan.lean`): the forms of the `span` argument of `_data_hpf`, the filter span as the hull
of data ∪ constraints ∪ requested periods, the output as the restriction to `[min span, max span]`, and the state of
the filter object across the variant loop.
-/
import IrisVerif.Model.HPSpan
import IrisVerif.Lemmas.PyRange
import IrisVerif.Props.C14
import IrisVerif.Lemmas.Monads

namespace IrisVerif.C14Span

open IrisVerif IrisVerif.HP IrisVerif.HPModel IrisVerif.Dates

/-! ## minimum and maximum of the requested periods -/

theorem hullOf_eq_some_iff (l : List Int) (a b : Int) :
    hullOf l = some (a, b) ↔ a ∈ l ∧ b ∈ l ∧ ∀ x ∈ l, a ≤ x ∧ x ≤ b := by
  cases l with
  | nil => simp [hullOf]
  | cons c l =>
    -- each end is a fold of `min` (`max`): a member that bounds every member
    rw [hullOf, Option.some.injEq, Prod.mk.injEq, foldl_min_iff, foldl_max_iff, and_and_and_comm, and_assoc,
      forall₂_and]

/-- **`hullOf` is (min, max)**: both ends are requested periods and every requested period lies between them. -/
theorem hullOf_spec (l : List Int) (a b : Int) (h : hullOf l = some (a, b)) :
    a ∈ l ∧ b ∈ l ∧ ∀ x ∈ l, a ≤ x ∧ x ≤ b :=
  (hullOf_eq_some_iff l a b).1 h

theorem hullOf_isSome (l : List Int) (h : l ≠ []) : ∃ a b, hullOf l = some (a, b) := by
  cases l with
  | nil => exact absurd rfl h
  | cons c l => exact ⟨_, _, rfl⟩

/-- **order, repetition and direction of the requested periods are irrelevant**: two requests with the same set of
periods (a shuffled list, a reversed span, a tuple with repetitions) have the same hull -/
theorem hullOf_congr (l l' : List Int) (h : ∀ x, x ∈ l ↔ x ∈ l') : hullOf l = hullOf l' :=
  Option.ext fun ⟨a, b⟩ => by simp only [hullOf_eq_some_iff, h]

theorem hull_periods_perm (dlo dhi : Int) (l l' : List Int) (h : l.Perm l') :
    (SpanReq.periods l).hull dlo dhi = (SpanReq.periods l').hull dlo dhi :=
  hullOf_congr l l' fun _ => h.mem_iff

/-- **a backward span selects what the forward span selects**: `Span(a + m·step, a, -step)` and
`Span(a, a + m·step, step)` have the same hull (any non-zero step) -/
theorem hull_backward_eq_forward (dlo dhi a step : Int) (m : Nat) (hs : step ≠ 0) :
    (SpanReq.range (some (a + (m : Int) * step)) (some a) (-step)).hull dlo dhi
      = (SpanReq.range (some a) (some (a + (m : Int) * step)) step).hull dlo dhi := by
  unfold SpanReq.hull SpanReq.elems
  have hs' : -step ≠ 0 := by omega
  simp only [hs, hs', if_false, Option.getD_some, Option.bind_some]
  rw [pyRange_reverse a step m hs]
  exact hullOf_congr _ _ (fun x => List.mem_reverse)

theorem hullOf_pyRange_up (a b : Int) (hab : a ≤ b) : hullOf (pyRange a (b + 1) 1) = some (a, b) :=
  (hullOf_eq_some_iff _ a b).2 ⟨(mem_pyRange_up a b a).2 ⟨Int.le_refl a, hab⟩,
    (mem_pyRange_up a b b).2 ⟨hab, Int.le_refl b⟩, fun x hx => (mem_pyRange_up a b x).1 hx⟩

theorem hull_unit_range (dlo dhi a b : Int) (hab : a ≤ b) :
    (SpanReq.range (some a) (some b) 1).hull dlo dhi = some (a, b) := by
  show hullOf (pyRange a (b + 1) 1) = some (a, b)
  exact hullOf_pyRange_up a b hab

theorem hull_dots (dlo dhi : Int) (h : dlo ≤ dhi) : SpanReq.dots.hull dlo dhi = some (dlo, dhi) :=
  hullOf_pyRange_up dlo dhi h

/-- open ends are the data's own start / end -/
theorem hull_open_ends (dlo dhi : Int) (b : Int) (h : dlo ≤ b) :
    (SpanReq.range none (some b) 1).hull dlo dhi = some (dlo, b) := by
  show hullOf (pyRange dlo (b + 1) 1) = some (dlo, b)
  exact hullOf_pyRange_up dlo b h

/-! ## the filter span is the hull of data ∪ constraints ∪ requested periods -/

/-- **`get_encompassing_span`**: the lower end is below the data start, the requested minimum and the start of each
constraint series, and is one of them; the upper end likewise. -/
theorem encompassing_is_hull (dlo dhi : Int) (level change : Option Ser) (slo shi : Int) :
    let e := HP.encompassing dlo dhi level change slo shi
    (e.1 ≤ dlo ∧ e.1 ≤ slo ∧ (∀ s, level = some s → e.1 ≤ s.start) ∧ (∀ s, change = some s → e.1 ≤ s.start)) ∧
    (e.1 = dlo ∨ e.1 = slo ∨ (∃ s, level = some s ∧ e.1 = s.start) ∨ (∃ s, change = some s ∧ e.1 = s.start)) ∧
    (dhi ≤ e.2 ∧ shi ≤ e.2 ∧ (∀ s, level = some s → s.stop ≤ e.2) ∧ (∀ s, change = some s → s.stop ≤ e.2)) ∧
    (e.2 = dhi ∨ e.2 = shi ∨ (∃ s, level = some s ∧ e.2 = s.stop) ∨ (∃ s, change = some s ∧ e.2 = s.stop)) :=
  encompassing_spec dlo dhi level change slo shi

theorem setup_requested (r : Request) (a b : Int) :
    (setup { r with span := some (a, b) }).slo = a ∧ (setup { r with span := some (a, b) }).shi = b :=
  ⟨rfl, rfl⟩

/-- **the filter runs on the hull**: for any form of `span` whose periods have minimum `a` and maximum `b`, every
requested period `x` lies inside the filter span `[lo, hi]`, and so do the data. -/
theorem filter_span_contains_request (r : Request) (s : SpanReq) (a b : Int)
    (hh : s.hull r.dstart (r.dstart + r.dlen - 1) = some (a, b)) (l : List Int)
    (hl : s.elems r.dstart (r.dstart + r.dlen - 1) = some l) (x : Int) (hx : x ∈ l) :
    let st := setup { r with span := some (a, b) }
    st.lo ≤ x ∧ x ≤ st.hi ∧ st.lo ≤ r.dstart ∧ r.dstart + r.dlen - 1 ≤ st.hi := by
  rw [SpanReq.hull, hl, Option.bind_some] at hh
  obtain ⟨h1, h2⟩ := (hullOf_spec l a b hh).2.2 x hx
  obtain ⟨⟨g1, g2, _, _⟩, _, ⟨g3, g4, _, _⟩, _⟩ :=
    encompassing_spec r.dstart (r.dstart + r.dlen - 1) r.level r.change a b
  exact ⟨g2.trans h1, h2.trans g4, g1, g3⟩

/-! ## the output is the restriction to `[min span, max span]` -/

theorem filterData_sizes {lg ex : Rat → Rat} {n : Nat} {lam : Rat} {lw cw : List Nat} {ld cd : List Rat}
    {y : Array (Option Rat)} {f : Filtered} (h : filterData lg ex n lam lw cw ld cd y = some f) :
    f.trend.size = n ∧ f.gap.size = n := by
  obtain ⟨x, _, ht, hg⟩ := filterData_spec h
  rw [ht, hg]; simp

/-- **the requested span only clips**: for any form of `span` with hull `(a, b)`, a successful run returns, dated from
`a`, for every variant the slice `[a − lo : b − lo + 1]` of the trend and gap computed on the filter span (request with the
span widened to `[lo, hi]`), and this slice has exactly `b − a + 1` periods: one value for every period from the
smallest to the largest requested one, whatever the order or step of the request. -/
theorem dataHpfReq_restriction (lg ex : Rat → Rat) (r : Request) (s : SpanReq) (a b : Int)
    (hh : s.hull r.dstart (r.dstart + r.dlen - 1) = some (a, b)) :
    let r' : Request := { r with span := some (a, b) }
    let st := setup r'
    dataHpfReq lg ex r s = some
      ((dataHpf lg ex { r' with span := some (st.lo, st.hi) }).map (fun R =>
        ⟨a, R.trend.map (fun v => v.extract (a - st.lo).toNat (b - st.lo + 1).toNat),
            R.gap.map (fun v => v.extract (a - st.lo).toNat (b - st.lo + 1).toNat)⟩)) := by
  intro r' st
  rw [dataHpfReq, hh, Option.map_some]
  exact congrArg some (C14.model_clip_of_unclipped lg ex r')

theorem size_clip {α : Type} {v : Array α} {lo hi a b : Int} (hv : v.size = (hi - lo + 1).toNat)
    (h1 : lo ≤ a) (h2 : a ≤ b) (h3 : b ≤ hi) :
    (v.extract (a - lo).toNat (b - lo + 1).toNat).size = (b - a + 1).toNat := by
  rw [Array.size_extract, hv, Nat.min_eq_left (Int.toNat_le_toNat (by omega)),
    show b - lo + 1 = (a - lo) + (b - a + 1) by omega, Int.toNat_add (by omega) (by omega), Nat.add_sub_cancel_left]

/-- a successful run is dated from the requested minimum and every returned array has one entry per period of
`[span.min, span.max]`, whichever form the request has (`span = none` included) -/
theorem dataHpf_sizes (lg ex : Rat → Rat) (r : Request) (res : Result) (h : dataHpf lg ex r = some res)
    (hab : (setup r).slo ≤ (setup r).shi) :
    res.start = (setup r).slo ∧ (∀ v ∈ res.trend, v.size = ((setup r).shi - (setup r).slo + 1).toNat) ∧
      (∀ v ∈ res.gap, v.size = ((setup r).shi - (setup r).slo + 1).toNat) := by
  rw [C14.model_span_only_clips] at h
  obtain ⟨fs, hm, rfl⟩ := Option.map_eq_some_iff.1 h
  obtain ⟨l1, l2⟩ := setup_shi_le r
  have hsz : ∀ f ∈ fs, f.trend.size = ((setup r).hi - (setup r).lo + 1).toNat ∧
      f.gap.size = ((setup r).hi - (setup r).lo + 1).toNat := by
    intro f hf
    obtain ⟨col, _, hc⟩ := mapM_some_mem hm hf
    exact (filterData_sizes hc).imp (·.trans (setup_n r)) (·.trans (setup_n r))
  refine ⟨rfl, fun v hv => ?_, fun v hv => ?_⟩
  · obtain ⟨f, hf, rfl⟩ := List.mem_map.1 hv
    exact size_clip (hsz f hf).1 l1 hab l2
  · obtain ⟨f, hf, rfl⟩ := List.mem_map.1 hv
    exact size_clip (hsz f hf).2 l1 hab l2

theorem dataHpf_trend_length (lg ex : Rat → Rat) (r : Request) (res : Result) (h : dataHpf lg ex r = some res) :
    res.trend.length = r.dcols.length := by
  rw [C14.model_span_only_clips] at h
  obtain ⟨fs, hm, rfl⟩ := Option.map_eq_some_iff.1 h
  exact (List.length_map _).trans (mapM_some_length hm)

theorem dataHpf_output_length (lg ex : Rat → Rat) (r : Request) (a b : Int) (hab : a ≤ b) (res : Result)
    (h : dataHpf lg ex { r with span := some (a, b) } = some res) :
    res.start = a ∧ (∀ v ∈ res.trend, v.size = (b - a + 1).toNat) ∧ (∀ v ∈ res.gap, v.size = (b - a + 1).toNat) :=
  dataHpf_sizes lg ex _ res h hab

/-! ## the filter object across the variant loop -/

/-- one call of `filter_data` leaves the object as it was (it works on a copy of `self._F`) -/
theorem step_state (lg ex : Rat → Rat) (ld cd : List Rat) (o : HPObject) (y : Array (Option Rat)) :
    (o.step lg ex ld cd y).1 = o := rfl

theorem step_output (lg ex : Rat → Rat) (n : Nat) (lam : Rat) (lw cw : List Nat) (ld cd : List Rat)
    (y : Array (Option Rat)) :
    ((HPObject.init n lam lw cw).step lg ex ld cd y).2 = filterData lg ex n lam lw cw ld cd y := rfl

/-- **history independence / variant locality**: after any number of variants the object is the one `__init__` built,
and the outputs are the stateless filter mapped over the variants — output `k` depends on variant `k` only, not on the
variants filtered before it. -/
theorem run_is_map (lg ex : Rat → Rat) (ld cd : List Rat) (o : HPObject) (ys : List (Array (Option Rat))) :
    (o.run lg ex ld cd ys).1 = o ∧ (o.run lg ex ld cd ys).2 = ys.map (fun y => (o.step lg ex ld cd y).2) := by
  induction ys with
  | nil => exact ⟨rfl, rfl⟩
  | cons y ys ih =>
    obtain ⟨h1, h2⟩ := ih
    simp only [HPObject.run, step_state, List.map_cons]
    exact ⟨h1, by rw [h2]⟩

theorem run_variant_local (lg ex : Rat → Rat) (n : Nat) (lam : Rat) (lw cw : List Nat) (ld cd : List Rat)
    (ys : List (Array (Option Rat))) (k : Nat) :
    ((HPObject.init n lam lw cw).run lg ex ld cd ys).2[k]? = (ys[k]?).map (filterData lg ex n lam lw cw ld cd) := by
  simp only [(run_is_map lg ex ld cd _ ys).2, List.getElem?_map, step_output]

example : (SpanReq.range (some 7) (some 2) (-2)).hull 0 9 = some (3, 7) := by decide +kernel
example : (SpanReq.periods [5, 2, 8, 2]).hull 0 9 = some (2, 8) := by decide +kernel
example : (SpanReq.periods []).hull 0 9 = none := by decide +kernel

end IrisVerif.C14Span
