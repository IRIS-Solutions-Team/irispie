/-
Bridge for property C07 (simulation plans): theorems about the executable `Plans.stackedSolve`, which builds the impact matrix `M`
by differencing the executable simulation, solves `M e = target − x⁰` with `QMat.solveChecked` and simulates with the solved
instruments.  Every `QVec` operation of the simulator preserves the relation `Aff` "x = x0 + Σ_k e_k (x_k − x0)", and
`applyInstruments` satisfies it by construction; hence `model_exogenized_affine`, and with the solver's exact re-check
`stackedSolve_hits_targets` and `stackedSolve_roundtrip`.  Hypotheses: `u0`, `v0` well-shaped (the driver builds them with
`QMat.ofFn`) and, for the round trip, `det M` a unit (the `QMatSolveBridge` block at the end derives it from `stackedSolve` answering).
-/
import IrisVerif.Lemmas.QMatRefines
import IrisVerif.Lemmas.QMatSolve
import IrisVerif.Props.C07

open Matrix

namespace IrisVerif.BridgeC07

open IrisVerif IrisVerif.QMat IrisVerif.Plans

/-- `vzero`, `vadd`, `vsub`, `colOf`, `unitVec` are all of the form `(Array.range n).map f` (entries: `getD_map_range`) -/
theorem size_map_range (n : Nat) (f : Nat → ℚ) : ((Array.range n).map f).size = n := by simp

theorem getD_of_le (x : QVec) (i : Nat) (h : x.size ≤ i) : x.getD i 0 = 0 := by
  rw [Array.getD_eq_getD_getElem?, Array.getElem?_eq_none h]; rfl

theorem vadd_size (a b : QVec) : (vadd a b).size = a.size := size_map_range _ _
theorem vadd_getD (a b : QVec) (i : Nat) :
    (vadd a b).getD i 0 = if i < a.size then a.getD i 0 + b.getD i 0 else 0 := getD_map_range _ _ _ _

theorem vsub_size (a b : QVec) : (vsub a b).size = a.size := size_map_range _ _
theorem vsub_getD (a b : QVec) (i : Nat) :
    (vsub a b).getD i 0 = if i < a.size then a.getD i 0 - b.getD i 0 else 0 := getD_map_range _ _ _ _

theorem vzero_size (n : Nat) : (vzero n).size = n := size_map_range _ _
theorem vzero_getD (n i : Nat) : (vzero n).getD i 0 = 0 := by
  rw [vzero, getD_map_range, ite_self]

theorem colOf_size (a : QMat) (j : Nat) : (colOf a j).size = a.rows := size_map_range _ _
theorem colOf_getD (a : QMat) (j i : Nat) : (colOf a j).getD i 0 = if i < a.rows then a.get i j else 0 :=
  getD_map_range _ _ _ _

theorem unitVec_getD (n k i : Nat) : (unitVec n k).getD i 0 = if i < n then (if i = k then 1 else 0) else 0 :=
  getD_map_range _ _ _ _

theorem antImpact_size (s : Sol) (v : QMat) (N t : Nat) : (antImpact s v N t).size = s.numXi :=
  List.foldlRecOn (motive := fun acc : QVec => acc.size = s.numXi) _ _ (vzero_size _) fun acc h k _ => by
    rw [vadd_size, h]

theorem mulVec_getD (a : QMat) (v : QVec) (i : Nat) :
    (a.mulVec v).getD i 0 = if i < a.rows then ∑ l ∈ Finset.range a.cols, a.get i l * v.getD l 0 else 0 := by
  unfold QMat.mulVec
  rw [toVec_getD, mul_rows]
  by_cases h : i < a.rows
  · simp only [h, if_true, get_mul, col_cols, Nat.lt_one_iff, and_self, get_col_zero]
  · simp only [h, if_false]

/-- `x = x0 + Σ_{k<ni} e k • (xs k − x0)` entrywise, all of the same size -/
structure Aff (ni : Nat) (e : Nat → ℚ) (x0 : QVec) (xs : Nat → QVec) (x : QVec) : Prop where
  size : x.size = x0.size
  sizes : ∀ k, k < ni → (xs k).size = x0.size
  get : ∀ i, x.getD i 0 = x0.getD i 0 + ∑ k ∈ Finset.range ni, e k * ((xs k).getD i 0 - x0.getD i 0)

/-- the same for matrices (rows equal, every read affine) -/
structure MAff (ni : Nat) (e : Nat → ℚ) (u0 : QMat) (us : Nat → QMat) (u : QMat) : Prop where
  rows : u.rows = u0.rows
  rowss : ∀ k, k < ni → (us k).rows = u0.rows
  get : ∀ i t, u.get i t = u0.get i t + ∑ k ∈ Finset.range ni, e k * ((us k).get i t - u0.get i t)

variable {ni : Nat} {e : Nat → ℚ}

theorem Aff.const (x : QVec) : Aff ni e x (fun _ => x) x :=
  ⟨rfl, fun _ _ => rfl, fun i => by simp⟩

/-- it is enough to have the affine identity at the indices inside the vectors: outside, every read is `0` -/
theorem Aff.of_lt {x0 x : QVec} {xs : Nat → QVec} (size : x.size = x0.size) (sizes : ∀ k, k < ni → (xs k).size = x0.size)
    (get : ∀ i, i < x0.size →
      x.getD i 0 = x0.getD i 0 + ∑ k ∈ Finset.range ni, e k * ((xs k).getD i 0 - x0.getD i 0)) :
    Aff ni e x0 xs x := by
  refine ⟨size, sizes, fun i => ?_⟩
  by_cases h : i < x0.size
  · exact get i h
  · have h' : x0.size ≤ i := Nat.le_of_not_lt h
    rw [getD_of_le x i (size ▸ h'), getD_of_le x0 i h', Finset.sum_eq_zero, add_zero]
    intro k hk
    rw [getD_of_le (xs k) i (by rw [sizes k (Finset.mem_range.1 hk)]; exact h'), sub_self, mul_zero]

theorem Aff.vadd {a0 b0 a b : QVec} {as bs : Nat → QVec} (ha : Aff ni e a0 as a) (hb : Aff ni e b0 bs b) :
    Aff ni e (vadd a0 b0) (fun k => vadd (as k) (bs k)) (vadd a b) := by
  refine Aff.of_lt (by rw [vadd_size, vadd_size, ha.size]) (fun k hk => by rw [vadd_size, vadd_size, ha.sizes k hk])
    fun i h => ?_
  rw [vadd_size] at h
  rw [vadd_getD, vadd_getD, ha.size, if_pos h, if_pos h, ha.get, hb.get, add_add_add_comm, ← Finset.sum_add_distrib]
  refine congrArg _ (Finset.sum_congr rfl fun k hk => ?_)
  rw [vadd_getD, ha.sizes k (Finset.mem_range.1 hk), if_pos h]
  ring

theorem Aff.mulVec {x0 x : QVec} {xs : Nat → QVec} (h : Aff ni e x0 xs x) (A : QMat) :
    Aff ni e (A.mulVec x0) (fun k => A.mulVec (xs k)) (A.mulVec x) := by
  refine Aff.of_lt (by rw [mulVec_size, mulVec_size]) (fun k _ => by rw [mulVec_size, mulVec_size]) fun i hi => ?_
  rw [mulVec_size] at hi
  simp only [mulVec_getD, hi, if_true, h.get, mul_add, Finset.sum_add_distrib, Finset.mul_sum, ← Finset.sum_sub_distrib]
  rw [Finset.sum_comm]
  exact congrArg _ (Finset.sum_congr rfl fun k _ => Finset.sum_congr rfl fun l _ => by ring)

theorem MAff.colOf {u0 u : QMat} {us : Nat → QMat} (h : MAff ni e u0 us u) (t : Nat) :
    Aff ni e (colOf u0 t) (fun k => colOf (us k) t) (colOf u t) := by
  refine Aff.of_lt (by rw [colOf_size, colOf_size, h.rows]) (fun k hk => by rw [colOf_size, colOf_size, h.rowss k hk])
    fun i hi => ?_
  rw [colOf_size] at hi
  rw [colOf_getD, colOf_getD, h.rows, if_pos hi, if_pos hi, h.get]
  refine congrArg _ (Finset.sum_congr rfl fun k hk => ?_)
  rw [colOf_getD, h.rowss k (Finset.mem_range.1 hk), if_pos hi]

/-- three folds in step: `f0` on the base run, `fs j` on the `j`-th perturbed run, `f` on the combined one -/
theorem Aff.foldl {β : Type} {f0 f : QVec → β → QVec} {fs : Nat → QVec → β → QVec}
    (hstep : ∀ b a0 a as, Aff ni e a0 as a → Aff ni e (f0 a0 b) (fun j => fs j (as j) b) (f a b))
    (l : List β) {a0 a : QVec} {as : Nat → QVec} (ha : Aff ni e a0 as a) :
    Aff ni e (l.foldl f0 a0) (fun j => l.foldl (fs j) (as j)) (l.foldl f a) := by
  induction l generalizing a0 a as with
  | nil => exact ha
  | cons b l ih => exact ih (hstep b _ _ _ ha)

theorem antImpact_aff {v0 v : QMat} {vs : Nat → QMat} (s : Sol) (h : MAff ni e v0 vs v) (N t : Nat) :
    Aff ni e (antImpact s v0 N t) (fun k => antImpact s (vs k) N t) (antImpact s v N t) := by
  refine Aff.foldl (fun k _ _ _ ha => ?_) _ (Aff.const _)
  exact ha.vadd ((h.colOf (t + k)).mulVec (s.R k))

theorem simStep_aff {u0 u v0 v : QMat} {us vs : Nat → QMat} {x0 x : QVec} {xs : Nat → QVec} (s : Sol)
    (hu : MAff ni e u0 us u) (hv : MAff ni e v0 vs v) (hx : Aff ni e x0 xs x) (N t : Nat) :
    Aff ni e (simStep s u0 v0 N t x0) (fun k => simStep s (us k) (vs k) N t (xs k)) (simStep s u v N t x) := by
  unfold simStep
  exact (((hx.mulVec s.T).vadd (Aff.const s.K)).vadd ((hu.colOf t).mulVec s.P)).vadd (antImpact_aff s hv N t)

/-- the state after `t` steps of `simulate_flat` -/
def stateAt (s : Sol) (init : QVec) (u v : QMat) (N : Nat) : Nat → QVec
  | 0 => init
  | t + 1 => simStep s u v N t (stateAt s init u v N t)

theorem stateAt_aff {u0 u v0 v : QMat} {us vs : Nat → QMat} (s : Sol) (init : QVec)
    (hu : MAff ni e u0 us u) (hv : MAff ni e v0 vs v) (N t : Nat) :
    Aff ni e (stateAt s init u0 v0 N t) (fun k => stateAt s init (us k) (vs k) N t) (stateAt s init u v N t) := by
  induction t with
  | zero => exact Aff.const init
  | succ t ih => exact simStep_aff s hu hv ih N t

theorem simulate_fold (s : Sol) (init : QVec) (u v : QMat) (N n : Nat) :
    ((List.range n).foldl (fun (acc : List QVec × QVec) t =>
        let xi := simStep s u v N t acc.2
        (xi :: acc.1, xi)) ([], init))
      = (((List.range n).map (fun t => stateAt s init u v N (t + 1))).reverse, stateAt s init u v N n) := by
  induction n with
  | zero => rfl
  | succ n ih =>
    rw [List.range_succ, List.foldl_append, ih, List.map_append, List.reverse_append]
    rfl

theorem simulate_eq (s : Sol) (init : QVec) (u v : QMat) (N : Nat) :
    simulate s init u v N = (List.range N).map (fun t => stateAt s init u v N (t + 1)) := by
  unfold simulate
  rw [simulate_fold, List.reverse_reverse]

theorem simulate_getD {s : Sol} {init : QVec} {u v : QMat} {N t : Nat} (ht : t < N) :
    (simulate s init u v N).getD t #[] = stateAt s init u v N (t + 1) := by
  rw [simulate_eq, List.getD_eq_getElem?_getD, List.getElem?_map, List.getElem?_range ht]
  rfl

/-- (period, position in `xi`) of the exogenized cells, in the order of `selectExo` -/
def exoSpots (c : CondInput) : List (Nat × Nat) :=
  (List.range c.N).flatMap fun t => (c.exoCellsAt t).map fun i => (t, c.currIdx.getD i 0)

theorem selectExo_eq (c : CondInput) (xi : List QVec) :
    selectExo c xi = ((exoSpots c).map fun p => (xi.getD p.1 #[]).getD p.2 0).toArray := by
  simp only [selectExo, exoSpots, List.map_flatMap, List.map_map, Function.comp_def]

theorem selectExo_size (c : CondInput) (xi : List QVec) : (selectExo c xi).size = (exoSpots c).length := by
  rw [selectExo_eq, List.size_toArray, List.length_map]

theorem exoSpots_lt (c : CondInput) {p : Nat × Nat} (hp : p ∈ exoSpots c) : p.1 < c.N := by
  simp only [exoSpots, List.mem_flatMap, List.mem_map, List.mem_range] at hp
  obtain ⟨t, ht, i, _, rfl⟩ := hp
  exact ht

theorem selectExo_getD (c : CondInput) (u v : QMat) (r : Nat) (h : r < (exoSpots c).length) :
    (selectExo c (simulate c.sol c.init u v c.N)).getD r 0 =
      (stateAt c.sol c.init u v c.N ((exoSpots c)[r].1 + 1)).getD (exoSpots c)[r].2 0 := by
  rw [selectExo_eq, Array.getD_eq_getD_getElem?, List.getElem?_toArray, List.getElem?_map, List.getElem?_eq_getElem h,
    Option.map_some, Option.getD_some, simulate_getD (exoSpots_lt c (List.getElem_mem h))]

theorem selectExo_aff {u0 u v0 v : QMat} {us vs : Nat → QMat} (c : CondInput)
    (hu : MAff ni e u0 us u) (hv : MAff ni e v0 vs v) :
    Aff ni e (selectExo c (simulate c.sol c.init u0 v0 c.N))
      (fun k => selectExo c (simulate c.sol c.init (us k) (vs k) c.N))
      (selectExo c (simulate c.sol c.init u v c.N)) := by
  refine Aff.of_lt (by rw [selectExo_size, selectExo_size]) (fun k _ => by rw [selectExo_size, selectExo_size])
    fun r h => ?_
  rw [selectExo_size] at h
  simp only [selectExo_getD c _ _ r h]
  exact (stateAt_aff c.sol c.init hu hv c.N _).get _

/-- `m` with entry `idx k` of `e` added at the `k`-th cell of `cells`: both components of `applyInstruments` are of this form -/
def addAt (m : QMat) (cells : List Cell) (idx : Nat → Nat) (e : QVec) : QMat :=
  QMat.ofFn m.rows m.cols fun i t =>
    m.get i t + (match cells.idxOf? (i, t) with | some k => e.getD (idx k) 0 | none => 0)

theorem applyInstruments_eq (c : CondInput) (e : QVec) :
    applyInstruments c e = (addAt c.u0 (cellsColMajor c.endoU c.N) id e,
      addAt c.v0 (cellsColMajor c.endoV c.N) ((cellsColMajor c.endoU c.N).length + ·) e) := rfl

theorem addAt_aff (m : QMat) (hw : m.wellShaped = true) (cells : List Cell) (idx : Nat → Nat) (n : Nat)
    (hidx : ∀ k, k < cells.length → idx k < n) (e : QVec) :
    MAff n (fun k => e.getD k 0) m (fun k => addAt m cells idx (unitVec n k)) (addAt m cells idx e) := by
  refine ⟨rfl, fun _ _ => rfl, fun i t => ?_⟩
  by_cases h : i < m.rows ∧ t < m.cols
  · simp only [addAt, get_ofFn, if_pos h, add_sub_cancel_left]
    refine congrArg _ ?_
    cases hc : cells.idxOf? (i, t) with
    | none => simp only [mul_zero, Finset.sum_const_zero]
    | some k' =>
      have hlt := hidx k' (List.idxOf?_eq_some_iff.1 hc).1
      simp only [unitVec_getD, if_pos hlt, mul_ite, mul_one, mul_zero, Finset.sum_ite_eq, Finset.mem_range]
  · simp only [addAt, get_ofFn, if_neg h, get_of_out m hw i t (by omega), sub_self, mul_zero, Finset.sum_const_zero,
      add_zero]

theorem addAt_congr (m : QMat) (cells : List Cell) (idx : Nat → Nat) (e e' : QVec)
    (h : ∀ k, k < cells.length → e.getD (idx k) 0 = e'.getD (idx k) 0) : addAt m cells idx e = addAt m cells idx e' := by
  refine congrArg (QMat.ofFn m.rows m.cols) (funext fun i => funext fun t => congrArg _ ?_)
  cases hc : cells.idxOf? (i, t) with
  | none => rfl
  | some k' => exact h k' (List.idxOf?_eq_some_iff.1 hc).1

/-- the output depends on the instrument vector only through its first `numInstruments` entries -/
theorem applyInstruments_congr (c : CondInput) (e e' : QVec)
    (h : ∀ k, k < numInstruments c → e.getD k 0 = e'.getD k 0) : applyInstruments c e = applyInstruments c e' := by
  rw [applyInstruments_eq, applyInstruments_eq,
    addAt_congr c.u0 _ id e e' fun k hk => h k (Nat.lt_add_right _ hk),
    addAt_congr c.v0 _ _ e e' fun k hk => h _ (Nat.add_lt_add_left hk _)]

theorem applyInstruments_u_aff (c : CondInput) (hw : c.u0.wellShaped = true) (e : QVec) :
    MAff (numInstruments c) (fun k => e.getD k 0) c.u0
      (fun k => (applyInstruments c (unitVec (numInstruments c) k)).1) (applyInstruments c e).1 :=
  addAt_aff c.u0 hw (cellsColMajor c.endoU c.N) id _ (fun _ hk => Nat.lt_add_right _ hk) e

theorem applyInstruments_v_aff (c : CondInput) (hw : c.v0.wellShaped = true) (e : QVec) :
    MAff (numInstruments c) (fun k => e.getD k 0) c.v0
      (fun k => (applyInstruments c (unitVec (numInstruments c) k)).2) (applyInstruments c e).2 :=
  addAt_aff c.v0 hw (cellsColMajor c.endoV c.N) _ _ (fun _ hk => Nat.add_lt_add_left hk _) e

theorem impact_fst (c : CondInput) : (impact c).1 = selectExo c (simulate c.sol c.init c.u0 c.v0 c.N) := rfl

theorem impact_rows (c : CondInput) : (impact c).2.rows = (exoSpots c).length :=
  selectExo_size c _

theorem impact_cols (c : CondInput) : (impact c).2.cols = numInstruments c :=
  (List.length_map _).trans List.length_range

theorem impact_get (c : CondInput) (r k : Nat) (hr : r < (exoSpots c).length) (hk : k < numInstruments c) :
    (impact c).2.get r k =
      (selectExo c (simulate c.sol c.init (applyInstruments c (unitVec (numInstruments c) k)).1
        (applyInstruments c (unitVec (numInstruments c) k)).2 c.N)).getD r 0 - (impact c).1.getD r 0 := by
  unfold impact ofCols
  -- reduces the `let`s of `impact`
  simp only
  rw [get_ofFn_of_lt _ _ _ _ _ (by rw [selectExo_size]; exact hr) (by rw [List.length_map, List.length_range]; exact hk),
    List.getD_eq_getElem?_getD, List.getElem?_map, List.getElem?_range hk, Option.map_some, Option.getD_some, vsub_getD,
    selectExo_size, if_pos hr]

/-- the statement of `C07.exogenized_affine` for the executable model, proved on its own operations through `Aff` (the abstract
`C07.simPath` is not used): the exogenized cells of the simulation with the instruments `e`
added to the endogenized shock cells are `x⁰ + M e`, entry by entry, for every instrument vector -/
theorem model_exogenized_affine (c : CondInput) (hu : c.u0.wellShaped = true) (hv : c.v0.wellShaped = true)
    (e : QVec) (r : Nat) (hr : r < (exoSpots c).length) :
    (selectExo c (simulate c.sol c.init (applyInstruments c e).1 (applyInstruments c e).2 c.N)).getD r 0
      = (impact c).1.getD r 0 + ∑ k ∈ Finset.range (numInstruments c), (impact c).2.get r k * e.getD k 0 := by
  rw [(selectExo_aff c (applyInstruments_u_aff c hu e) (applyInstruments_v_aff c hv e)).get r]
  refine congrArg₂ (· + ·) rfl (Finset.sum_congr rfl fun k hk => ?_)
  rw [impact_get c r k hr (Finset.mem_range.1 hk), mul_comm, impact_fst]

theorem stackedSolve_ok (c : CondInput) (o : CondOutput) (M : QMat) (h : stackedSolve c = .ok (o, M)) :
    M = (impact c).2 ∧
    ∃ e : QMat, QMat.solveChecked M (QMat.col (vsub (targetVec c) (impact c).1)) = some e ∧
      o.u = (applyInstruments c e.toVec).1 ∧ o.v = (applyInstruments c e.toVec).2 ∧
      o.xi = simulate c.sol c.init o.u o.v c.N := by
  unfold stackedSolve at h
  -- reduces `let (x0, M) := impact c` to the projections of `impact c`
  simp only at h
  split at h
  · cases h
  · split at h
    · cases h
    · rename_i e he
      obtain ⟨rfl, rfl⟩ := Prod.mk.inj (Except.ok.inj h)
      exact ⟨rfl, e, he, rfl, rfl, rfl⟩

/-- the exact re-check of the solver, read entry by entry -/
theorem solve_system (M : QMat) (b : QVec) (e : QMat) (he : QMat.solveChecked M (QMat.col b) = some e) :
    b.size = M.rows ∧ M.cols = M.rows ∧
    ∀ r, r < M.rows → ∑ k ∈ Finset.range M.cols, M.get r k * e.toVec.getD k 0 = b.getD r 0 := by
  obtain ⟨hsq, hb, hrows, -, -, hmul⟩ := solveChecked_sound M _ e he
  refine ⟨hb, hsq, fun r hr => ?_⟩
  have hr0 := congrFun (congrFun hmul ⟨r, hr⟩) ⟨0, Nat.one_pos⟩
  rw [Matrix.mul_apply, toMat_apply, get_col_zero] at hr0
  rw [hsq, ← Fin.sum_univ_eq_sum_range (fun k => M.get r k * e.toVec.getD k 0), ← hr0]
  refine Finset.sum_congr rfl fun k _ => ?_
  rw [toVec_getD, hrows, if_pos k.isLt, toMat_apply, toMat_apply]

/-- the stacked system holds exactly: `M e = target − x⁰` for the instruments `e` the output was simulated with -/
theorem stackedSolve_system (c : CondInput) (o : CondOutput) (M : QMat) (h : stackedSolve c = .ok (o, M)) :
    ∃ e : QVec, o.u = (applyInstruments c e).1 ∧ o.v = (applyInstruments c e).2 ∧
      o.xi = simulate c.sol c.init o.u o.v c.N ∧
      (targetVec c).size = (exoSpots c).length ∧ numInstruments c = (exoSpots c).length ∧
      ∀ r, r < (exoSpots c).length →
        ∑ k ∈ Finset.range (numInstruments c), (impact c).2.get r k * e.getD k 0
          = (targetVec c).getD r 0 - (impact c).1.getD r 0 := by
  obtain ⟨rfl, e, he, hu, hv, hxi⟩ := stackedSolve_ok c o M h
  obtain ⟨h2, h3, h4⟩ := solve_system _ _ e he
  rw [impact_rows] at h2 h3 h4
  rw [impact_cols] at h3 h4
  rw [vsub_size] at h2
  refine ⟨e.toVec, hu, hv, hxi, h2, h3, fun r hr => ?_⟩
  rw [h4 r hr, vsub_getD, if_pos (by rw [h2]; exact hr)]

/-- every exogenized cell of the output of `stackedSolve` equals its target -- unconditionally -/
theorem stackedSolve_hits_targets (c : CondInput) (hu : c.u0.wellShaped = true) (hv : c.v0.wellShaped = true)
    (o : CondOutput) (M : QMat) (h : stackedSolve c = .ok (o, M)) :
    ∀ r, (selectExo c o.xi).getD r 0 = (targetVec c).getD r 0 := by
  obtain ⟨e, hou, hov, hxi, hsz, _, hsys⟩ := stackedSolve_system c o M h
  intro r
  by_cases hr : r < (exoSpots c).length
  · rw [hxi, hou, hov, model_exogenized_affine c hu hv e r hr, hsys r hr, add_sub_cancel]
  · have hr' := Nat.le_of_not_lt hr
    rw [getD_of_le _ r (selectExo_size c _ ▸ hr'), getD_of_le _ r (hsz ▸ hr')]

/-- the impact matrix as a square Mathlib matrix over the exogenized cells (`stackedSolve` answers only if there are as many
instruments, `stackedSolve_system`; otherwise `toMat` cuts or pads the columns) -/
def impactM (c : CondInput) : Matrix (Fin (exoSpots c).length) (Fin (exoSpots c).length) ℚ :=
  (impact c).2.toMat _ _

/-- `C07.instruments_unique` for the impact matrix of the model -/
theorem stackedSolve_unique (c : CondInput) (hdet : IsUnit (impactM c).det)
    (e e' : Fin (exoSpots c).length → ℚ) (he : impactM c *ᵥ e = impactM c *ᵥ e') : e = e' :=
  C07.instruments_unique _ hdet e e' he

/-- the statement of `C07.roundtrip_recovers` for the executable model (from `model_exogenized_affine` and
`C07.instruments_unique`; `C07.roundtrip_recovers` itself is not used).  If the targets are the exogenized cells of the simulation
with instrument values `eTrue` and the impact matrix is non-singular, `stackedSolve` returns exactly that simulation:
the same shocks and the same states. -/
theorem stackedSolve_roundtrip (c : CondInput) (hu : c.u0.wellShaped = true) (hv : c.v0.wellShaped = true)
    (eTrue : QVec)
    (htar : ∀ r, r < (exoSpots c).length → (targetVec c).getD r 0 =
      (selectExo c (simulate c.sol c.init (applyInstruments c eTrue).1 (applyInstruments c eTrue).2 c.N)).getD r 0)
    (hdet : IsUnit (impactM c).det)
    (o : CondOutput) (M : QMat) (h : stackedSolve c = .ok (o, M)) :
    o.u = (applyInstruments c eTrue).1 ∧ o.v = (applyInstruments c eTrue).2 ∧
      o.xi = simulate c.sol c.init (applyInstruments c eTrue).1 (applyInstruments c eTrue).2 c.N := by
  obtain ⟨e, hou, hov, hxi, _, hni, hsys⟩ := stackedSolve_system c o M h
  have hmul : ∀ (w : QVec), (impactM c *ᵥ fun k : Fin (exoSpots c).length => w.getD k 0)
      = fun r : Fin (exoSpots c).length =>
          ∑ k ∈ Finset.range (numInstruments c), (impact c).2.get r k * w.getD k 0 := by
    intro w
    funext r
    rw [hni, ← Fin.sum_univ_eq_sum_range (fun k => (impact c).2.get r k * w.getD k 0)]
    rfl
  have heq : (fun k : Fin (exoSpots c).length => e.getD k 0) = fun k : Fin (exoSpots c).length => eTrue.getD k 0 := by
    apply stackedSolve_unique c hdet
    rw [hmul, hmul]
    funext r
    rw [hsys r r.isLt, htar r r.isLt, model_exogenized_affine c hu hv eTrue r r.isLt, add_sub_cancel_left]
  have hread : ∀ k, k < numInstruments c → e.getD k 0 = eTrue.getD k 0 := by
    intro k hk
    exact congrFun heq ⟨k, hni ▸ hk⟩
  have := applyInstruments_congr c e eTrue hread
  rw [this] at hou hov
  refine ⟨hou, hov, ?_⟩
  rw [hxi, hou, hov]

namespace Examples

/-- one state `x_t = 1/2 x_{t-1} + u_t + (anticipated)`, two periods, `x` exogenized in both, the unanticipated shock
endogenized in period 0 and the anticipated one in period 1: a 2 × 2 stacked system -/
def exIn : CondInput :=
  { sol := ⟨QMat.ofRows [[1/2]], #[0], QMat.ofRows [[1]], QMat.ofRows [[1]], QMat.ofRows [[1/2]], QMat.ofRows [[1]]⟩,
    currIdx := [0], init := #[1], N := 2,
    u0 := QMat.ofFn 1 2 (fun _ _ => 0), v0 := QMat.ofFn 1 2 (fun _ _ => 0),
    stdU := QMat.ofFn 1 2 (fun _ _ => 1), stdV := QMat.ofFn 1 2 (fun _ _ => 1),
    exo := [[true, true]], target := QMat.ofRows [[3, 5]],
    endoU := [[true, false]], endoV := [[false, true]] }

/-- the stacked solve succeeds and the exogenized cells hit `3` and `5` -/
theorem ex_stacked :
    (match stackedSolve exIn with
      | .ok (o, _) => decide ((selectExo exIn o.xi).getD 0 0 = 3 ∧ (selectExo exIn o.xi).getD 1 0 = 5)
      | .error _ => false) = true := by decide +kernel

/-- the hypotheses of `stackedSolve_hits_targets` are met -/
example : (∃ o M, stackedSolve exIn = .ok (o, M)) ∧ exIn.u0.wellShaped = true ∧ exIn.v0.wellShaped = true := by
  refine ⟨?_, wellShaped_ofFn _ _ _, wellShaped_ofFn _ _ _⟩
  have h := ex_stacked
  cases hs : stackedSolve exIn with
  | error err => rw [hs] at h; cases h
  | ok p => exact ⟨p.1, p.2, rfl⟩

end Examples

end IrisVerif.BridgeC07

/-! ## With the correctness of the executable solver (`Lemmas/QMatSolve.lean`): an answer of `stackedSolve` certifies a non-singular
impact matrix, so the round trip needs no hypothesis `hdet`; a square non-singular impact matrix ⇒ `stackedSolve` answers -/

namespace IrisVerif.QMatSolveBridge

open IrisVerif IrisVerif.QMat IrisVerif.Plans IrisVerif.BridgeC07

theorem stackedSolve_isUnit_det (c : CondInput) (o : CondOutput) (M : QMat) (h : stackedSolve c = .ok (o, M)) :
    IsUnit (impactM c).det := by
  obtain ⟨rfl, e, he, _⟩ := stackedSolve_ok c o M h
  have hd := solveChecked_isUnit_det _ _ e he
  rwa [impact_rows] at hd

/-- `roundtrip_recovers` on the model without any non-singularity hypothesis: `stackedSolve` answering is itself
the certificate -/
theorem stackedSolve_roundtrip' (c : CondInput) (hu : c.u0.wellShaped = true) (hv : c.v0.wellShaped = true)
    (eTrue : QVec)
    (htar : ∀ r, r < (exoSpots c).length → (targetVec c).getD r 0 =
      (selectExo c (simulate c.sol c.init (applyInstruments c eTrue).1 (applyInstruments c eTrue).2 c.N)).getD r 0)
    (o : CondOutput) (M : QMat) (h : stackedSolve c = .ok (o, M)) :
    o.u = (applyInstruments c eTrue).1 ∧ o.v = (applyInstruments c eTrue).2 ∧
      o.xi = simulate c.sol c.init (applyInstruments c eTrue).1 (applyInstruments c eTrue).2 c.N :=
  stackedSolve_roundtrip c hu hv eTrue htar (stackedSolve_isUnit_det c o M h) o M h

/-- completeness: as many instruments as exogenized cells and a non-singular impact matrix ⇒ `stackedSolve`
answers (neither `notSquare` nor `singular`) -/
theorem stackedSolve_complete (c : CondInput) (hsq : numInstruments c = (exoSpots c).length)
    (htv : (targetVec c).size = (exoSpots c).length) (hdet : IsUnit (impactM c).det) :
    ∃ o, stackedSolve c = .ok (o, (impact c).2) := by
  have hcols : (impact c).2.cols = (exoSpots c).length := by rw [impact_cols, hsq]
  have hb : (QMat.col (vsub (targetVec c) (impact c).1)).rows = (exoSpots c).length := by rw [QMat.col_rows, vsub_size, htv]
  obtain ⟨e, he⟩ := Option.isSome_iff_exists.1 ((solveChecked_isSome_iff_of _ _ (impact_rows c) hcols hb).2 hdet)
  unfold stackedSolve
  simp only
  rw [if_neg (by simp [hcols, impact_rows]), he]
  exact ⟨_, rfl⟩

end IrisVerif.QMatSolveBridge
