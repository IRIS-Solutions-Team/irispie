/-
C11 — Period conversions round-trip; frequency conversion preserves containment.

Property theorems about the executable model in IrisVerif/Model/{Dates,DateFormats}.lean.
-/
import IrisVerif.Model.DateFormats
import IrisVerif.Lemmas.Monads
import IrisVerif.Props.C09
import IrisVerif.Lemmas.DateStrings

namespace IrisVerif.Dates.C11
open IrisVerif.Dates IrisVerif.Gen.Dates IrisVerif.Dates.C09

/-! ## 1. (year, month, day) at every position and back -/

/-- the round-trip statement in match form (easier to compute with) -/
def YmdRoundTrip (p : Period) (pos : Pos) : Prop :=
  match toYmd p pos with
  | .ok (y, m, d) => ValidYmd y m d ∧ fromYmd p.freq y m d = .ok p
  | .error _ => False

theorem YmdRoundTrip.exists {p : Period} {pos : Pos} (h : YmdRoundTrip p pos) :
    ∃ y m d, toYmd p pos = .ok (y, m, d) ∧ ValidYmd y m d ∧ fromYmd p.freq y m d = .ok p := by
  unfold YmdRoundTrip at h
  split at h
  · rename_i y m d heq; exact ⟨y, m, d, heq, h.1, h.2⟩
  · exact h.elim

/-- For every regular frequency, serial and position: `to_ymd` yields a valid calendar date of the
period's own year whose month maps back to the period's segment, so `from_ymd(to_ymd(p, pos)) = p`. -/
theorem fromYmd_toYmd_regular (f : Freq) (hf : f ∈ regularFreqs) (s : Int) (pos : Pos) :
    ∃ y m d, toYmd ⟨f, s⟩ pos = .ok (y, m, d) ∧ ValidYmd y m d ∧ fromYmd f y m d = .ok ⟨f, s⟩ := by
  have hr := isRegular_of_mem hf
  obtain ⟨m, d, hymd, hv, -, -, hseg⟩ := toYmd_spec hr s pos
  refine ⟨_, m, d, hymd, hv, ?_⟩
  rw [fromYmd_regular hr, hseg, ← fromYearSegment_regular hr, fromYearSegment_div_mod hr]

/-- daily periods: `to_ymd` is the calendar date of the ordinal (valid), and `from_ymd` returns the ordinal -/
theorem fromYmd_toYmd_daily (n : Int) (pos : Pos) :
    ∃ y m d, toYmd ⟨.D, n⟩ pos = .ok (y, m, d) ∧ ValidYmd y m d ∧ fromYmd .D y m d = .ok ⟨.D, n⟩ := by
  refine ⟨(ord2ymd n).1, (ord2ymd n).2.1, (ord2ymd n).2.2, toYmd_daily n pos, ord2ymd_valid n, ?_⟩
  rw [fromYmd_daily (ord2ymd_valid n), ymd2ord_of_ord2ymd]

/-- **(y, m, d) round trip**, every calendar frequency, every position (also `to_python_date`/`from_python_date`,
which go through the same triple) -/
theorem fromYmd_toYmd (f : Freq) (hf : f ∈ calendarFreqs) (s : Int) (pos : Pos) :
    ∃ y m d, toYmd ⟨f, s⟩ pos = .ok (y, m, d) ∧ ValidYmd y m d ∧ fromYmd f y m d = .ok ⟨f, s⟩ := by
  rcases calendar_cases hf with hr | rfl
  · exact fromYmd_toYmd_regular f (mem_regularFreqs hr) s pos
  · exact fromYmd_toYmd_daily s pos

/-! ## 2. Conversion finds the period whose days include the chosen day (IrisVerif/Lemmas/DayLine.lean) -/

/-- **Containment.** Converting a period of any calendar frequency to any calendar frequency returns the
target-frequency period whose day interval `[start, end]` contains the chosen position day of the source. -/
theorem refrequent_contains (f f' : Freq) (hf : f ∈ calendarFreqs) (hf' : f' ∈ calendarFreqs) (s : Int) (pos : Pos) :
    ∃ q day a b, refrequent ⟨f, s⟩ f' pos = .ok q ∧ q.freq = f' ∧ dayOrd ⟨f, s⟩ pos = .ok day ∧
      dayOrd q .start = .ok a ∧ dayOrd q .end_ = .ok b ∧ a ≤ day ∧ day ≤ b := by
  obtain ⟨T, hq, h⟩ := refrequent_ok f f' hf hf' s pos
  exact ⟨_, _, _, _, hq, rfl, dayOrd_eq_ordAt f hf s pos, dayOrd_eq_ordAt f' hf' T .start, dayOrd_eq_ordAt f' hf' T .end_, h⟩

/-- **Monotonicity.** Conversion to another frequency preserves the order of periods. -/
theorem refrequent_monotone (f f' : Freq) (hf : f ∈ calendarFreqs) (hf' : f' ∈ calendarFreqs) (s s' : Int)
    (h : s ≤ s') (pos : Pos) :
    ∃ q q', refrequent ⟨f, s⟩ f' pos = .ok q ∧ refrequent ⟨f, s'⟩ f' pos = .ok q' ∧ q.freq = f' ∧ q'.freq = f' ∧
      q.serial ≤ q'.serial := by
  obtain ⟨T, hq, _, _⟩ := refrequent_ok f f' hf hf' s pos
  obtain ⟨T', hq', _, _⟩ := refrequent_ok f f' hf hf' s' pos
  refine ⟨_, _, hq, hq', rfl, rfl, Int.not_lt.mp fun hlt => ?_⟩
  -- were `T'` earlier than `T`: end(T') < start(T) ≤ day ≤ day' ≤ end(T')
  have := end_lt_start_of_lt f' hf' T' T hlt
  have := ordAt_mono f hf h pos
  omega

/-! ## 3. coarse → fine → coarse -/

/-- **coarse → fine → coarse** between regular frequencies: converting to an at-least-as-fine frequency at any
position and back at any position returns the original period. -/
theorem coarse_fine_coarse_regular (f f' : Freq) (hf : f ∈ regularFreqs) (hf' : f' ∈ regularFreqs)
    (hfin : f.value ∣ f'.value) (s : Int) (pos pos2 : Pos) :
    ∃ q, refrequent ⟨f, s⟩ f' pos = .ok q ∧ q.freq = f' ∧ refrequent q f pos2 = .ok ⟨f, s⟩ := by
  have hr := isRegular_of_mem hf
  have hr' := isRegular_of_mem hf'
  have hc := regular_calendar hr
  have hc' := regular_calendar hr'
  obtain ⟨r, hfr⟩ := hfin
  rw [Int.mul_comm] at hfr
  obtain ⟨t, hq, _, _⟩ := refrequent_ok f f' hc hc' s pos
  refine ⟨_, hq, rfl, ?_⟩
  -- the chosen day lies in `⟨f', t⟩`, which lies in `⟨f, t / r⟩`: so `t / r = s`
  have := ordAt_within hr hr' hfr t
  have hs := ordAt_order f hc s pos
  rw [refrequent_coarser hr hr' hfr,
    ordAt_unique f hc (T := t / r) (T' := s) (n := ordAt f s pos) (by omega) (by omega) hs.1 hs.2]

/-- regular → daily → regular: the chosen day of the period converts back to the period -/
theorem coarse_daily_coarse (f : Freq) (hf : f ∈ regularFreqs) (s : Int) (pos pos2 : Pos) :
    ∃ q, refrequent ⟨f, s⟩ .D pos = .ok q ∧ q.freq = .D ∧ refrequent q f pos2 = .ok ⟨f, s⟩ := by
  obtain ⟨y, m, d, hymd, hv, hback⟩ := fromYmd_toYmd_regular f hf s pos
  have hd : toYmd ⟨.D, ymd2ord y m d⟩ pos2 = .ok (y, m, d) := by rw [toYmd_daily, ord2ymd_ymd2ord y m d hv]
  exact ⟨_, (refrequent_of_toYmd hymd .D).trans (fromYmd_daily hv), rfl, (refrequent_of_toYmd hd f).trans hback⟩

/-- the strict "finer than" relation on calendar frequencies used by the statement (Y < H < Q < M < D) -/
def finerPairs : List (Freq × Freq) :=
  [(.Y, .H), (.Y, .Q), (.Y, .M), (.Y, .D), (.H, .Q), (.H, .M), (.H, .D), (.Q, .M), (.Q, .D), (.M, .D)]

/-- **Converting to a finer frequency and back never leaves the original coarse period** — every pair of
calendar frequencies with `f'` finer than `f`, every serial, every pair of positions. -/
theorem coarse_fine_coarse (f f' : Freq) (h : (f, f') ∈ finerPairs) (s : Int) (pos pos2 : Pos) :
    ∃ q, refrequent ⟨f, s⟩ f' pos = .ok q ∧ q.freq = f' ∧ refrequent q f pos2 = .ok ⟨f, s⟩ := by
  -- the coarse frequency is regular; the fine one is daily or a regular frequency whose value is a multiple
  obtain ⟨hf, rfl | ⟨hf', hdvd⟩⟩ := (by decide : ∀ p ∈ finerPairs,
    p.1 ∈ regularFreqs ∧ (p.2 = .D ∨ p.2 ∈ regularFreqs ∧ p.1.value ∣ p.2.value)) (f, f') h
  · exact coarse_daily_coarse f hf s pos pos2
  · exact coarse_fine_coarse_regular f f' hf hf' hdvd s pos pos2

/-! ## 4. repr, SDMX and ISO strings and back

Strings are produced on the supported range only (four-digit years `0 … 9999`; outside it Python's `:04g`
prints more digits or an exponent, the SDMX patterns cannot match and the model's formatter `fmtG` answers `none`,
which `toSdmx` and `toIso` report as `badInput`). The frequency is auto-detected by the model's matcher running on the
pattern text that the translator regenerates from `SDMX_REXP_FORMATS` (`compiled_formats`). -/

/-- `eval(repr(p)) = p` for every period of every frequency -/
theorem repr_roundtrip (p : Period) : (toRepr p).bind fromRepr = .ok p := by
  obtain ⟨f, s⟩ := p
  have key : f ∈ regularFreqs → _ := fromYearSegment_toYearSegment ⟨f, s⟩
  cases f
  case I => rfl
  case Y =>
    obtain ⟨y, seg, hys, h1, h2, hb⟩ := key (by decide)
    cases Int.le_antisymm h1 h2   -- a yearly period has segment 1
    simp only [toRepr, hys, bind, Except.bind, pure, Except.pure, fromRepr]
    exact congrArg _ hb
  case H | Q | M =>
    obtain ⟨y, seg, hys, -, -, hb⟩ := key (by decide)
    simp only [toRepr, hys, bind, Except.bind, pure, Except.pure, fromRepr]
    exact congrArg _ hb
  case D =>
    obtain ⟨y, m, d, hymd, _, hb⟩ := fromYmd_toYmd_daily s .start
    simp only [toRepr, hymd, bind, Except.bind, pure, Except.pure, fromRepr]
    exact hb

theorem fmtG4 (y : Int) (h0 : 0 ≤ y) (h1 : y ≤ 9999) : fmtG 4 y = some (pad4 y.toNat) := by
  rw [fmtG, if_neg (Int.not_lt.2 h0)]
  exact if_pos (Int.lt_add_one_iff.2 h1)

theorem fmtG2 (m : Int) (h0 : 0 ≤ m) (h1 : m ≤ 99) : fmtG 2 m = some (pad2 m.toNat) := by
  rw [fmtG, if_neg (Int.not_lt.2 h0)]
  exact if_pos (Int.lt_add_one_iff.2 h1)

theorem fmtG1 (m : Int) (h0 : 0 ≤ m) (h1 : m ≤ 9) : fmtG 1 m = some (pad1 m.toNat) := by
  rw [fmtG, if_neg (Int.not_lt.2 h0)]
  exact if_pos (Int.lt_add_one_iff.2 h1)

theorem sdmx_year_segment (f : Freq) (hf : f ∈ regularFreqs) (s : Int) {y seg : Int} (hys : toYearSegment ⟨f, s⟩ = .ok (y, seg))
    (hy0 : 0 ≤ y) (hy1 : y ≤ 9999) (hs1 : 1 ≤ seg) (hs2 : seg ≤ f.value) :
    (toSdmx ⟨f, s⟩).bind fromSdmx = .ok (fromYearSegment f y seg) := by
  obtain ⟨a, b, c, d, na, nb, nc, nd, hp4, d1, d2, d3, d4, hv⟩ := pad4_digits y.toNat (by omega)
  have ey : (y.toNat : Int) = y := Int.toNat_of_nonneg hy0
  have es : (seg.toNat : Int) = seg := Int.toNat_of_nonneg (by omega)
  cases f
  case I | D => exact absurd hf (by decide)
  case Y =>
    cases Int.le_antisymm hs1 hs2   -- a yearly period has segment 1
    simp only [toSdmx, hys, bind, Except.bind, fmtG4 y hy0 hy1, needSome, pure, Except.pure, hp4]
    rw [sdmx_Y_shape d1 d2 d3 d4, hv, ey, fromYearSegment_regular rfl, Int.add_sub_cancel,
      show Freq.Y.value = 1 from rfl, Int.mul_one]
  case H | Q =>
    have h9 : seg ≤ 9 := Int.le_trans hs2 (by decide)
    obtain ⟨e, hp1, d5⟩ := pad1_digits seg.toNat (by omega)
    simp only [toSdmx, hys, bind, Except.bind, fmtG4 y hy0 hy1, fmtG1 seg (by omega) h9, needSome, pure, Except.pure,
      hp4, hp1]
    rw [sdmx_HQ_shape _ (by decide) d1 d2 d3 d4 d5, hv, ey, es]
  case M =>
    have h99 : seg ≤ 99 := Int.le_trans hs2 (by decide)
    obtain ⟨e, g, ne, ng, hp2, e1, e2, hw⟩ := pad2_digits seg.toNat (by omega)
    simp only [toSdmx, hys, bind, Except.bind, fmtG4 y hy0 hy1, fmtG2 seg (by omega) h99, needSome, pure, Except.pure,
      hp4, hp2]
    show fromSdmx [a, b, c, d, '-', e, g] = _
    rw [sdmx_M_shape d1 d2 d3 d4 e1 e2, hv, hw, ey, es]

/-- **SDMX round trip with auto-detected frequency**, regular frequencies, four-digit years -/
theorem sdmx_roundtrip_regular (f : Freq) (hf : f ∈ regularFreqs) (s : Int)
    (h0 : 0 ≤ s) (h1 : s < 10000 * f.value) : (toSdmx ⟨f, s⟩).bind fromSdmx = .ok ⟨f, s⟩ := by
  have hr := isRegular_of_mem hf
  have hv := regular_value_pos hr
  obtain ⟨q1, q2⟩ := segment_range hr s
  rw [sdmx_year_segment f hf s (toYearSegment_regular hr s) (Int.ediv_nonneg h0 (Int.le_of_lt hv))
    (Int.lt_add_one_iff.1 (Int.ediv_lt_of_lt_mul hv h1)) q1 q2, fromYearSegment_div_mod hr]

/-- the ten-character string of a valid date with a four-digit year parses back to the same triple -/
theorem ymd_string (y m d : Int) (hy0 : 0 ≤ y) (hy1 : y ≤ 9999) (hv : ValidYmd y m d) :
    ∃ str : Str,
      (do let ys ← needSome (fmtG 4 y); let ms ← needSome (fmtG 2 m); let ds ← needSome (fmtG 2 d)
          pure (ys ++ ['-'] ++ ms ++ ['-'] ++ ds) : R Str) = .ok str ∧
      detectFreq str = .ok (some .D) ∧ (∀ f, fromIso f str = fromYmd f y m d) ∧ fromSdmxAs .D str = fromYmd .D y m d := by
  obtain ⟨hm1, hm12, hd1, hd2⟩ := hv
  have hd31 := (daysInMonth_pos y m).2
  have hm0 : 0 ≤ m := by omega
  have hd0 : 0 ≤ d := by omega
  obtain ⟨a, b, c, e, na, nb, nc, ne, hp4, a1, a2, a3, a4, hv4⟩ := pad4_digits y.toNat (by omega)
  obtain ⟨g, i, ng, ni, hpm, m1, m2, hw⟩ := pad2_digits m.toNat (by omega)
  obtain ⟨j, k, nj, nk, hpd, k1, k2, hz⟩ := pad2_digits d.toNat (by omega)
  obtain ⟨h1, h2, h3⟩ := ymd_string_shape a1 a2 a3 a4 m1 m2 k1 k2
  rw [hv4, hw, hz, Int.toNat_of_nonneg hy0, Int.toNat_of_nonneg hm0, Int.toNat_of_nonneg hd0] at h2 h3
  refine ⟨_, ?_, h1, h2, h3⟩
  simp only [fmtG4 y hy0 hy1, fmtG2 m hm0 (by omega), fmtG2 d hd0 (by omega), needSome, bind, Except.bind,
    pure, Except.pure, hp4, hpm, hpd]
  rfl

/-- **ISO round trip** for every calendar frequency and every position (four-digit years) -/
theorem iso_roundtrip (f : Freq) (hf : f ∈ calendarFreqs) (s : Int) (pos : Pos)
    (hyr : ∀ y m d, toYmd ⟨f, s⟩ pos = .ok (y, m, d) → 0 ≤ y ∧ y ≤ 9999) :
    (toIso ⟨f, s⟩ pos).bind (fromIso f) = .ok ⟨f, s⟩ := by
  obtain ⟨y, m, d, hymd, hv, hback⟩ := fromYmd_toYmd f hf s pos
  obtain ⟨hy0, hy1⟩ := hyr y m d hymd
  obtain ⟨str, hstr, -, hiso, -⟩ := ymd_string y m d hy0 hy1 hv
  refine Except.bind_eq_ok.2 ⟨str, ?_, (hiso f).trans hback⟩
  rw [toIso, hymd]
  exact hstr

/-- **SDMX round trip for daily periods** with auto-detected frequency (years 0 … 9999 of the model's calendar;
`datetime` itself supports 1 … 9999) -/
theorem sdmx_roundtrip_daily (n : Int) (hyr : 0 ≤ (ord2ymd n).1 ∧ (ord2ymd n).1 ≤ 9999) :
    (toSdmx ⟨.D, n⟩).bind fromSdmx = .ok ⟨.D, n⟩ := by
  obtain ⟨y, m, d, hymd, hv, hback⟩ := fromYmd_toYmd_daily n .start
  rw [Except.ok.inj hymd] at hyr
  obtain ⟨str, hstr, hdet, -, hsd⟩ := ymd_string y m d hyr.1 hyr.2 hv
  refine Except.bind_eq_ok.2 ⟨str, ?_, ?_⟩
  · rw [toSdmx, hymd]
    exact hstr
  · rw [fromSdmx, hdet]
    exact hsd.trans hback

/-! ### Integer periods: `(n)` with any number of digits -/

theorem matchItems_plus (a : Atom) (items : List (Atom × Quant)) (pre suf : Str) (hne : pre ≠ [])
    (hp : ∀ c ∈ pre, a.accepts c = true) (hs : matchItems items suf = true) :
    matchItems ((a, .plus) :: items) (pre ++ suf) = true := by
  rw [matchItems]
  induction pre with
  | nil => exact absurd rfl hne
  | cons c cs ih =>
    obtain ⟨hc, hcs⟩ := List.forall_mem_cons.1 hp
    rw [List.cons_append, matchItems.go, hc, Bool.true_and]
    cases cs with
    | nil => rw [List.nil_append, hs, Bool.true_or]
    | cons c2 cs2 => rw [ih (List.cons_ne_nil _ _) hcs, Bool.or_true]

theorem matchItems_opt_skip (a : Atom) (items : List (Atom × Quant)) (s : Str) (h : matchItems items s = true) :
    matchItems ((a, .opt) :: items) s = true := by
  cases s <;> simp [matchItems, h]

/-- every parenthesised non-empty digit string, optionally signed, is detected as an integer period -/
theorem detect_integer_shape (sign : Str) (hs : sign = [] ∨ sign = ['-'] ∨ sign = ['+']) (ds : Str) (hne : ds ≠ [])
    (hd : ∀ c ∈ ds, isDigit c = true) :
    detectFreq ('(' :: (sign ++ ds ++ [')'])) = .ok (some .I) := by
  have hm := matchItems_plus .digit [(.lit ')', .one)] ds [')'] hne hd (by simp [matchItems, Atom.accepts])
  have hrow : matchItems [(.cls ['-', '+'], .opt), (.digit, .plus), (.lit ')', .one)] (sign ++ (ds ++ [')'])) = true := by
    rcases hs with rfl | rfl | rfl
    · exact matchItems_opt_skip _ _ _ hm
    · simp [matchItems, Atom.accepts, hm]
    · simp [matchItems, Atom.accepts, hm]
  rw [detectFreq_eq, strip_of_nonblank_ends '(' (sign ++ ds) ')' rfl rfl]
  simp [compiledFormats, detectCompiled, matchItems, Atom.accepts, hrow, freqOfValue?, freqInteger, isDigit, pure, Except.pure]

theorem fromSdmx_integer (sign : Str) (hs : sign = [] ∨ sign = ['-'] ∨ sign = ['+']) (ds : Str) (hne : ds ≠ [])
    (hd : ∀ c ∈ ds, isDigit c = true) (n : Int) (hp : parseInt (sign ++ ds) = some n) :
    fromSdmx ('(' :: (sign ++ ds ++ [')'])) = .ok ⟨.I, n⟩ := by
  have hrev : (sign ++ ds ++ [')']).reverse = ')' :: (sign ++ ds).reverse := List.reverse_append
  simp only [fromSdmx, detect_integer_shape sign hs ds hne hd, bind, Except.bind, fromSdmxAs,
    strip_of_nonblank_ends '(' (sign ++ ds) ')' rfl rfl, hrev, List.reverse_reverse, hp, needSome, pure, Except.pure]

/-- **SDMX round trip for integer periods**, every integer serial (any number of digits, either sign), with the
frequency auto-detected by the regenerated pattern -/
theorem sdmx_roundtrip_integer (n : Int) : (toSdmx ⟨.I, n⟩).bind fromSdmx = .ok ⟨.I, n⟩ := by
  obtain ⟨hd, hne, hp⟩ := natDigits_spec n.natAbs
  by_cases hneg : n < 0
  · have hstr : toSdmx ⟨.I, n⟩ = .ok ('(' :: (['-'] ++ natDigits n.natAbs ++ [')'])) := by
      simp [toSdmx, hneg, pure, Except.pure]
    refine Except.bind_eq_ok.2 ⟨_, hstr, fromSdmx_integer ['-'] (.inr (.inl rfl)) _ hne hd n ?_⟩
    rw [List.singleton_append, parseInt, hp]
    show some (-(n.natAbs : Int)) = some n
    rw [Int.ofNat_natAbs_of_nonpos (Int.le_of_lt hneg), Int.neg_neg]
  · have hstr : toSdmx ⟨.I, n⟩ = .ok ('(' :: ([] ++ natDigits n.natAbs ++ [')'])) := by
      simp [toSdmx, hneg, pure, Except.pure]
    refine Except.bind_eq_ok.2 ⟨_, hstr, fromSdmx_integer [] (.inl rfl) _ hne hd n ?_⟩
    obtain ⟨c, cs, hcs⟩ := List.exists_cons_of_ne_nil hne
    rw [List.nil_append, hcs, parseInt_of_digit_head (hd c (hcs ▸ List.mem_cons_self ..)), ← hcs, hp]
    show some (n.natAbs : Int) = some n
    rw [Int.natAbs_of_nonneg (Int.not_lt.1 hneg)]

/-! ## 4b. Sequences of SDMX strings (`periods_from_sdmx_strings`) -/

theorem fromYearSegment_freq (f : Freq) (y s : Int) : (fromYearSegment f y s).freq = f := by
  cases f <;> rfl

theorem fromSdmxAs_freq (f : Freq) (s : Str) (p : Period) (h : fromSdmxAs f s = .ok p) : p.freq = f := by
  cases f <;> simp only [fromSdmxAs] at h
  case I | Y =>
    obtain ⟨n, -, hk⟩ := Except.bind_eq_ok.1 h
    cases hk; rfl
  case H | Q | M =>
    split at h
    · obtain ⟨y, -, hk⟩ := Except.bind_eq_ok.1 h
      obtain ⟨q, -, hk⟩ := Except.bind_eq_ok.1 hk
      cases hk; exact fromYearSegment_freq _ _ _
    · cases h
  case D =>
    split at h
    · obtain ⟨y, -, hk⟩ := Except.bind_eq_ok.1 h
      obtain ⟨m, -, hk⟩ := Except.bind_eq_ok.1 hk
      obtain ⟨d, -, hk⟩ := Except.bind_eq_ok.1 hk
      simp only [fromYmd] at hk
      split at hk
      · cases hk; rfl
      · cases hk
    · cases h

theorem roundtrip_parts (p : Period) (s : Str) (hs : toSdmx p = .ok s) (hrt : (toSdmx p).bind fromSdmx = .ok p) :
    detectFreq s = .ok (some p.freq) ∧ fromSdmxAs p.freq s = .ok p := by
  obtain ⟨s', hs', h⟩ := Except.bind_eq_ok.1 hrt
  cases hs.symm.trans hs'
  obtain ⟨o, hd, h⟩ := Except.bind_eq_ok.1 h
  cases o with
  | none => cases h
  | some f' =>
    cases fromSdmxAs_freq f' s p h
    exact ⟨hd, h⟩

/-- **Sequences.** For periods `ps` of one frequency whose SDMX strings each round-trip (the hypotheses of
`sdmx_roundtrip_regular/_daily/_integer`), parsing the list of their strings -- in any order, with gaps or repetitions --
returns exactly `ps`, with the frequency given or auto-detected from the first string. -/
theorem periods_from_sdmx_roundtrip (f : Freq) (ps : List Period) (ss : List Str)
    (hf : ∀ p ∈ ps, p.freq = f) (hss : ps.mapM toSdmx = .ok ss)
    (hrt : ∀ p ∈ ps, (toSdmx p).bind fromSdmx = .ok p) :
    periodsFromSdmx none ss = .ok ps ∧ periodsFromSdmx (some f) ss = .ok ps := by
  have hm : ss.mapM (fromSdmxAs f) = .ok ps :=
    mapM_roundtrip hss fun p hp s hs => hf p hp ▸ (roundtrip_parts p s hs (hrt p hp)).2
  cases ps with
  | nil => cases hss; exact ⟨rfl, rfl⟩
  | cons p ps =>
    rw [List.mapM_cons] at hss
    obtain ⟨s, hs, h⟩ := Except.bind_eq_ok.1 hss
    obtain ⟨ss', -, ⟨⟩⟩ := Except.bind_eq_ok.1 h
    have h1 := (roundtrip_parts p s hs (hrt p (List.mem_cons_self ..))).1
    rw [hf p (List.mem_cons_self ..)] at h1
    refine ⟨?_, hm⟩
    simp only [periodsFromSdmx, h1, bind, Except.bind, pure, Except.pure]
    exact hm

/-- the same without assuming that the strings exist: they do, and parsing them gives the periods back -/
theorem periods_from_sdmx_roundtrip_exists (f : Freq) (ps : List Period) (hf : ∀ p ∈ ps, p.freq = f)
    (hrt : ∀ p ∈ ps, (toSdmx p).bind fromSdmx = .ok p) :
    ∃ ss, ps.mapM toSdmx = .ok ss ∧ periodsFromSdmx none ss = .ok ps ∧ periodsFromSdmx (some f) ss = .ok ps := by
  obtain ⟨ss, hss⟩ := mapM_ok_of_forall_ok (f := toSdmx) (l := ps) fun p hp =>
    (Except.bind_eq_ok.1 (hrt p hp)).imp fun _ h => h.1
  exact ⟨ss, hss, periods_from_sdmx_roundtrip f ps ss hf hss hrt⟩

/-- non-vacuity: a quarterly sequence with a gap, out of order and with a repetition (2021-Q3, 2020-Q1, 2021-Q3) -/
example : ∃ ss, [(⟨.Q, 8086⟩ : Period), ⟨.Q, 8080⟩, ⟨.Q, 8086⟩].mapM toSdmx = .ok ss ∧
    periodsFromSdmx none ss = .ok [⟨.Q, 8086⟩, ⟨.Q, 8080⟩, ⟨.Q, 8086⟩] := by
  obtain ⟨ss, h1, h2, -⟩ := periods_from_sdmx_roundtrip_exists .Q [⟨.Q, 8086⟩, ⟨.Q, 8080⟩, ⟨.Q, 8086⟩]
    (by decide)
    (by
      intro p hp; simp at hp
      rcases hp with h | h | h <;> subst h
      · exact sdmx_roundtrip_regular .Q (by simp [regularFreqs]) 8086 (by decide) (by decide)
      · exact sdmx_roundtrip_regular .Q (by simp [regularFreqs]) 8080 (by decide) (by decide)
      · exact sdmx_roundtrip_regular .Q (by simp [regularFreqs]) 8086 (by decide) (by decide))
  exact ⟨ss, h1, h2⟩

/-! ## 5. Non-vacuity -/

/-- the hypotheses of the string round trips are met by concrete periods (2020-Q4, 2020-02-29) -/
example : (toSdmx ⟨.Q, 8083⟩).bind fromSdmx = .ok ⟨.Q, 8083⟩ :=
  sdmx_roundtrip_regular .Q (by simp [regularFreqs]) 8083 (by decide) (by decide)
example : (toSdmx ⟨.D, 737484⟩).bind fromSdmx = .ok ⟨.D, 737484⟩ := sdmx_roundtrip_daily 737484 (by decide)
example : refrequent ⟨.M, 24241⟩ .D .end_ = .ok ⟨.D, 737484⟩ := by decide
example : ((Freq.Q, Freq.M) ∈ finerPairs) ∧ Freq.M ∈ calendarFreqs := by decide
example : 0 ≤ (ord2ymd 737484).1 ∧ (ord2ymd 737484).1 ≤ 9999 := by decide

end IrisVerif.Dates.C11

