/-
Tie T for the matrix code of property C14 (trend filters): the hand-written executable model `Model/HP.lean` EQUALS
the definitions that `tools/gens/npmat_c14.py` regenerates on every run from `/repo/src/irispie/series/_ell_one.py`
(`Generated/EllOneGen.lean`) and `/repo/src/irispie/series/_hp.py` (`Generated/HpGen.lean`), for every number of
periods (and every smoothing parameter, every list of constraint positions).
-/
import IrisVerif.Props.GenTieCore
import IrisVerif.Model.HP
import IrisVerif.Generated.EllOneGen
import IrisVerif.Generated.HpGen

namespace IrisVerif.GenTieC14

open IrisVerif IrisVerif.QMat IrisVerif.HP IrisVerif.GenTie IrisVerif.QMatNp

/-! ## `_ell_one.py`: the difference matrices of the l1 trend filter

The generated definitions are read off by composing the rules of `GenTieCore` for `Is a R C f` ("`a` is the `R × C`
matrix with entries `f`"), one per numpy operation of the two setups.  As there, a bound is passed both as the `Int`
literal of the generated text (`kz`) and as the natural number it stands for (`k`, with `hk` closed by `rfl`). -/

theorem eye2_sub (n : Nat) (kz : Int) (k : Nat) (hk : kz = (k : Int)) :
    eye2 ((n : Int) - kz) (n : Int) = QMat.ofFn (n - k) n (fun i j => if i = j then 1 else 0) := by
  subst hk
  unfold eye2
  have h1 : ((n : Int) - (k : Int)).toNat = n - k := by omega
  rw [h1, Int.toNat_natCast]

theorem sliceIdx_neg_two (n : Nat) : sliceIdx n (-(2 : Int)) = n - 2 := sliceIdx_neg n 2 (by omega)

/-- **`_first_order_matrix_setup`**: the second component `D` is the model's first-difference matrix, for every number
of periods `n` (for `n = 0`, where numpy raises, both sides are the empty matrix) -/
theorem model_eq_generated_lonfD_first (n : Nat) :
    lonfD 1 n = (Gen.EllOne._first_order_matrix_setup (n : Int)).2 := by
  have hd := Is.ofFn (n - 1) n (fun i j => if i = j then (1 : Rat) else 0)
  have hD := Is.eye_super (-1) (((hd.colsFrom 1 1 rfl).sub (hd.colsUpToNeg (-1) 1 rfl Nat.one_pos)).congr
    (fun _ _ _ _ => by ring))
  dsimp only [Gen.EllOne._first_order_matrix_setup]
  rw [eye2_sub n 1 1 rfl, hD.eq_ofFn, lonfD, if_pos rfl]

/-- **`_second_order_matrix_setup`**: the second component `D` is the model's second-difference matrix
(`D[i,i] = 1, D[i,i+1] = -2, D[i,i+2] = 1`), for every number of periods -/
theorem model_eq_generated_lonfD_second (n : Nat) :
    lonfD 2 n = (Gen.EllOne._second_order_matrix_setup (n : Int)).2 := by
  have hd := Is.ofFn (n - 2) n (fun i j => if i = j then (1 : Rat) else 0)
  have hD1 := Is.eye_super (-2) (((hd.colsFrom 1 1 rfl).sub
    ((hd.colsUpToNeg (-1) 1 rfl Nat.one_pos).smul 2)).congr (fun _ _ _ _ => by ring))
  have hD2 := hD1.setColsFrom 2 2 rfl ((hD1.colsFrom 2 2 rfl).add (hd.colsUpToNeg (-2) 2 rfl Nat.two_pos))
  dsimp only [Gen.EllOne._second_order_matrix_setup]
  rw [eye2_sub n 2 2 rfl, hD2.eq_ofFn, lonfD, if_neg (by decide)]
  apply ofFn_congr
  intro i j _ _
  unfold kEntry
  -- columns 0 and 1 are those of the first update; column `j + 2` gains the identity's column `j`
  by_cases h : 2 ≤ j
  · obtain ⟨j, rfl⟩ := Nat.exists_eq_add_of_le h
    rw [if_pos h, Nat.add_sub_cancel_left]
    by_cases h0 : i = j
    · subst h0; simp [Nat.add_comm 2 i]
    · have h2 : ¬ 2 + j = i + 2 := by omega
      rw [if_neg h0, if_neg h2, add_zero]
  · have h2 : ¬ j = i + 2 := by omega
    rw [if_neg h, if_neg h2]

/-- the first component `d` of the setup, which `lonf` does not use, is the plain rectangular identity -/
theorem generated_d_first (n : Nat) :
    (Gen.EllOne._first_order_matrix_setup (n : Int)).1 = QMat.ofFn (n - 1) n (fun i j => if i = j then 1 else 0) :=
  eye2_sub n 1 1 rfl

/-! ## `_hp.py`: the plain filter matrix `F = λ KᵀK` -/

/-- the two loops of `_create_plain_filter_matrix` build the model's second-difference matrix `K` -/
theorem generated_K (n : Nat) :
    (List.range (n - 2)).foldl (fun (K : QMat) (i : Nat) => QMatNp.setEntry K (i : Int) ((i : Int) + 1) (-2))
      ((List.range (n - 2)).foldl (fun (K : QMat) (i : Nat) =>
          QMatNp.setEntry (QMatNp.setEntry K (i : Int) (i : Int) 1) (i : Int) ((i : Int) + 2) 1) (QMat.zero (n - 2) n))
      = hpK n := by
  have l1 := Is.foldl_rows (R := n - 2) (C := n)
    (fun (K : QMat) (i : Nat) => QMatNp.setEntry (QMatNp.setEntry K (i : Int) (i : Int) 1) (i : Int) ((i : Int) + 2) 1)
    (fun i c old => if c = i + 2 then 1 else if c = i then 1 else old)
    (by
      intro K f i hi' hK
      have e : ((i : Int) + 2) = ((i + 2 : Nat) : Int) := by omega
      rw [e]
      refine ((hK.setEntry i i 1 hi' (by omega)).setEntry i (i + 2) 1 hi' (by omega)).congr (fun r c _ _ => ?_)
      -- `setEntry` tests `r = i ∧ c = …`, the target tests the row first: the same function, by cases on the row
      by_cases hr : r = i <;> simp [hr])
    (QMat.zero (n - 2) n) _ (Is.zero _ _) (n - 2) (Nat.le_refl _)
  have l2 := Is.foldl_rows (R := n - 2) (C := n)
    (fun (K : QMat) (i : Nat) => QMatNp.setEntry K (i : Int) ((i : Int) + 1) (-2))
    (fun i c old => if c = i + 1 then -2 else old)
    (by
      intro K f i hi' hK
      have e : ((i : Int) + 1) = ((i + 1 : Nat) : Int) := by omega
      rw [e]
      refine (hK.setEntry i (i + 1) (-2) hi' (by omega)).congr (fun r c _ _ => ?_)
      by_cases hr : r = i <;> simp [hr])
    _ _ l1 (n - 2) (Nat.le_refl _)
  rw [l2.eq_ofFn]
  unfold hpK kEntry
  apply ofFn_congr
  intro i j hi' hj'
  simp only [hi', if_true]
  -- the loops write the diagonal last, the model tests it first; the three positions are distinct
  by_cases h0 : j = i
  · rw [if_neg (by omega), if_neg (by omega), if_pos h0, if_pos h0]
  · simp only [if_neg h0]

/-- **`_create_plain_filter_matrix`**: the method stores the model's `plainF n λ` in `self._F` and changes nothing else,
for every number of periods and every smoothing parameter -/
theorem model_eq_generated_plainF (n : Nat) (self : Gen.Hp.HPFilter) (hn : self._num_periods = (n : Int)) :
    Gen.Hp.HPFilter._create_plain_filter_matrix self = { self with _F := plainF n self._smooth } := by
  unfold Gen.Hp.HPFilter._create_plain_filter_matrix
  simp only []
  rw [hn]
  have h2 : ((n : Int) - 2) = ((n : Int) - ((2 : Nat) : Int)) := rfl
  rw [h2, foldl_range_sub, foldl_range_sub, zeros_sub_left, generated_K]
  rfl

/-! ## `_hp.py`: level and change constraints -/

/-- the loops of `_add_level_constraints` and `_add_change_constraints`: pass `i` over `enumerate(xs)` rewrites row `i` of the
first matrix and column `i` of the second, each entry from its old value by `h (xs i)`; started from zeros, row (column) `i`
ends as `h (xs i) · 0` -/
theorem foldl_enumerate_border (R C : Nat) (xs : List Nat) (sr sc : QMat → Int → Int → QMat) (h : Nat → Nat → Rat → Rat)
    (hr : ∀ (K : QMat) (f : Nat → Nat → Rat) (i : Nat), i < xs.length → Is K xs.length C f →
      Is (sr K (i : Int) ((xs.getD i 0 : Nat) : Int)) xs.length C
        (fun r c => if r = i then h (xs.getD i 0) c (f r c) else f r c))
    (hc : ∀ (K : QMat) (f : Nat → Nat → Rat) (i : Nat), i < xs.length → Is K R xs.length f →
      Is (sc K (i : Int) ((xs.getD i 0 : Nat) : Int)) R xs.length
        (fun r c => if c = i then h (xs.getD i 0) r (f r c) else f r c)) :
    (QMatNp.enumerate (xs.map Int.ofNat)).foldl
        (fun (st : QMat × QMat) (p : Int × Int) => (sr st.1 p.1 p.2, sc st.2 p.1 p.2))
        (QMat.zero xs.length C, QMat.zero R xs.length)
      = (QMat.ofFn xs.length C (fun i c => h (xs.getD i 0) c 0), QMat.ofFn R xs.length (fun r i => h (xs.getD i 0) r 0)) := by
  rw [foldl_enumerate _ 0, List.length_map]
  simp only [getD_map_ofNat]
  rw [foldl_pair (List.range xs.length) (fun K (i : Nat) => sr K (i : Int) ((xs.getD i 0 : Nat) : Int))
      (fun K (i : Nat) => sc K (i : Int) ((xs.getD i 0 : Nat) : Int)),
    (Is.foldl_rows _ (fun i => h (xs.getD i 0)) hr _ _ (Is.zero _ _) xs.length le_rfl).eq_ofFn,
    (Is.foldl_cols _ (fun i => h (xs.getD i 0)) hc _ _ (Is.zero _ _) xs.length le_rfl).eq_ofFn]
  congr 1
  · exact ofFn_congr _ _ _ _ fun i c hi _ => if_pos hi
  · exact ofFn_congr _ _ _ _ fun r i _ hi => if_pos hi

/-- the loop of `_add_level_constraints`: `extra_rows[i, j] = 1; extra_variants[j, i] = 1` for `i, j in enumerate(lw)` -/
theorem generated_level_loop (n : Nat) (lw : List Nat) (hlw : ∀ i, i < lw.length → lw.getD i 0 < n) :
    (QMatNp.enumerate (lw.map Int.ofNat)).foldl (fun (st : QMat × QMat) (p : Int × Int) =>
        (QMatNp.setEntry st.1 p.1 p.2 1, QMatNp.setEntry st.2 p.2 p.1 1))
      (QMat.zero lw.length n, QMat.zero (n + lw.length) lw.length)
    = (QMat.ofFn lw.length n (fun i j => levelPat (lw.getD i 0) j),
       QMat.ofFn (n + lw.length) lw.length (fun r i => levelPat (lw.getD i 0) r)) :=
  foldl_enumerate_border (n + lw.length) n lw (fun K i p => QMatNp.setEntry K i p 1) (fun K i p => QMatNp.setEntry K p i 1)
    (fun p c old => if c = p then 1 else old)
    (fun K f i hi' hK => (hK.setEntry i (lw.getD i 0) 1 hi' (hlw i hi')).congr fun r c _ _ => by
      by_cases hr : r = i <;> simp [hr])
    (fun K f i hi' hK => (hK.setEntry (lw.getD i 0) i 1 (Nat.lt_add_right _ (hlw i hi')) hi').congr fun r c _ _ => by
      by_cases hc : c = i <;> simp [hc])

/-- **`_add_level_constraints`**: the method borders `self._F` exactly as the model's `addLevel` does and adds the number
of constraints to `_num_extra_rows`, for every list of in-range positions -/
theorem model_eq_generated_addLevel (n : Nat) (self : Gen.Hp.HPFilter) (hn : self._num_periods = (n : Int))
    (lw : List Nat) (hlw : ∀ i, i < lw.length → lw.getD i 0 < n) :
    Gen.Hp.HPFilter._add_level_constraints self (lw.map Int.ofNat)
      = { self with _F := addLevel n self._F lw, _num_extra_rows := self._num_extra_rows + (lw.length : Int) } := by
  unfold Gen.Hp.HPFilter._add_level_constraints addLevel
  by_cases he : lw.isEmpty = true
  · have : lw = [] := List.isEmpty_iff.1 he
    subst this
    simp
  · have he' : ¬ ((lw.map Int.ofNat).isEmpty = true) := by simpa using he
    simp only [he, he', if_false, Bool.false_eq_true]
    simp only [hn, List.length_map, zeros_natCast]
    have e : ((n : Int) + (lw.length : Int)) = ((n + lw.length : Nat) : Int) := by omega
    rw [e, zeros_natCast, generated_level_loop n lw hlw]

/-- the loop of `_add_change_constraints` -/
theorem generated_change_loop (R C : Nat) (cw : List Nat)
    (hcw : ∀ i, i < cw.length → 1 ≤ cw.getD i 0 ∧ cw.getD i 0 < C ∧ cw.getD i 0 < R + cw.length) :
    (QMatNp.enumerate (cw.map Int.ofNat)).foldl (fun (st : QMat × QMat) (p : Int × Int) =>
        (QMatNp.setEntry (QMatNp.setEntry st.1 p.1 (p.2 - 1) (-1)) p.1 p.2 1,
         QMatNp.setEntry (QMatNp.setEntry st.2 (p.2 - 1) p.1 (-1)) p.2 p.1 1))
      (QMat.zero cw.length C, QMat.zero (R + cw.length) cw.length)
    = (QMat.ofFn cw.length C (fun i c => changePat (cw.getD i 0) c),
       QMat.ofFn (R + cw.length) cw.length (fun r i => changePat (cw.getD i 0) r)) := by
  have e : ∀ i, i < cw.length → (((cw.getD i 0 : Nat) : Int) - 1) = ((cw.getD i 0 - 1 : Nat) : Int) :=
    fun i hi' => by have := (hcw i hi').1; omega
  refine foldl_enumerate_border (R + cw.length) C cw
    (fun K i p => QMatNp.setEntry (QMatNp.setEntry K i (p - 1) (-1)) i p 1)
    (fun K i p => QMatNp.setEntry (QMatNp.setEntry K (p - 1) i (-1)) p i 1)
    (fun p c old => if c = p then 1 else if c + 1 = p then -1 else old)
    (fun K f i hi' hK => ?_) (fun K f i hi' hK => ?_)
  · obtain ⟨h1, h2, _⟩ := hcw i hi'
    rw [e i hi']
    refine ((hK.setEntry i (cw.getD i 0 - 1) (-1) hi' (by omega)).setEntry i (cw.getD i 0) 1 hi' h2).congr
      (fun r c _ _ => ?_)
    have e' : c = cw.getD i 0 - 1 ↔ c + 1 = cw.getD i 0 := by omega
    by_cases hr : r = i
    · simp only [hr, true_and, if_true, e']
    · simp only [hr, false_and, if_false]
  · obtain ⟨h1, _, h3⟩ := hcw i hi'
    rw [e i hi']
    refine ((hK.setEntry (cw.getD i 0 - 1) i (-1) (by omega) hi').setEntry (cw.getD i 0) i 1 h3 hi').congr
      (fun r c _ _ => ?_)
    have e' : r = cw.getD i 0 - 1 ↔ r + 1 = cw.getD i 0 := by omega
    by_cases hc : c = i
    · simp only [hc, and_true, if_true, e']
    · simp only [hc, and_false, if_false]

/-- **`_add_change_constraints`**: the method borders `self._F` exactly as the model's `addChange` does and adds the
number of constraints to `_num_extra_rows`, for every list of positions `1 ≤ j` inside the current matrix (position 0
is removed beforehand by `_remove_first_date_change`; with `j = 0` numpy's index `-1` would wrap around) -/
theorem model_eq_generated_addChange (self : Gen.Hp.HPFilter) (cw : List Nat)
    (hcw : ∀ i, i < cw.length → 1 ≤ cw.getD i 0 ∧ cw.getD i 0 < self._F.cols ∧ cw.getD i 0 < self._F.rows + cw.length) :
    Gen.Hp.HPFilter._add_change_constraints self (cw.map Int.ofNat)
      = { self with _F := addChange self._F cw, _num_extra_rows := self._num_extra_rows + (cw.length : Int) } := by
  unfold Gen.Hp.HPFilter._add_change_constraints addChange
  by_cases he : cw.isEmpty = true
  · have : cw = [] := List.isEmpty_iff.1 he
    subst this
    simp
  · have he' : ¬ ((cw.map Int.ofNat).isEmpty = true) := by simpa using he
    simp only [he, he', if_false, Bool.false_eq_true]
    simp only [List.length_map, shape_fst, shape_snd, zeros_natCast]
    have e : ((self._F.rows : Int) + (cw.length : Int)) = ((self._F.rows + cw.length : Nat) : Int) := by omega
    rw [e, zeros_natCast, generated_change_loop self._F.rows self._F.cols cw hcw]

/-- **the sequence of `__init__`** (`_create_plain_filter_matrix`, `_add_level_constraints`, `_add_change_constraints`;
`__init__` itself, which only stores its arguments and calls the three methods, is not regenerated): the matrix left in
`self._F` is the model's `initF` -/
theorem model_eq_generated_initF (n : Nat) (self : Gen.Hp.HPFilter) (hn : self._num_periods = (n : Int))
    (lw cw : List Nat) (hlw : ∀ i, i < lw.length → lw.getD i 0 < n)
    (hcw : ∀ i, i < cw.length → 1 ≤ cw.getD i 0 ∧ cw.getD i 0 < (addLevel n (plainF n self._smooth) lw).cols ∧
      cw.getD i 0 < (addLevel n (plainF n self._smooth) lw).rows + cw.length) :
    (Gen.Hp.HPFilter._add_change_constraints
      (Gen.Hp.HPFilter._add_level_constraints (Gen.Hp.HPFilter._create_plain_filter_matrix self) (lw.map Int.ofNat))
      (cw.map Int.ofNat))._F = initF n self._smooth lw cw := by
  rw [model_eq_generated_plainF n self hn,
    model_eq_generated_addLevel n { self with _F := plainF n self._smooth } hn lw hlw,
    model_eq_generated_addChange _ cw hcw]
  rfl

/-! ## non-vacuity (kernel evaluation): a filter over 5 periods with a level constraint at 1 and a change constraint at 3 -/

example : (∀ i, i < [1].length → [1].getD i 0 < 5) ∧
    (∀ i, i < [3].length → 1 ≤ [3].getD i 0 ∧ [3].getD i 0 < (addLevel 5 (plainF 5 1600) [1]).cols ∧
      [3].getD i 0 < (addLevel 5 (plainF 5 1600) [1]).rows + [3].length) := by
  constructor
  · intro i hi'
    obtain rfl : i = 0 := Nat.lt_one_iff.1 hi'
    decide
  · intro i hi'
    obtain rfl : i = 0 := Nat.lt_one_iff.1 hi'
    decide +kernel

theorem ex_initF_agrees :
    ((Gen.Hp.HPFilter._add_change_constraints (Gen.Hp.HPFilter._add_level_constraints
        (Gen.Hp.HPFilter._create_plain_filter_matrix ⟨5, 1600, false, 0, QMat.zero 0 0⟩) [1]) [3])._F
      == initF 5 1600 [1] [3]) = true := by
  decide +kernel

theorem ex_lonfD_agrees :
    ((Gen.EllOne._second_order_matrix_setup 6).2 == lonfD 2 6 && (Gen.EllOne._first_order_matrix_setup 6).2 == lonfD 1 6)
      = true := by
  decide +kernel

end IrisVerif.GenTieC14
