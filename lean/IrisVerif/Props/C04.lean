/-
Property C04 -- model source text is translated to equations without changing their meaning.
Theorems about the token-level model `IrisVerif.Model.ModelLang` (its header lists what is modelled) and its token front end
`IrisVerif.Model.ModelLangTok`.  The character level proper (regexes, the PEG grammars, Jinja2 itself) is tied by the
differential run only => level "partial".
-/
import IrisVerif.Model.ModelLang
import IrisVerif.Model.ModelLangTok
import Mathlib.Algebra.Field.Basic
import Mathlib.Algebra.BigOperators.Group.List.Basic
import Mathlib.Algebra.Order.Field.Basic
import Mathlib.Algebra.Order.Field.Rat
import Mathlib.Tactic.Positivity
import Mathlib.Tactic.NormNum
import Mathlib.Data.Rat.Defs

namespace IrisVerif.C04

open IrisVerif.ModelLang

/-! ## Shifting all names shifts the period of evaluation -/

/-- for every tree, every carrier, every interpretation of the operation and function symbols; only names move, function
names are untouched -/
theorem eval_shiftAllNames {α : Type} (A : Alg α) (data : Data α) (k t : Int) (e : Expr) :
    eval A data t (shiftAllNames k e) = eval A data (t + k) e := by
  induction e <;> simp only [shiftAllNames, eval, Int.add_assoc, Int.add_comm k, *]

/-- shifting by zero is the identity on trees (the `|shift| = 1` branch of `_pseudo_mov` returns the code unshifted) -/
theorem shiftAllNames_zero (e : Expr) : shiftAllNames 0 e = e := by
  induction e <;> simp only [shiftAllNames, Int.add_zero, *]

/-- two shifts compose additively (a shifted name inside a pseudofunction: `diff(x{-1}, -2)` reads `x{-3}`) -/
theorem shiftAllNames_add (j k : Int) (e : Expr) : shiftAllNames k (shiftAllNames j e) = shiftAllNames (j + k) e := by
  induction e <;> simp only [shiftAllNames, Int.add_assoc, *]

example : shiftAllNames (-2) (.bin .add (.name "x" (-1)) (.call1 "log" (.name "y" 0)))
    = .bin .add (.name "x" (-3)) (.call1 "log" (.name "y" (-2))) := by decide

/-! ## Pseudofunctions evaluate to their documented formulas

The carrier is any field `K` with arbitrary interpretations `powf` of `^` and `f1`, `f2` of the function symbols. -/

section Field
variable {K : Type} [Field K]

/-- the standard interpretation: `+ - * /` and unary minus are the field operations -/
def fieldAlg (ofRat : Rat → K) (powf : K → K → K) (f1 : String → K → K) (f2 : String → K → K → K) : Alg K where
  const := ofRat
  neg := fun a => -a
  bin := fun op a b => match op with
    | .add => a + b | .sub => a - b | .mul => a * b | .div => a / b | .pow => powf a b
  call1 := f1
  call2 := f2

variable (ofRat : Rat → K) (powf : K → K → K) (f1 : String → K → K) (f2 : String → K → K → K)

local notation "𝔸" => fieldAlg ofRat powf f1 f2

theorem eval_shift (data : Data K) (t k : Int) (e : Expr) :
    eval 𝔸 data t (expandPF .shift e k) = eval 𝔸 data (t + k) e :=
  eval_shiftAllNames ..

theorem eval_diff (data : Data K) (t k : Int) (e : Expr) :
    eval 𝔸 data t (expandPF .diff e k) = eval 𝔸 data t e - eval 𝔸 data (t + k) e := by
  rw [← eval_shiftAllNames]; rfl

theorem eval_diffLog (data : Data K) (t k : Int) (e : Expr) :
    eval 𝔸 data t (expandPF .diffLog e k) = f1 "log" (eval 𝔸 data t e) - f1 "log" (eval 𝔸 data (t + k) e) := by
  rw [← eval_shiftAllNames]; rfl

theorem eval_roc (data : Data K) (t k : Int) (e : Expr) :
    eval 𝔸 data t (expandPF .roc e k) = eval 𝔸 data t e / eval 𝔸 data (t + k) e := by
  rw [← eval_shiftAllNames]; rfl

/-- `pct`: the expansion `100*(e)/(e[k])-100` is the documented `100*(e/e[k] - 1)`
(the proof is `mul_div_assoc` and distributivity: it does not use the value of a division by zero) -/
theorem eval_pct (data : Data K) (t k : Int) (e : Expr) (h100 : ofRat 100 = 100) :
    eval 𝔸 data t (expandPF .pct e k) = 100 * (eval 𝔸 data t e / eval 𝔸 data (t + k) e - 1) := by
  rw [← eval_shiftAllNames, mul_sub, mul_one, ← mul_div_assoc, ← h100]
  rfl

theorem eval_joinOp {α : Type} (A : Alg α) (data : Data α) (t : Int) (op : BinOp) (x : Expr) (xs : List Expr) :
    eval A data t (joinOp op (x :: xs)) = (xs.map (eval A data t)).foldl (A.bin op) (eval A data t x) := by
  rw [joinOp, List.foldl_map]
  exact (List.foldl_hom (eval A data t) fun _ _ => rfl).symm

/-- the periods of a moving window of length `|k|`: `t, t±1, …` towards the sign of `k` -/
def window (t k : Int) : List Int := (movShifts k).map (fun s => t + s)

theorem window_eq (t k : Int) :
    window t k = (List.range k.natAbs).map (fun (i : Nat) => if k > 0 then t + (i : Int) else t - (i : Int)) := by
  rw [window, movShifts, List.map_map]
  exact List.map_congr_left fun i _ => apply_ite (t + ·) ..

theorem window_length (t k : Int) : (window t k).length = k.natAbs := by
  rw [window_eq, List.length_map, List.length_range]

theorem window_get (t k : Int) (i : Nat) (hi : i < k.natAbs) :
    (window t k)[i]? = some (if k > 0 then t + i else t - i) := by
  rw [window_eq, List.getElem?_map, List.getElem?_range hi]; rfl

theorem window_pos (t k : Int) (h : 0 < k) : window t k = (List.range k.natAbs).map (fun (i : Nat) => t + (i : Int)) := by
  simp only [window_eq, gt_iff_lt, h, if_true]

theorem window_neg (t k : Int) (h : k < 0) : window t k = (List.range k.natAbs).map (fun (i : Nat) => t - (i : Int)) := by
  simp only [window_eq, gt_iff_lt, not_lt.2 h.le, if_false]

example : window 10 (-4) = [10, 9, 8, 7] := by decide
example : window 10 3 = [10, 11, 12] := by decide
example : window 10 4 = [10, 11, 12, 13] := by decide

/-- the terms of a moving window are the argument shifted along the window (for `|k| = 1` the one shift is zero) -/
theorem movTerms_eq (e : Expr) {k : Int} (hk : k ≠ 0) : movTerms e k = (movShifts k).map (fun s => shiftAllNames s e) := by
  rw [movTerms, if_neg hk]
  split_ifs with h
  · rcases h with rfl | rfl <;> exact congrArg (fun x => [x]) (shiftAllNames_zero e).symm
  · rfl

theorem movTerms_eval {α : Type} (A : Alg α) (data : Data α) (t k : Int) (e : Expr) (hk : k ≠ 0) :
    (movTerms e k).map (eval A data t) = (window t k).map (fun s => eval A data s e) := by
  simp only [movTerms_eq e hk, window, List.map_map, Function.comp_def, eval_shiftAllNames]

/-- a moving-window join evaluates to the left fold of the operation over the values of the argument in the window, started
from any left unit `u` of the operation: the window is not empty, and the code starts from its first term -/
theorem eval_joinOp_movTerms {α : Type} (A : Alg α) (op : BinOp) (data : Data α) (t k : Int) (e : Expr) (hk : k ≠ 0)
    (u : α) (hu : ∀ a, A.bin op u a = a) :
    eval A data t (joinOp op (movTerms e k)) = ((window t k).map (fun s => eval A data s e)).foldl (A.bin op) u := by
  rw [← movTerms_eval A data t k e hk]
  cases h : movTerms e k with
  | nil => simp [movTerms_eq e hk, movShifts, hk] at h
  | cons x xs => rw [eval_joinOp, List.map_cons, List.foldl_cons, hu]

/-- `mov_sum(e, k)` is the sum of `e` over the window, for every window length -/
theorem eval_movSum (data : Data K) (t k : Int) (e : Expr) (hk : k ≠ 0) :
    eval 𝔸 data t (expandPF .movSum e k) = ((window t k).map (fun s => eval 𝔸 data s e)).sum := by
  rw [expandPF, eval_joinOp_movTerms 𝔸 .add data t k e hk 0 zero_add, List.sum_eq_foldl]
  rfl

theorem eval_movProd (data : Data K) (t k : Int) (e : Expr) (hk : k ≠ 0) :
    eval 𝔸 data t (expandPF .movProd e k) = ((window t k).map (fun s => eval 𝔸 data s e)).prod := by
  rw [expandPF, eval_joinOp_movTerms 𝔸 .mul data t k e hk 1 one_mul, List.prod_eq_foldl]
  rfl

theorem eval_movAvg (data : Data K) (t k : Int) (e : Expr) (hk : k ≠ 0) :
    eval 𝔸 data t (expandPF .movAvg e k)
      = ((window t k).map (fun s => eval 𝔸 data s e)).sum / ofRat (k.natAbs : Nat) := by
  rw [← eval_movSum ofRat powf f1 f2 data t k e hk]
  rfl

/-- default shifts: `-1` for shift/diff/diff_log/pct/roc, `-4` for the moving windows; an explicit shift wins -/
theorem resolveShift_default (pf : PF) : resolveShift pf none = pf.defaultShift := rfl
theorem resolveShift_explicit (pf : PF) (k : Int) : resolveShift pf (some k) = k := rfl

/-- an explicit zero is an explicit shift, not "no second argument": it is never replaced by the default -/
theorem resolveShift_zero (pf : PF) : resolveShift pf (some 0) = 0 := rfl

theorem eval_shift_zero (data : Data K) (t : Int) (e : Expr) :
    eval 𝔸 data t (expandPF .shift e (resolveShift .shift (some 0))) = eval 𝔸 data t e := by
  rw [resolveShift_zero, eval_shift, Int.add_zero]

theorem eval_diff_zero (data : Data K) (t : Int) (e : Expr) :
    eval 𝔸 data t (expandPF .diff e (resolveShift .diff (some 0))) = 0 := by
  rw [resolveShift_zero, eval_diff, Int.add_zero, sub_self]

theorem eval_roc_zero (data : Data K) (t : Int) (e : Expr) (h : eval 𝔸 data t e ≠ 0) :
    eval 𝔸 data t (expandPF .roc e (resolveShift .roc (some 0))) = 1 := by
  rw [resolveShift_zero, eval_roc, Int.add_zero, div_self h]

/-- `mov_sum(e, 0)` is the empty sum: `movTerms e 0` is `[.num 0]` -/
theorem eval_movSum_zero (data : Data K) (t : Int) (e : Expr) :
    eval 𝔸 data t (expandPF .movSum e (resolveShift .movSum (some 0))) = ofRat 0 := rfl

/-- ... whereas the omitted argument is the default: the two differ already on a single name -/
theorem explicit_zero_is_not_default (defs : String → Option Expr) :
    expand defs (.pseudo .shift (.name "x" 0) (some 0)) = some (.name "x" 0)
    ∧ expand defs (.pseudo .shift (.name "x" 0) none) = some (.name "x" (-1)) :=
  ⟨rfl, rfl⟩

/-- every documented spelling is recognised, the two spellings of a pseudofunction are the same pseudofunction -/
theorem spellings :
    PF.ofName? "diff_log" = PF.ofName? "difflog" ∧ PF.ofName? "mov_sum" = PF.ofName? "movsum"
    ∧ PF.ofName? "mov_avg" = PF.ofName? "movavg" ∧ PF.ofName? "mov_prod" = PF.ofName? "movprod"
    ∧ (["diff", "diff_log", "difflog", "pct", "roc", "shift", "mov_sum", "movsum", "mov_avg", "movavg", "mov_prod", "movprod"].all
        (fun n => (PF.ofName? n).isSome)) = true := by
  refine ⟨rfl, rfl, rfl, rfl, by decide⟩

/-! ## Equations evaluate to `rhs - lhs`; macro expansion is compositional; steady variants; anticipated shocks -/

theorem eval_translate (data : Data K) (t : Int) (lhs rhs : Expr) :
    eval 𝔸 data t (translate lhs rhs) = eval 𝔸 data t rhs - eval 𝔸 data t lhs :=
  neg_add_eq_sub ..

/-- documented meaning of an equation side as written, node by node: a pseudofunction is the value of its expansion
`expandPF` (its documented formulas are `eval_shift` … `eval_movAvg`), a substitution the value of its definition -/
def evalDoc (A : Alg K) (defs : String → Option Expr) (data : Data K) (t : Int) : PExpr → Option K
  | .num q => some (A.const q)
  | .name n k => some (data n (t + k))
  | .neg e => (evalDoc A defs data t e).map A.neg
  | .bin op a b => do
    let x ← evalDoc A defs data t a
    let y ← evalDoc A defs data t b
    pure (A.bin op x y)
  | .call1 f a => (evalDoc A defs data t a).map (A.call1 f)
  | .call2 f a b => do
    let x ← evalDoc A defs data t a
    let y ← evalDoc A defs data t b
    pure (A.call2 f x y)
  | .pseudo pf arg s => some (eval A data t (expandPF pf arg (resolveShift pf s)))
  | .subs s => (defs s).map (eval A data t)

omit [Field K] in
/-- macro expansion (pseudofunctions, then substitutions) is compositional: evaluating the side as written, node by node,
is evaluating its expansion; the two fail together -/
theorem evalDoc_eq_map_expand (A : Alg K) (defs : String → Option Expr) (data : Data K) (t : Int) (p : PExpr) :
    evalDoc A defs data t p = (expand defs p).map (eval A data t) := by
  induction p with
  | num | name | pseudo | subs => rfl
  | neg a ih | call1 f a ih => simp only [evalDoc, expand, ih, Option.map_map]; rfl
  | bin op a b iha ihb | call2 f a b iha ihb =>
    simp only [evalDoc, expand, iha, ihb]
    cases expand defs a <;> cases expand defs b <;> rfl

theorem eval_expand (A : Alg K) (defs : String → Option Expr) (data : Data K) (t : Int) (p : PExpr) (e : Expr)
    (h : expand defs p = some e) : evalDoc A defs data t p = some (eval A data t e) := by
  rw [evalDoc_eq_map_expand, h]; rfl

/-- the steady version of an equation is the text after `!!` when there is one, the dynamic text otherwise -/
theorem steadyVersion_some (e : Equation) (s : Eqn PExpr) (h : e.steady = some s) : e.steadyVersion = s := by
  simp only [Equation.steadyVersion, h, Option.getD_some]
theorem steadyVersion_none (e : Equation) (h : e.steady = none) : e.steadyVersion = e.dynamic := by
  simp only [Equation.steadyVersion, h, Option.getD_none]

/-- inserting anticipated shocks = evaluating on data where each transition shock stands for shock + anticipated value -/
theorem eval_addAnticipated (data : Data K) (t : Int) (shocks : List String) (e : Expr) :
    eval 𝔸 data t (addAnticipated shocks e)
      = eval 𝔸 (fun n s => if n ∈ shocks then data n s + data (antName n) s else data n s) t e := by
  induction e with
  | name n k => rw [addAnticipated, eval, apply_ite (eval 𝔸 data t)]; rfl
  | _ => simp only [addAnticipated, eval, *]

end Field

/-! ## The pseudofunction formulas on a concrete carrier -/

/-- a concrete carrier: the rationals, `^` read as multiplication by the exponent (any function will do), functions as identity -/
def ratAlg : Alg ℚ := fieldAlg (fun q => q) (fun a b => a * b) (fun _ x => x) (fun _ x _ => x)
def rampData : Data ℚ := fun _ s => (s : ℚ)

example : eval ratAlg rampData 5 (expandPF .diff (.bin .mul (.name "x" 0) (.name "y" (-1))) (-2)) = 5 * 4 - 3 * 2 := by
  rw [ratAlg, eval_diff]; simp [eval, fieldAlg, rampData]

example : eval ratAlg rampData 5 (expandPF .pct (.name "x" 0) (-1)) = 100 * ((5 : ℚ) / 4 - 1) := by
  rw [ratAlg, eval_pct (h100 := rfl) ..]; simp [eval, rampData]

example : eval ratAlg rampData 10 (expandPF .movSum (.name "x" 0) (-4)) = 10 + 9 + 8 + 7 := by
  rw [ratAlg, eval_movSum (hk := by decide) .., show window 10 (-4) = [10, 9, 8, 7] by decide]
  norm_num [eval, rampData]

example : eval ratAlg rampData 10 (expandPF .movProd (.name "x" 0) 3) = 10 * (11 * 12) := by
  rw [ratAlg, eval_movProd (hk := by decide) ..]
  have : window 10 3 = [10, 11, 12] := by decide
  simp [this, eval, rampData]

example : eval ratAlg rampData 5 (expandPF .roc (.name "x" 0) (resolveShift .roc (some 0))) = 1 := by
  rw [ratAlg]; exact eval_roc_zero (h := by simp [eval, rampData]) ..

/-! ## Macro expansion rejects exactly the sides that mention an undefined substitution -/

/-- the substitution names that a side as written mentions (needed by the rejection theorems only) -/
def _root_.IrisVerif.ModelLang.PExpr.refs : PExpr → List String
  | .num _ => []
  | .name _ _ => []
  | .neg e => e.refs
  | .bin _ a b => a.refs ++ b.refs
  | .call1 _ a => a.refs
  | .call2 _ a b => a.refs ++ b.refs
  | .pseudo _ _ _ => []
  | .subs s => [s]

theorem isSome_bind₂ {α β γ : Type} (x : Option α) (y : Option β) (f : α → β → γ) :
    (do let a ← x; let b ← y; pure (f a b)).isSome ↔ x.isSome ∧ y.isSome := by
  cases x <;> cases y <;> simp

/-- macro expansion rejects exactly the sides that mention an undefined substitution -/
theorem expand_isSome_iff (defs : String → Option Expr) (p : PExpr) :
    (expand defs p).isSome ↔ ∀ s ∈ p.refs, (defs s).isSome := by
  induction p with
  | num | name | pseudo | subs => simp [expand, PExpr.refs]
  | neg a ih | call1 f a ih => rw [expand, Option.isSome_map]; exact ih
  | bin op a b iha ihb | call2 f a b iha ihb =>
    simp only [expand, PExpr.refs, List.mem_append, or_imp, forall_and, isSome_bind₂, iha, ihb]

/-- rejection: one undefined `$s$` anywhere in a side makes the expansion fail (the code reports a syntax error) -/
theorem expand_none_of_undefined (defs : String → Option Expr) (p : PExpr) (s : String) (hs : s ∈ p.refs) (hd : defs s = none) :
    expand defs p = none :=
  Option.not_isSome_iff_eq_none.1 fun h => by simpa [hd] using (expand_isSome_iff defs p).1 h s hs

example : expand (fun s => if s = "s0" then some (.name "a" 0) else none)
    (.bin .mul (.subs "s0") (.pseudo .diff (.name "x" 0) none))
    = some (.bin .mul (.name "a" 0) (.bin .sub (.name "x" 0) (.name "x" (-1)))) := by decide
example : expand (fun s => if s = "s0" then some (.name "a" 0) else none) (.bin .mul (.subs "s1") (.num 2)) = none := by decide

/-! ## Log status, and the order of names by kind -/

/-- without `!all-but` exactly the listed names are log-variables; with it exactly the others -/
theorem isLogly_listed (listed : List String) (n : String) : isLogly false listed n = decide (n ∈ listed) := by
  simp only [isLogly, Bool.not_false, Bool.if_false_right, Bool.and_true]
theorem isLogly_allBut (listed : List String) (n : String) : isLogly true listed n = !decide (n ∈ listed) := by
  simp only [isLogly, Bool.not_true, Bool.if_true_right, Bool.or_false]

/-- listing a set, or `!all-but` its complement (within any universe of names), is the same log status -/
theorem isLogly_complement (univ listed : List String) (n : String) (hn : n ∈ univ) :
    isLogly true (univ.filter (fun m => m ∉ listed)) n = isLogly false listed n := by
  simp [isLogly, hn]

theorem filter_kind_of_forall {l : List Decl} {c : QKind} (h : ∀ d ∈ l, d.kind = c) (k : QKind) :
    l.filter (·.kind = k) = if k = c then l else [] := by
  split_ifs with hk
  · exact List.filter_eq_self.2 fun d hd => decide_eq_true ((h d hd).trans hk.symm)
  · exact List.filter_eq_nil_iff.2 fun d hd hd' => hk ((of_decide_eq_true hd').symm.trans (h d hd))

/-- `reorder_by_kind` only permutes whole kinds: within a kind the order is untouched -/
theorem reorderByKind_filter (ds : List Decl) (k : QKind) :
    (reorderByKind ds).filter (·.kind = k) = ds.filter (·.kind = k) := by
  have block (c : QKind) : (ds.filter (·.kind = c)).filter (·.kind = k) = if k = c then ds.filter (·.kind = c) else [] :=
    filter_kind_of_forall (fun _ hd => of_decide_eq_true (List.mem_filter.1 hd).2) k
  simp only [reorderByKind, QKind.all, List.flatMap_cons, List.flatMap_nil, List.filter_append, List.filter_nil, block]
  cases k <;> simp only [reduceCtorEq, ↓reduceIte, List.append_nil, List.nil_append]

theorem namesOfKind_quantities (decls : List Decl) (allBut : Bool) (listed : List String) (k : QKind) :
    namesOfKind (quantities decls allBut listed) k = ((allDecls decls).filter (·.kind = k)).map (·.name) := by
  rw [← reorderByKind_filter, namesOfKind, quantities, List.filter_map, List.map_map]
  rfl

/-- the names of any of the nine kinds: the declared ones in declaration order, then the generated ones of that kind (`ant_` per
transition shock, `std_` per transition / measurement shock) in shock order -/
theorem namesOfKind_eq (decls : List Decl) (allBut : Bool) (listed : List String) (k : QKind) :
    namesOfKind (quantities decls allBut listed) k = (decls.filter (·.kind = k)).map (·.name)
      ++ (if k = .ant then (decls.filter (·.kind = .ts)).map (fun d => antName d.name) else [])
      ++ (if k = .tstd then (decls.filter (·.kind = .ts)).map (fun d => stdName d.name) else [])
      ++ (if k = .mstd then (decls.filter (·.kind = .ms)).map (fun d => stdName d.name) else []) := by
  have block (c : QKind) (n descr : Decl → String) (l : List Decl) :
      ((l.map fun d => (⟨c, n d, descr d⟩ : Decl)).filter (·.kind = k)).map (·.name) = if k = c then l.map n else [] := by
    rw [filter_kind_of_forall (c := c) (List.forall_mem_map.2 fun _ _ => rfl), apply_ite (List.map _), List.map_map]
    rfl
  simp only [namesOfKind_quantities, allDecls, List.filter_append, List.map_append, block]

/-- the names of a declared kind come out in declaration order, whatever else is declared and wherever the blocks are
(the generated `ant_`/`std_` quantities have their own kinds) -/
theorem namesOfKind_declared (decls : List Decl) (allBut : Bool) (listed : List String) (k : QKind)
    (hk : k = .tv ∨ k = .mv ∨ k = .ts ∨ k = .ms ∨ k = .par ∨ k = .exo) :
    namesOfKind (quantities decls allBut listed) k = (decls.filter (·.kind = k)).map (·.name) := by
  rcases hk with rfl | rfl | rfl | rfl | rfl | rfl <;> simp [namesOfKind_eq]

/-- the generated names: one `ant_` per transition shock, `std_` per transition / measurement shock, in shock order -/
theorem namesOfKind_ant (decls : List Decl) (allBut : Bool) (listed : List String)
    (hdecl : ∀ d ∈ decls, d.kind ≠ .ant) :
    namesOfKind (quantities decls allBut listed) .ant = (decls.filter (·.kind = .ts)).map (fun d => antName d.name) := by
  have h0 : decls.filter (·.kind = .ant) = [] := List.filter_eq_nil_iff.2 fun d hd => by simpa using hdecl d hd
  simp [namesOfKind_eq, h0]

/-- log status of the model: every loggable declared name has the status `isLogly`, nothing else has one -/
theorem logly_of_quantities (decls : List Decl) (allBut : Bool) (listed : List String) (q : Quantity)
    (hq : q ∈ quantities decls allBut listed) :
    q.logly = if q.kind.loggable then some (isLogly allBut listed q.name) else none := by
  obtain ⟨d, _, rfl⟩ := List.mem_map.1 hq
  rw [loglyOf]

example : namesOfKind (quantities [⟨.par, "a", ""⟩, ⟨.tv, "x", "X"⟩, ⟨.ts, "e", ""⟩, ⟨.tv, "xx", ""⟩] true ["xx"]) .tv = ["x", "xx"] := by decide
example : (quantities [⟨.par, "a", ""⟩, ⟨.tv, "x", "X"⟩, ⟨.ts, "e", ""⟩, ⟨.tv, "xx", ""⟩] true ["xx"]).map (fun q => (q.name, q.logly))
    = [("x", some true), ("xx", some false), ("e", none), ("ant_e", none), ("a", none), ("std_e", none)] := by decide

/-- `_verify_log_variables`: accepted exactly when every listed name is a declared loggable variable -/
theorem logListOk_iff (decls : List Decl) (listed : List String) :
    logListOk decls listed = true ↔ ∀ n ∈ listed, ∃ d ∈ decls, d.name = n ∧ d.kind.loggable = true := by
  simp only [logListOk, List.all_eq_true, List.any_eq_true, Bool.and_eq_true, decide_eq_true_eq]

example : logListOk [⟨.tv, "x", ""⟩, ⟨.par, "a", ""⟩] ["x"] = true ∧ logListOk [⟨.tv, "x", ""⟩, ⟨.par, "a", ""⟩] ["a"] = false := by decide

/-! ## The directive machine returns the denotation of every well-nested forest -/

/-! ### Substitution, item by item -/

theorem substAll_eq (σ : Subst) (it : Item) : Item.substAll σ it = match it with
    | .text ws => .text (ws.map (Word.substAll σ))
    | .for c t => .for c (t.substAll σ)
    | .if c => .if (c.substAll σ)
    | .else => .else
    | .end => .end := by
  induction σ generalizing it with
  | nil =>
    cases it
    case text ws => exact congrArg Item.text (List.map_id ws).symm
    all_goals rfl
  | cons ct σ ih =>
    refine (ih (it.subst ct.1 ct.2)).trans ?_
    cases it
    case text ws => exact congrArg Item.text (List.map_map ..)
    all_goals rfl

theorem substAll_snoc (σ : Subst) (c t : String) :
    Item.substAll (σ ++ [(c, t)]) = Item.subst c t ∘ Item.substAll σ :=
  funext fun _ => List.foldl_append

/-- the flat sequence of a forest with the substitution of the enclosing loops applied -/
def flatσ (σ : Subst) (f : Forest) : List Item := f.flatten.map (Item.substAll σ)

theorem flatσ_nil (σ : Subst) : flatσ σ .nil = [] := rfl

theorem flatσ_text (σ : Subst) (ws rest) :
    flatσ σ (.text ws rest) = .text (ws.map (Word.substAll σ)) :: flatσ σ rest := by
  simp [flatσ, Forest.flatten, substAll_eq]

theorem flatσ_for (σ : Subst) (c t body rest) :
    flatσ σ (.for c t body rest) = .for c (t.substAll σ) :: (flatσ σ body ++ .end :: flatσ σ rest) := by
  simp [flatσ, Forest.flatten, substAll_eq]

theorem flatσ_ite (σ : Subst) (c th he el rest) :
    flatσ σ (.ite c th he el rest) = .if (c.substAll σ) ::
      (flatσ σ th ++ (if he then .else :: flatσ σ el else []) ++ .end :: flatσ σ rest) := by
  cases he <;> simp [flatσ, Forest.flatten, substAll_eq]

theorem flatσ_empty (f : Forest) : flatσ [] f = f.flatten := List.map_id' _

theorem expandFor_flat (σ : Subst) (c : String) (ts : List String) (body : Forest) :
    expandFor c ts (flatσ σ body) = ts.flatMap fun t => flatσ (σ ++ [(c, t)]) body := by
  simp [expandFor, flatσ, substAll_snoc]

/-! ### A flat forest is transparent to the two scanners -/

/-- a balanced prefix is skipped by `_find_matching_end` at any level >= 1 -/
theorem splitEnd_flat (σ : Subst) (f : Forest) : ∀ (lvl : Nat) (rest : List Item), 1 ≤ lvl →
    splitEnd (flatσ σ f ++ rest) lvl = (splitEnd rest lvl).map (fun p => (flatσ σ f ++ p.1, p.2)) := by
  -- the scanner is unfolded along the flat sequence; a nested block is scanned one level up, so its `!end` does not stop it
  -- and brings the level back (`lvl + 1 - 1`); the induction hypotheses (`*`) serve a body at `lvl + 1`, what follows it at `lvl`
  fun_induction Forest.flatten f <;> intro lvl rest h <;>
    simp only [flatσ_nil, flatσ_text, flatσ_for, flatσ_ite, splitEnd, Function.comp_def, List.nil_append,
      List.cons_append, List.append_assoc, List.append_nil, Option.map_map, Option.map_id', Nat.add_sub_cancel,
      show ¬ lvl + 1 ≤ 1 by omega, Nat.le_add_left, if_true, if_false, Bool.false_eq_true, *]

/-- ... and by `_find_matching_else`: an `!else` nested inside the prefix is never at level 1 -/
theorem splitElse_flat (σ : Subst) (f : Forest) : ∀ (lvl : Nat) (rest : List Item), 1 ≤ lvl →
    splitElse (flatσ σ f ++ rest) lvl = (splitElse rest lvl).map (fun p => (flatσ σ f ++ p.1, p.2)) := by
  fun_induction Forest.flatten f <;> intro lvl rest h <;>
    simp only [flatσ_nil, flatσ_text, flatσ_for, flatσ_ite, splitElse, Function.comp_def, List.nil_append,
      List.cons_append, List.append_assoc, List.append_nil, Option.map_map, Option.map_id', Nat.add_sub_cancel,
      show ¬ lvl + 1 = 1 by omega, Nat.le_add_left, if_true, if_false, Bool.false_eq_true, *]

theorem splitEnd_block (σ : Subst) (f : Forest) (after : List Item) :
    splitEnd (flatσ σ f ++ .end :: after) 1 = some (flatσ σ f, after) := by
  simp [splitEnd_flat, splitEnd]

theorem splitEnd_alone (σ : Subst) (f : Forest) : splitEnd (flatσ σ f) 1 = none := by
  simpa [splitEnd] using splitEnd_flat σ f 1 [] le_rfl

theorem splitElse_alone (σ : Subst) (f : Forest) : splitElse (flatσ σ f) 1 = none := by
  simpa [splitElse] using splitElse_flat σ f 1 [] le_rfl

/-! ### The equations of `resolveSeq` -/

theorem ok_eq_pure {ε α : Type} (a : α) : (Except.ok a : Except ε α) = pure a := rfl

section
variable {ctx : Ctx} {d : Nat}

theorem resolveSeq_nil : resolveSeq ctx d [] = pure [] := by rw [resolveSeq]; rfl

theorem resolveSeq_text (ws : List Word) (rest : List Item) :
    resolveSeq ctx d (.text ws :: rest) = (do let r ← resolveSeq ctx d rest; pure (ws.map Word.render ++ r)) := by
  rw [resolveSeq]

theorem resolveSeq_for (c : String) (toks : Toks) (rest : List Item) :
    resolveSeq ctx (d + 1) (.for c toks :: rest) = (match splitEnd rest 1 with
      | none => .error .bad
      | some (body, after) => do
        let ts ← toks.eval ctx
        let a ← resolveSeq ctx d (expandFor c ts body)
        let b ← resolveSeq ctx (d + 1) after
        pure (a ++ b)) := by
  rw [resolveSeq]; split <;> simp [*]

theorem resolveSeq_if (c : Cond) (rest : List Item) :
    resolveSeq ctx (d + 1) (.if c :: rest) = (match splitEnd rest 1 with
      | none => .error .bad
      | some (body, after) => do
        let v ← c.eval ctx
        let (th, el) := (splitElse body 1).getD (body, [])
        let a ← resolveSeq ctx d (if v then th else el)
        let b ← resolveSeq ctx (d + 1) after
        pure (a ++ b)) := by
  rw [resolveSeq]; split <;> simp [*]

/-! ### The machine on a flat forest

The invariant, for a piece `l` with result `x`: for every tail, `l ++ tail` resolves to `x` followed by the result of the tail. -/

theorem resolveSeq_flatMap {α : Type} {g : α → List Item} {den : α → Except Err (List String)}
    (h : ∀ t tail, resolveSeq ctx d (g t ++ tail) = (do
      let a ← den t
      let b ← resolveSeq ctx d tail
      pure (a ++ b))) (ts : List α) :
    resolveSeq ctx d (ts.flatMap g) = (do let a ← ts.mapM den; pure a.flatten) := by
  induction ts with
  | nil => simp [resolveSeq_nil]
  | cons t ts ih => simp [h, ih]

theorem resolveSeq_alone {l : List Item} {x : Except Err (List String)}
    (h : ∀ tail, resolveSeq ctx d (l ++ tail) = (do
      let a ← x
      let b ← resolveSeq ctx d tail
      pure (a ++ b))) : resolveSeq ctx d l = x := by
  simpa [resolveSeq_nil] using h []

end

/-- For every well-nested directive forest (nesting to any depth), every substitution of enclosing loops and
every continuation, the flat machine with a recursion budget of at least the depth of the forest produces the
denotation of the forest followed by the result of the continuation. In each case the two sides are the same sequence of
steps, bracketed differently: they are brought together by the monad laws of `Except`. -/
theorem resolveSeq_flat (ctx : Ctx) (f : Forest) : ∀ (σ : Subst) (d : Nat) (tail : List Item), f.depth ≤ d →
    resolveSeq ctx d (flatσ σ f ++ tail) = (do
      let a ← f.denote ctx σ
      let b ← resolveSeq ctx d tail
      pure (a ++ b)) := by
  induction f with
  | nil => intro σ d tail _; simp [flatσ_nil, Forest.denote, ok_eq_pure]
  | text ws r ih =>
    intro σ d tail h
    simp only [flatσ_text, List.cons_append, resolveSeq_text, ih σ d tail h, Forest.denote, List.map_map,
      Function.comp_def, bind_assoc, pure_bind, List.append_assoc]
  | «for» c t b r ihb ihr =>
    -- budget 0 contradicts `h`; for budget `d + 1`, `h` becomes `b.depth ≤ d ∧ r.depth ≤ d + 1`
    rintro σ (_ | d) tail h <;>
      simp only [Forest.depth, Nat.max_le, Nat.add_le_add_iff_right, Nat.le_zero_eq, Nat.max_eq_zero_iff,
        Nat.add_one_ne_zero, false_and] at h
    simp only [flatσ_for, List.cons_append, List.append_assoc, resolveSeq_for, splitEnd_block, expandFor_flat,
      resolveSeq_flatMap fun t tail => ihb (σ ++ [(c, t)]) d tail h.1, ihr σ _ tail h.2, Forest.denote,
      bind_assoc, pure_bind]
  | ite c th he el r iht ihe ihr =>
    -- as for `for`: the two goals with budget 0 are closed by `h`; left are the `!if` without and with an `!else`
    rintro σ (_ | d) tail h <;> cases he <;>
      simp only [Forest.depth, Nat.max_le, Nat.add_le_add_iff_right, Nat.le_zero_eq, Nat.max_eq_zero_iff,
        Nat.add_one_ne_zero, false_and, and_false] at h
    · simp only [flatσ_ite, Bool.false_eq_true, if_false, List.append_nil, List.cons_append, List.append_assoc,
        resolveSeq_if, splitEnd_block, splitElse_alone, Option.getD_none, ihr σ _ tail h.2, Forest.denote,
        bind_assoc, pure_bind]
      -- `do` notation has put the continuation of `Forest.denote`'s `if` inside its branches: the sides meet per value
      refine bind_congr fun v => ?_
      cases v <;> simp only [Bool.false_eq_true, if_true, if_false, resolveSeq_nil, ok_eq_pure,
        resolveSeq_alone (iht σ d · h.1), bind_assoc, pure_bind, List.nil_append, List.append_assoc]
    · simp only [flatσ_ite, if_true, List.cons_append, List.append_assoc, resolveSeq_if, splitEnd_flat, splitEnd,
        splitElse_flat, splitElse, le_refl, Option.map_some, Option.getD_some, List.append_nil,
        Forest.denote, ihr σ _ tail h.2, bind_assoc, pure_bind]
      refine bind_congr fun v => ?_
      cases v <;> simp only [Bool.false_eq_true, if_true, if_false, resolveSeq_alone (iht σ d · h.1.1),
        resolveSeq_alone (ihe σ d · h.1.2), bind_assoc, pure_bind, List.append_assoc]

theorem depth_le_length (f : Forest) : f.depth ≤ f.flatten.length := by
  fun_induction Forest.depth f <;>
    simp only [Forest.flatten, List.length_cons, List.length_append, List.length_nil, Nat.max_le] <;> omega

theorem resolveSeq_flatten (ctx : Ctx) (f : Forest) (d : Nat) (h : f.depth ≤ d) :
    resolveSeq ctx d f.flatten = f.denote ctx [] :=
  flatσ_empty f ▸ resolveSeq_alone (resolveSeq_flat ctx f [] d · h)

/-- the directive stage of the preparser on the flat sequence of any well-nested tree is the denotation of the tree:
for-loops are the concatenation of their substituted bodies in token order, if/else selects by the condition -/
theorem resolve_flatten (ctx : Ctx) (f : Forest) : resolve ctx f.flatten = f.denote ctx [] :=
  resolveSeq_flatten ctx f _ (depth_le_length f)

/-- a misplaced `!end` or `!else` is rejected -/
theorem resolve_misplaced_end (ctx : Ctx) (d : Nat) (rest : List Item) : resolveSeq ctx d (.end :: rest) = .error .bad := by
  rw [resolveSeq]
theorem resolve_misplaced_else (ctx : Ctx) (d : Nat) (rest : List Item) : resolveSeq ctx d (.else :: rest) = .error .bad := by
  rw [resolveSeq]

/-- an opening directive without its `!end` is rejected -/
theorem resolve_unclosed_for (ctx : Ctx) (d : Nat) (c : String) (t : Toks) (f : Forest) :
    resolveSeq ctx (d + 1) (.for c t :: f.flatten) = .error .bad := by
  rw [resolveSeq_for, ← flatσ_empty, splitEnd_alone]

/-- rejection: a `!for` over a `<...>` expression that cannot be evaluated fails the whole directive stage -/
theorem resolve_for_bad_context (ctx : Ctx) (c : String) (k : Word) (body rest : Forest) (h : ctx.lists k.render = none) :
    resolve ctx (Forest.for c (.ctx k) body rest).flatten = .error .bad := by
  rw [resolve_flatten]
  simp [Forest.denote, Toks.substAll, Toks.eval, h, bind, Except.bind]

/-- rejection: an `!if` whose condition cannot be evaluated -/
theorem resolve_if_bad_context (ctx : Ctx) (k : Word) (th el : Forest) (he : Bool) (rest : Forest) (h : ctx.flags k.render = none) :
    resolve ctx (Forest.ite (.flag k) th he el rest).flatten = .error .bad := by
  rw [resolve_flatten]
  simp [Forest.denote, Cond.substAll, Cond.eval, h, bind, Except.bind]

/-- Corollary (meaning-preserving variations): whatever is computed downstream from the resolved text (`P`), two directive
trees with the same denotation -- a loop and its written-out copies, an `!if` on a true condition and its bare branch --
give the same result: every rendering is a section of the one map `denote`. -/
theorem same_denotation_same_model {β : Type} (P : List String → β) (ctx : Ctx) (f g : Forest)
    (h : f.denote ctx [] = g.denote ctx []) :
    (resolve ctx f.flatten).map P = (resolve ctx g.flatten).map P := by
  rw [resolve_flatten, resolve_flatten, h]

/-- a loop over written-out tokens denotes its body once per token, in order, with the control name replaced -/
theorem denote_for_words (ctx : Ctx) (c : String) (ws : List Word) (body : Forest) :
    (Forest.for c (.words ws) body .nil).denote ctx []
      = (do let a ← (ws.map Word.render).mapM (fun t => body.denote ctx [(c, t)]); pure a.flatten) := by
  simp [Forest.denote, Toks.substAll, Toks.eval, ok_eq_pure]

/-- an if/else denotes the branch selected by its condition -/
theorem denote_ite (ctx : Ctx) (k : String) (v : Bool) (th el : Forest) (hk : ctx.flags k = some v) :
    (Forest.ite (.flag [.lit k]) th true el .nil).denote ctx [] = (if v then th.denote ctx [] else el.denote ctx []) := by
  cases v <;> simp [Forest.denote, Cond.substAll, Cond.eval, Word.render, Piece.render, String.join, hk, ok_eq_pure]

/-- non-vacuity: a nested loop with an upper-case form and a conditional, through the flat machine -/
def exampleForest : Forest :=
  .for "(s)" (.words [[.lit "a"], [.lit "Hh"]])
    (.ite (.eq [.ctl "(s)" .plain] [.lit "a"])
      (.text [[.lit "x_", .ctl "(s)" .plain]] .nil) true
      (.for "k" (.words [[.lit "1"], [.lit "2"]]) (.text [[.lit "Y", .ctl "(s)" .upper, .ctl "k" .plain]] .nil) .nil) .nil)
    (.text [[.lit "end"]] .nil)

def exampleCtx : Ctx := ⟨fun _ => none, fun _ => none⟩

-- `#eval exampleForest.denote exampleCtx []` and `#eval resolve exampleCtx exampleForest.flatten` both give
--   Except.ok ["x_a", "YHH1", "YHH2", "end"]
example : exampleForest.depth = 3 := by decide
example : exampleForest.flatten.length = 10 := by decide
example : resolve exampleCtx exampleForest.flatten = exampleForest.denote exampleCtx [] := resolve_flatten _ _

/-! ## Two spellings with the same documented value evaluate alike -/

/-- writing the default shift out, or leaving it out, is the same expansion -/
theorem expand_default_shift (defs : String → Option Expr) (pf : PF) (e : Expr) :
    expand defs (.pseudo pf e none) = expand defs (.pseudo pf e (some pf.defaultShift)) := rfl

/-- `=` and `:=`, `^` and `**`, the two bracket styles, comments, continuation lines and redundant parentheses do not exist at
token level: they are different renderings of the same tree (tied by the differential run). What the theorems add: any two
equation sides as written whose documented values agree evaluate identically after macro expansion. -/
theorem same_meaning_same_value {K : Type} [Field K] (A : Alg K) (defs : String → Option Expr) (data : Data K) (t : Int)
    (p q : PExpr) (e₁ e₂ : Expr) (h₁ : expand defs p = some e₁) (h₂ : expand defs q = some e₂)
    (h : evalDoc A defs data t p = evalDoc A defs data t q) : eval A data t e₁ = eval A data t e₂ := by
  rw [eval_expand A defs data t p e₁ h₁, eval_expand A defs data t q e₂ h₂] at h
  exact Option.some.inj h

/-! ## The parser reads back what the printer wrote -/

/-- no printed tree begins with a minus sign: after `(` a printed tree is the first operand of a binary operation -/
theorem parseTok_lp (n : Nat) (a : Expr) (r : List Tok) :
    parseTok (n + 1) (.lp :: (printFull a ++ r)) = parseBinRest (parseTok n) (printFull a ++ r) := by
  cases a <;> rfl

/-- the two branches of `parseTok` that recurse, as equations (by `rfl`: `simp [parseTok]` would first derive the
equations of the whole overlapping match) -/
theorem parseTok_neg (n : Nat) (r : List Tok) : parseTok (n + 1) (.lp :: .op .sub :: r) =
    match parseTok n r with
    | some (e, .rp :: r2) => some (.neg e, r2)
    | _ => none := rfl

theorem parseTok_fn (n : Nat) (f : String) (r : List Tok) : parseTok (n + 1) (.fn f :: .lp :: r) =
    match parseTok n r with
    | some (a, .rp :: r2) => some (.call1 f a, r2)
    | some (a, .comma :: r2) =>
      match parseTok n r2 with
      | some (b, .rp :: r4) => some (.call2 f a b, r4)
      | _ => none
    | _ => none := rfl

/-- the parser reads back exactly the tree that was printed, and leaves what follows it untouched; any depth budget from the
height of the tree upwards will do -/
theorem parseTok_printFull : ∀ (n : Nat) (e : Expr) (rest : List Tok), e.height ≤ n →
    parseTok n (printFull e ++ rest) = some (e, rest)
  | 0, e, _, h => by cases e <;> exact absurd h (Nat.not_succ_le_zero _)
  | m + 1, .num q, rest, _ => rfl
  | m + 1, .name x k, rest, _ => rfl
  | m + 1, .neg e, rest, h => by
    simp only [printFull, List.cons_append, List.append_assoc, List.nil_append, parseTok_neg,
      parseTok_printFull m e _ (Nat.le_of_succ_le_succ h)]
  | m + 1, .call1 f a, rest, h => by
    simp only [printFull, List.cons_append, List.append_assoc, List.nil_append, parseTok_fn,
      parseTok_printFull m a _ (Nat.le_of_succ_le_succ h)]
  | m + 1, .call2 f a b, rest, h => by
    have h := Nat.max_le.1 (Nat.le_of_succ_le_succ h)
    simp only [printFull, List.cons_append, List.append_assoc, List.nil_append, parseTok_fn,
      parseTok_printFull m a _ h.1, parseTok_printFull m b _ h.2]
  | m + 1, .bin o a b, rest, h => by
    have h := Nat.max_le.1 (Nat.le_of_succ_le_succ h)
    simp only [printFull, List.cons_append, List.append_assoc, List.nil_append, parseTok_lp, parseBinRest,
      parseTok_printFull m a _ h.1, parseTok_printFull m b _ h.2]

theorem height_le_length (e : Expr) : e.height ≤ (printFull e).length := by
  induction e <;>
    simp only [Expr.height, printFull, List.length_cons, List.length_append, List.length_nil, Nat.add_le_add_iff_right,
      Nat.max_le] <;> omega

theorem length_printFull_pos (e : Expr) : e.height ≤ (printFull e).length := height_le_length e

theorem parseTok_printFull_nil {n : Nat} (e : Expr) (h : (printFull e).length ≤ n) :
    parseTok n (printFull e) = some (e, []) := by
  simpa using parseTok_printFull n e [] ((height_le_length e).trans h)

/-- `parse (print e) = e` for every tree of the expression grammar -/
theorem parse_print (e : Expr) : parseExprTok (printFull e) = some e := by
  rw [parseExprTok, parseTok_printFull_nil e le_rfl]

/-- equations: `lhs = rhs` and bare expressions are read back exactly -/
theorem parseEqn_printEqn (q : Eqn Expr) : parseEqn (printEqn q) = some q := by
  cases q with
  | bare e => rw [parseEqn, printEqn, parseTok_printFull_nil e le_rfl]
  | eq l r =>
    -- the budget is the length of the whole token list: at least the length of either side, hence at least its height
    have hl : (printFull l).length ≤ (printFull l ++ .eq :: printFull r).length := (List.sublist_append_left ..).length_le
    have hr : (printFull r).length ≤ (printFull l ++ .eq :: printFull r).length :=
      ((List.sublist_cons_self ..).trans (List.sublist_append_right ..)).length_le
    simp only [parseEqn, printEqn, parseTok_printFull _ l _ ((height_le_length l).trans hl), parseTok_printFull_nil r hr]

/-! ## Keyword aliases are normalised, names are left alone -/

theorem expandShortcut_of_ne {w : List Char} (h1 : w ≠ kwVariables) (h2 : w ≠ kwShocks) (h3 : w ≠ kwEquations) :
    expandShortcut w = w := by
  rw [expandShortcut, if_neg h1, if_neg h2, if_neg h3]

theorem expandShortcut_of_not_bang (w : List Char) (h : w.head? ≠ some '!') : expandShortcut w = w :=
  expandShortcut_of_ne (fun e => h (e ▸ rfl)) (fun e => h (e ▸ rfl)) (fun e => h (e ▸ rfl))

/-- a word that does not start with `!` (a name such as `k_ss`, a number, an operator) is never touched -/
theorem normaliseWord_of_not_bang (w : List Char) (h : w.head? ≠ some '!') : normaliseWord w = w := by
  rw [normaliseWord, expandShortcut_of_not_bang w h]
  -- the last equation of `hyphenate`: a word that is neither `!!…` nor `!…` is returned as it is
  rw [hyphenate]
  exacts [fun r e => h (e ▸ rfl), fun r e => h (e ▸ rfl)]

/-- the `!!` separator, with whatever is glued to it (`!!k_ss`), is never touched -/
theorem normaliseWord_bangbang (r : List Char) : normaliseWord ('!' :: '!' :: r) = '!' :: '!' :: r := by
  rw [normaliseWord, expandShortcut_of_ne (by simp [kwVariables]) (by simp [kwShocks]) (by simp [kwEquations]),
    hyphenate]

/-- every documented spelling of every block keyword is mapped to its canonical keyword -/
theorem normalise_aliases : ∀ p ∈ keywordAliases, normaliseWord p.1 = p.2 := by decide +kernel

/-- the canonical keywords are fixed points (normalising twice changes nothing on the documented spellings) -/
theorem normalise_canonical_fixed : ∀ p ∈ keywordAliases, normaliseWord p.2 = p.2 := by decide +kernel

/-- on a token list: length and positions are kept, `!!…` tokens and non-keyword tokens stay as they are -/
theorem normaliseKeywords_getElem (ws : List (List Char)) (i : Nat) (h : i < ws.length) :
    (normaliseKeywords ws)[i]? = some (normaliseWord ws[i]) := by
  simp only [normaliseKeywords, List.length_map, h, getElem?_pos, List.getElem_map]

example : normaliseKeywords [['!', '!', 'k', '_', 's', 's'], ['k', '_', 's', 's'], kwVariables,
      ['!', 'l', 'o', 'g', '_', 'v', 'a', 'r', 'i', 'a', 'b', 'l', 'e', 's']]
    = [['!', '!', 'k', '_', 's', 's'], ['k', '_', 's', 's'], kwTransitionVariables,
      ['!', 'l', 'o', 'g', '-', 'v', 'a', 'r', 'i', 'a', 'b', 'l', 'e', 's']] := by decide +kernel

/-! ## Substitutions are a function of the source's own definitions -/

theorem resolveSubstitutions_append (defs : List (String × List STok)) (a b : List STok) :
    resolveSubstitutions defs (a ++ b) = resolveSubstitutions defs a ++ resolveSubstitutions defs b := by
  simp only [resolveSubstitutions, List.flatMap_append]

theorem resolveSubstitutions_word (defs : List (String × List STok)) (w : String) :
    resolveSubstitutions defs [.word w] = [.word w] := by simp [resolveSubstitutions]

/-- a defined `$s$` is replaced by the body of its definition, as it is written (textual substitution) -/
theorem resolveSubstitutions_ref (defs : List (String × List STok)) (s : String) (d : List STok)
    (h : lookupLast defs s = some d) : resolveSubstitutions defs [.ref s] = d := by
  simp [resolveSubstitutions, h]

/-- an undefined `$s$` stays (the code then rejects the equation) -/
theorem resolveSubstitutions_undefined (defs : List (String × List STok)) (s : String)
    (h : lookupLast defs s = none) : resolveSubstitutions defs [.ref s] = [.ref s] := by
  simp [resolveSubstitutions, h]

/-- the last definition of a name is the one in force -/
theorem lookupLast_snoc (defs : List (String × List STok)) (s : String) (d : List STok) :
    lookupLast (defs ++ [(s, d)]) s = some d := by
  simp [lookupLast]

/-- definitions of other names are irrelevant for `$s$` -/
theorem lookupLast_snoc_ne (defs : List (String × List STok)) (s s' : String) (d : List STok) (h : s' ≠ s) :
    lookupLast (defs ++ [(s', d)]) s = lookupLast defs s := by
  simp [lookupLast, h]

/-- text without references does not depend on the definitions at all -/
theorem resolveSubstitutions_no_refs (defs : List (String × List STok)) (ws : List String) :
    resolveSubstitutions defs (ws.map .word) = ws.map .word := by
  rw [resolveSubstitutions, List.flatMap_map]
  exact List.map_eq_flatMap.symm

/-- statelessness: translating a sequence of sources is the map of the one-source function -- the result for a source is a
function of that source's own definitions and text, whatever was translated before it with the same substitution names -/
def translateAll (sources : List (List (String × List STok) × List STok)) : List (List STok) :=
  sources.map (fun src => resolveSubstitutions src.1 src.2)

theorem translateAll_local (before after : List (List (String × List STok) × List STok))
    (src : List (String × List STok) × List STok) :
    (translateAll (before ++ src :: after))[before.length]? = some (resolveSubstitutions src.1 src.2) := by
  simp [translateAll]

example : translateAll [([("s0", [.word "a", .word "+", .word "b"])], [.word "2", .word "*", .ref "s0"]),
                        ([("s0", [.word "c"])], [.ref "s0", .word "-", .ref "s1"])]
    = [[.word "2", .word "*", .word "a", .word "+", .word "b"], [.word "c", .word "-", .ref "s1"]] := by decide

/-! ## End to end: expand, print, parse, translate, evaluate -/

theorem evalEquation_print_parse {α : Type} (A : Alg α) (data : Data α) (t : Int) (q : Eqn Expr) :
    (parseEqn (printEqn q)).map (fun p => eval A data t p.xtring) = some (eval A data t q.xtring) := by
  rw [parseEqn_printEqn]; rfl

/-- composed statement with input-level hypotheses only: an equation as written (pseudofunctions, substitutions), macro-expanded,
printed to tokens, parsed back, translated by `lhs = rhs -> -(lhs)+rhs` and evaluated gives the documented value of the
right-hand side minus the documented value of the left-hand side, for all data and periods -/
theorem equation_end_to_end {K : Type} [Field K] (ofRat : Rat → K) (powf : K → K → K) (f1 : String → K → K)
    (f2 : String → K → K → K) (defs : String → Option Expr) (data : Data K) (t : Int) (lhs rhs : PExpr) (l r : Expr)
    (hl : expand defs lhs = some l) (hr : expand defs rhs = some r) :
    (parseEqn (printEqn (.eq l r))).map (fun p => eval (fieldAlg ofRat powf f1 f2) data t p.xtring)
      = (do let a ← evalDoc (fieldAlg ofRat powf f1 f2) defs data t rhs
            let b ← evalDoc (fieldAlg ofRat powf f1 f2) defs data t lhs
            pure (a - b)) := by
  rw [evalEquation_print_parse, eval_expand _ defs data t lhs l hl, eval_expand _ defs data t rhs r hr]
  simp only [Eqn.xtring, eval_translate]
  rfl

/-- non-vacuity of the end-to-end statement: both sides of `diff(x) = $s0$ * 2` expand -/
example (ofRat : Rat → ℚ) (powf : ℚ → ℚ → ℚ) (f1 : String → ℚ → ℚ) (f2 : String → ℚ → ℚ → ℚ) (data : Data ℚ) (t : Int) :
    (parseEqn (printEqn (.eq (.bin .sub (.name "x" 0) (.name "x" (-1))) (.bin .mul (.name "a" 0) (.num 2))))).map
        (fun p => eval (fieldAlg ofRat powf f1 f2) data t p.xtring)
      = (do let a ← evalDoc (fieldAlg ofRat powf f1 f2) (fun s => if s = "s0" then some (.name "a" 0) else none) data t
                  (.bin .mul (.subs "s0") (.num 2))
            let b ← evalDoc (fieldAlg ofRat powf f1 f2) (fun s => if s = "s0" then some (.name "a" 0) else none) data t
                  (.pseudo .diff (.name "x" 0) none)
            pure (a - b)) :=
  equation_end_to_end (hl := by decide) (hr := by decide) ..

example : parseEqn (printEqn (.eq (.name "x" 0) (.bin .add (.neg (.name "y" (-1))) (.call2 "maximum" (.num 2) (.name "z" 1)))))
    = some (.eq (.name "x" 0) (.bin .add (.neg (.name "y" (-1))) (.call2 "maximum" (.num 2) (.name "z" 1)))) := parseEqn_printEqn _

/-! ## Operator precedence and associativity of minimally parenthesised text (for all names / shifts)

`rfl` on open terms: the parser branches on the constructors of the tokens only, never on a name or a shift. -/

section Prec
variable (x y z : String) (i j k : Int)
local notation "X" => Tok.name x i
local notation "Y" => Tok.name y j
local notation "Z" => Tok.name z k
local notation "ex" => Expr.name x i
local notation "ey" => Expr.name y j
local notation "ez" => Expr.name z k

/-- `* /` bind tighter than `+ -` -/
theorem prec_add_mul : parsePrec [X, .op .add, Y, .op .mul, Z] = some (.bin .add ex (.bin .mul ey ez)) := rfl
theorem prec_mul_add : parsePrec [X, .op .mul, Y, .op .add, Z] = some (.bin .add (.bin .mul ex ey) ez) := rfl
theorem prec_sub_div : parsePrec [X, .op .sub, Y, .op .div, Z] = some (.bin .sub ex (.bin .div ey ez)) := rfl
/-- `+ -` and `* /` associate to the left -/
theorem assoc_sub_sub : parsePrec [X, .op .sub, Y, .op .sub, Z] = some (.bin .sub (.bin .sub ex ey) ez) := rfl
theorem assoc_sub_add : parsePrec [X, .op .sub, Y, .op .add, Z] = some (.bin .add (.bin .sub ex ey) ez) := rfl
theorem assoc_div_div : parsePrec [X, .op .div, Y, .op .div, Z] = some (.bin .div (.bin .div ex ey) ez) := rfl
theorem assoc_div_mul : parsePrec [X, .op .div, Y, .op .mul, Z] = some (.bin .mul (.bin .div ex ey) ez) := rfl
/-- `^` binds tighter than `* /` and associates to the RIGHT -/
theorem prec_mul_pow : parsePrec [X, .op .mul, Y, .op .pow, Z] = some (.bin .mul ex (.bin .pow ey ez)) := rfl
theorem assoc_pow_pow : parsePrec [X, .op .pow, Y, .op .pow, Z] = some (.bin .pow ex (.bin .pow ey ez)) := rfl
/-- unary minus: looser than `^` on its left (`-x^y = -(x^y)`), allowed in an exponent (`x^-y`), tighter than `* /` -/
theorem neg_pow : parsePrec [.op .sub, X, .op .pow, Y] = some (.neg (.bin .pow ex ey)) := rfl
theorem pow_neg : parsePrec [X, .op .pow, .op .sub, Y] = some (.bin .pow ex (.neg ey)) := rfl
theorem pow_neg_pow : parsePrec [X, .op .pow, .op .sub, Y, .op .pow, Z] = some (.bin .pow ex (.neg (.bin .pow ey ez))) := rfl
theorem neg_mul : parsePrec [.op .sub, X, .op .mul, Y] = some (.bin .mul (.neg ex) ey) := rfl
theorem mul_neg : parsePrec [X, .op .mul, .op .sub, Y] = some (.bin .mul ex (.neg ey)) := rfl
theorem sub_neg : parsePrec [X, .op .sub, .op .sub, Y] = some (.bin .sub ex (.neg ey)) := rfl
theorem neg_neg : parsePrec [.op .sub, .op .sub, X] = some (.neg (.neg ex)) := rfl
/-- parentheses override, function calls are primaries -/
theorem paren_add_mul : parsePrec [.lp, X, .op .add, Y, .rp, .op .mul, Z] = some (.bin .mul (.bin .add ex ey) ez) := rfl
theorem paren_pow_base : parsePrec [.lp, .op .sub, X, .rp, .op .pow, Y] = some (.bin .pow (.neg ex) ey) := rfl
theorem call_pow (f : String) : parsePrec [.fn f, .lp, X, .comma, Y, .rp, .op .pow, Z] = some (.bin .pow (.call2 f ex ey) ez) := rfl
/-- rejection: a dangling operator, an unclosed parenthesis -/
theorem reject_dangling : parsePrec [X, .op .add] = none := rfl
theorem reject_unclosed : parsePrec [.lp, X, .op .add, Y] = none := rfl

/-- the text `-(lhs)+a+b` that `_postprocess_xtring` produces for `lhs = a + b` reads `((-lhs)+a)+b`: the right-hand side is not
re-parenthesised (same value as `(a+b)-lhs` in a field -- `eval_translate` -- but a different order of the floating-point
additions: the reason why bit-exact comparison is limited to single-term right-hand sides) -/
theorem translate_text_assoc :
    parsePrec (translateTokens [X] [Y, .op .add, Z]) = some (.bin .add (.bin .add (.neg ex) ey) ez) := rfl
/-- for a single-term right-hand side the text is the tree `translate lhs rhs` -/
theorem translate_text_single :
    parsePrec (translateTokens [X] [Y, .op .mul, Z]) = some (translate ex (.bin .mul ey ez)) := rfl
end Prec

/-- the precedence parser also reads the fully parenthesised spelling (instance; the general statement is tied by the `pparse`
stream, see notes: not proved) -/
example : parsePrec (printFull (.bin .add (.neg (.name "y" (-1))) (.call2 "maximum" (.num 2) (.bin .pow (.name "z" 1) (.num 3)))))
    = some (.bin .add (.neg (.name "y" (-1))) (.call2 "maximum" (.num 2) (.bin .pow (.name "z" 1) (.num 3)))) := by decide

/-! ## `<...>` stringification: the text that is re-read is the value -/

theorem ofDigits10_digits10 (n : Nat) : ofDigits10 (digits10 n) = n := by
  fun_induction digits10 n with
  | case1 n h => rfl
  | case2 n h ih => rw [ofDigits10, ih, Nat.mod_add_div]

/-- every digit is printed: for a value with `k` decimals (`q * 10^k` is an integer) the text re-read is the value itself;
in particular nothing is rounded to a fixed number of significant digits -/
theorem reread_stringify (q : Rat) (k : Nat) (h : (q * (10 : Rat) ^ k).den = 1) :
    rereadDec (stringifyDec q k) = q := by
  have hpos : (0 : Rat) < (10 : Rat) ^ k := by positivity
  -- the digits are those of `|q * 10^k|`, an integer by `h`; the sign is that of `q`
  have habs : (((q * (10 : Rat) ^ k).num.natAbs : Nat) : Rat) = |q * (10 : Rat) ^ k| := by
    rw [Nat.cast_natAbs, Int.cast_abs, Rat.coe_int_num_of_den_eq_one h]
  have hsign : (if q < 0 then -1 else 1) * |q * (10 : Rat) ^ k| = q * (10 : Rat) ^ k := by
    split_ifs with hq
    · rw [abs_of_neg (mul_neg_of_neg_of_pos hq hpos), neg_mul_neg, one_mul]
    · rw [abs_of_nonneg (mul_nonneg (not_lt.mp hq) hpos.le), one_mul]
  simp only [rereadDec, stringifyDec, ofDigits10_digits10, decide_eq_true_eq, habs, hsign]
  exact mul_div_cancel_right₀ q hpos.ne'

theorem reread_stringifyList (qs : List (Rat × Nat)) (h : ∀ p ∈ qs, (p.1 * (10 : Rat) ^ p.2).den = 1) :
    (stringifyList qs).map rereadDec = qs.map (·.1) := by
  rw [stringifyList, List.map_map]
  exact List.map_congr_left fun p hp => reread_stringify p.1 p.2 (h p hp)

example : digits10 125 = [5, 2, 1] := by simp [digits10]
example : rereadDec (stringifyDec (-5 / 4) 2) = -5 / 4 := reread_stringify _ _ (by norm_num)

/-! ## The templating step depends on the context of its own call only -/

/-- statelessness: in a sequence of calls the result of a call is the one-call function of its own context and template,
whatever contexts the earlier calls had (the model has no other input; the `jinja-history` stream ties the code to it) -/
theorem renderAllJinja_local (before after : List (JCtx × List JPiece)) (call : JCtx × List JPiece) :
    (renderAllJinja (before ++ call :: after))[before.length]? = some (renderJinja call.1 call.2) := by
  simp [renderAllJinja]

/-- an undefined variable prints nothing and an undefined flag selects the else-branch, however the template continues -/
theorem renderJinja_undefined_var (c : JCtx) (n : String) (rest : List JPiece) (h : c.vars n = none) :
    renderJinja c (.var n :: rest) = renderJinja c rest := by
  simp [renderJinja, h]

theorem renderJinja_undefined_flag (c : JCtx) (f : String) (th el : List String) (rest : List JPiece) (h : c.flags f = none) :
    renderJinja c (.ite f false th el :: rest) = el ++ renderJinja c rest := by
  simp [renderJinja, h]

theorem renderJinja_flag (c : JCtx) (f : String) (v neg : Bool) (th el : List String) (rest : List JPiece) (h : c.flags f = some v) :
    renderJinja c (.ite f neg th el :: rest) = (if v != neg then th else el) ++ renderJinja c rest := by
  simp [renderJinja, h]

example : renderAllJinja
    [(⟨fun _ => none, fun f => if f = "open_economy" then some true else none⟩, [.ite "open_economy" false ["nx"] [], .text "y"]),
     (⟨fun _ => none, fun _ => none⟩, [.ite "open_economy" false ["nx"] [], .text "y"])]
    = [["nx", "y"], ["y"]] := by decide

end IrisVerif.C04
