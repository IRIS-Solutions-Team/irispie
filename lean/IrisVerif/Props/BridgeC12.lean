/-
Bridge for property C12 (arip): the bordered system that the executable model `Conv.aripSystem` builds with `QMat`
operations is, seen through `QMat.toMat`, the saddle-point matrix `fromBlocks (KᵀK) Aᵀ A 0` of `C12.arip_kkt_min`, with
`K = AripMin.arK` (entry by entry) and the right-hand side `(Kᵀc, b)`.  Hence what `Conv.aripSolve` returns (the exact,
re-checked solution of that system) satisfies every constraint row exactly and minimises the documented criterion among
all sequences that satisfy them.
-/
import IrisVerif.Lemmas.QMatSystem
import IrisVerif.Props.C12

open Matrix

namespace IrisVerif.BridgeC12

open IrisVerif IrisVerif.QMat IrisVerif.Conv IrisVerif.AripMin

/-- the pieces of the system with `kkt = true` (multiplier columns = transposed constraint rows, what irispie builds) -/
theorem aripSystem_ok (a : AripIn) (F C : QMat) (h : aripSystem a true = .ok (F, C)) :
    a.nHigh ≠ 0 ∧ a.sigma.length = a.nHigh ∧ a.target.length = a.nHigh ∧
    F = QMat.vstack
          (QMat.hstack ((aripK a.nHigh a.rho a.sigma).transpose * aripK a.nHigh a.rho a.sigma)
            (aripConstraintRows a).1.transpose)
          (QMat.hstack (aripConstraintRows a).1
            (QMat.zero (aripConstraintRows a).1.rows (aripConstraintRows a).1.rows)) ∧
    C = QMat.vstack ((aripK a.nHigh a.rho a.sigma).transpose * aripKc a.nHigh a.const a.sigma)
          (aripConstraintRows a).2 := by
  unfold aripSystem at h
  simp only [bind, Except.bind, pure, Except.pure] at h
  split at h
  · cases h
  · rename_i hc
    simp only [not_or, Decidable.not_not] at hc
    obtain ⟨-, -, htar, hsig, hn⟩ := hc
    injection h with h
    simp only [if_true, Prod.mk.injEq] at h
    exact ⟨hn, hsig, htar, h.1.symm, h.2.symm⟩

theorem aripSolve_ok (a : AripIn) (xs : List Rat) (h : aripSolve a true = .ok xs) :
    ∃ F C z, aripSystem a true = .ok (F, C) ∧ QMat.solveChecked F C = some z ∧
      xs = (List.range a.nHigh).map (fun i => z.get i 0) := by
  obtain ⟨⟨F, C⟩, hFC, h⟩ := Except.bind_eq_ok.1 h
  cases hz : QMat.solveChecked F C with
  | none =>
    simp only [hz] at h
    cases h
  | some z =>
    simp only [hz] at h
    cases h
    exact ⟨F, C, z, hFC, hz, rfl⟩

theorem constraintRows_rows (a : AripIn) :
    (aripConstraintRows a).1.rows = (finiteIdx a.lowEffective).length + (finiteIdx a.target).length := rfl
theorem constraintRows_cols (a : AripIn) : (aripConstraintRows a).1.cols = a.nHigh := rfl

/-- the model's `K` is `AripMin.arK`, entry by entry -/
theorem aripK_view (N : Nat) (rho : Rat) (sigma : List Rat) :
    (aripK (N + 1) rho sigma).toMat N (N + 1) = arK N rho (fun i : Fin (N + 1) => sigma.getD i 0) := by
  ext i j
  unfold aripK arK
  rw [toMat_apply, get_ofFn_of_lt _ _ _ _ _ (by have := i.isLt; omega) j.isLt]
  simp only [Fin.ext_iff, Fin.val_succ, Fin.val_castSucc]

theorem aripKc_view (N : Nat) (const : Rat) (sigma : List Rat) :
    (fun i : Fin N => (aripKc (N + 1) const sigma).get i 0) = arC N const (fun i : Fin (N + 1) => sigma.getD i 0) := by
  funext i
  unfold aripKc arC
  rw [get_ofFn_of_lt _ _ _ _ _ (by have := i.isLt; omega) (by omega)]
  simp only [Fin.val_succ]

/-- **`aripSolve` returns the constrained minimiser.**  If the executable model returns `xs` for an input with
`N + 1` high-frequency periods, then `x = xs` satisfies every row of the model's constraint matrix exactly
(`A x = b`: one aggregation row per effective low-frequency observation, one unit row per target) and minimises the
documented criterion `Σ_t ((x_{t+1} − ρ x_t − c)/σ_{t+1})²` among all `x'` with `A x' = b`. -/
theorem aripSolve_is_constrained_minimiser (a : AripIn) (N : Nat) (hN : a.nHigh = N + 1) (xs : List Rat)
    (h : aripSolve a true = .ok xs) :
    let m := (aripConstraintRows a).1.rows
    let A : Matrix (Fin m) (Fin (N + 1)) ℚ := (aripConstraintRows a).1.toMat m (N + 1)
    let b : Fin m → ℚ := fun i => (aripConstraintRows a).2.get i 0
    let x : Fin (N + 1) → ℚ := fun i => xs.getD i 0
    let sigma : Fin (N + 1) → ℚ := fun i => a.sigma.getD i 0
    A *ᵥ x = b ∧
    ∀ x' : Fin (N + 1) → ℚ, A *ᵥ x' = b → criterion N a.rho a.const sigma x ≤ criterion N a.rho a.const sigma x' := by
  intro m A b x sigma
  obtain ⟨F, C, z, hsys, hz, hxs⟩ := aripSolve_ok a xs h
  obtain ⟨_, _, _, hF, hC⟩ := aripSystem_ok a F C hsys
  rw [hF, hC, hN] at hz
  have hK : Views (aripK (N + 1) a.rho a.sigma) (arK N a.rho sigma) := ⟨rfl, rfl, aripK_view N a.rho a.sigma⟩
  have hA : Views (aripConstraintRows a).1 A := .of rfl hN
  -- the blocks `KᵀK`, `Aᵀ`, `A`, `0` and the right-hand sides `Kᵀc`, `b`; their dimensions are as the model builds them
  -- (`rfl`), but for the columns of `A`, `a.nHigh`
  have hsys' := solveChecked_blocks ((aripK (N + 1) a.rho a.sigma).transpose * aripK (N + 1) a.rho a.sigma)
    (aripConstraintRows a).1.transpose (aripConstraintRows a).1 (QMat.zero m m)
    ((aripK (N + 1) a.rho a.sigma).transpose * aripKc (N + 1) a.const a.sigma) (aripConstraintRows a).2 z (N + 1) m
    (hcc := hN) rfl rfl rfl rfl rfl rfl rfl rfl hz
  have hxz : x = fun i : Fin (N + 1) => z.get i 0 := by
    funext i
    show xs.getD i 0 = _
    rw [hxs, hN]
    simp [List.getD_eq_getElem?_getD, i.isLt]
  rw [← hxz, (hK.transpose.mul hK).toMat, hA.transpose.toMat, toMat_zero,
    (hK.transpose.mulVec_of (b := aripKc (N + 1) a.const a.sigma) Nat.one_pos).get, aripKc_view] at hsys'
  exact C12.arip_kkt_min N a.rho a.const sigma A b x _ hsys'

/-- an aggregation row: position `j` carries the aggregation weight of its place within the low-frequency period of
the row's observation, 0 outside that period; the right-hand side is the observed low-frequency value -/
theorem constraint_agg_row (a : AripIn) (r j : Nat) (hr : r < (finiteIdx a.lowEffective).length) (hj : j < a.nHigh) :
    (aripConstraintRows a).1.get r j =
      (if j / a.nWithin = ((finiteIdx a.lowEffective).getD r (0, 0)).1 then a.agg.getD (j % a.nWithin) 0 else 0) ∧
    (aripConstraintRows a).2.get r 0 = ((finiteIdx a.lowEffective).getD r (0, 0)).2 := by
  unfold aripConstraintRows
  constructor
  · rw [get_vstack, ofFn_rows, ofFn_rows, ofFn_cols, if_pos ⟨Nat.lt_add_right _ hr, hj⟩, if_pos hr,
      get_ofFn_of_lt _ _ _ _ _ hr hj]
  · rw [get_ofFn_of_lt _ _ _ _ _ (Nat.lt_add_right _ hr) Nat.one_pos, if_pos hr]

/-- a target row: the unit row of the target's position; the right-hand side is the target value -/
theorem constraint_tar_row (a : AripIn) (r j : Nat) (hr : r < (finiteIdx a.target).length) (hj : j < a.nHigh) :
    (aripConstraintRows a).1.get ((finiteIdx a.lowEffective).length + r) j =
      (if j = ((finiteIdx a.target).getD r (0, 0)).1 then 1 else 0) ∧
    (aripConstraintRows a).2.get ((finiteIdx a.lowEffective).length + r) 0 = ((finiteIdx a.target).getD r (0, 0)).2 := by
  unfold aripConstraintRows
  constructor
  · rw [get_vstack, ofFn_rows, ofFn_rows, ofFn_cols, if_pos ⟨Nat.add_lt_add_left hr _, hj⟩,
      if_neg (Nat.not_lt.2 (Nat.le_add_right _ _)), Nat.add_sub_cancel_left, get_ofFn_of_lt _ _ _ _ _ hr hj]
  · rw [get_ofFn_of_lt _ _ _ _ _ (Nat.add_lt_add_left hr _) Nat.one_pos, if_neg (Nat.not_lt.2 (Nat.le_add_right _ _)),
      Nat.add_sub_cancel_left]

/-- non-vacuity: two yearly values, two periods per year, aggregation "sum", one target: the model solves it
(kernel evaluation), so the hypotheses `h` and `hN` of `aripSolve_is_constrained_minimiser` are met -/
def exIn : AripIn := ⟨2, 2, 1, 0, [1, 1, 1, 1], [1, 1], [some 2, some 6], [none, some 1, none, none]⟩

example : (aripSolve exIn true).toOption.isSome = true ∧ exIn.nHigh = 3 + 1 := by decide +kernel

end IrisVerif.BridgeC12
