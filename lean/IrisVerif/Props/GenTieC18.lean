/-
Tie T (DESIGN.md §3: the model equals definitions regenerated from the source)
for the matrix code of property C18 (reduced-form VAR): the least-squares algebra of the hand-written model
`Model/RedVar.lean` EQUALS the definitions that `tools/gens/npmat_c18.py` regenerates on every run from
`/repo/src/irispie/fords/least_squares.py` (`ordinary_least_squares`, with `_np.linalg.solve` as an explicit parameter)
and `/repo/src/irispie/fords/covariances.py` (`symmetrize`) -- `Generated/LeastSquaresGen.lean`.

The model does not call an unverified solver: it calls `QMat.solveChecked` (Gauss-Jordan + exact re-check).  The tie is
therefore: whenever the model's estimate succeeds, its coefficient matrix is the generated `ordinary_least_squares`
evaluated with the external solver replaced by the model's checked solution.
-/
import IrisVerif.Props.GenTieCore
import IrisVerif.Props.QMatBridge
import IrisVerif.Model.RedVar
import IrisVerif.Generated.LeastSquaresGen

namespace IrisVerif.GenTieC18

open IrisVerif IrisVerif.QMat IrisVerif.RedVar IrisVerif.GenTie IrisVerif.QMatNp

/-- `ordinary_least_squares` is `solve(normalMx, normalMy)ᵀ` with the model's two moment matrices, for every value
of the external solver -/
theorem model_eq_generated_normalEq (solve : QMat → QMat → QMat) (lhs rhs : QMat) :
    Gen.LeastSquares.ordinary_least_squares solve lhs rhs = (solve (normalMx rhs) (normalMy lhs rhs)).transpose := rfl

/-- `RedVar.ols` is the generated function with the solver's answer replaced by the model's checked solution -/
theorem model_eq_generated_ols (lhs rhs : QMat) :
    ols lhs rhs = (QMat.solveChecked (normalMx rhs) (normalMy lhs rhs)).map
      (fun x => Gen.LeastSquares.ordinary_least_squares (fun _ _ => x) lhs rhs) := by
  unfold ols
  cases QMat.solveChecked (normalMx rhs) (normalMy lhs rhs) <;> rfl

/-- … in particular the coefficient matrix of every successful run of the model's estimator -/
theorem model_eq_generated_beta (s : Spec) (dof : Bool) (Y X : OMat) (pr : Option (List Prior)) (e : Estimate)
    (h : estimate s dof Y X pr = .ok e) :
    ∃ x, QMat.solveChecked (normalMx e.rhsEst) (normalMy e.lhsEst e.rhsEst) = some x ∧
      e.beta = Gen.LeastSquares.ordinary_least_squares (fun _ _ => x) e.lhsEst e.rhsEst := by
  obtain ⟨_, _, _, _, x, hx, hb⟩ := QMatBridge.estimate_ok s dof Y X pr e h
  exact ⟨x, hx, hb⟩

/-- `symmetrize(X) = (X + X.T) / 2` is the model's `½ (X + Xᵀ)` -/
theorem model_eq_generated_symmetrize (c : QMat) :
    QMat.smul (1 / 2) (c + c.transpose) = Gen.Symmetrize.symmetrize c :=
  smul_one_div_eq_divScalar 2 _

/-- the residual covariance of the model is the generated `symmetrize` of `u uᵀ / d` -/
theorem model_eq_generated_covResiduals (s : Spec) (u : OMat) (cols : List Nat) (denom : Int) :
    covResiduals s u cols denom =
      Gen.Symmetrize.symmetrize (QMat.smul (1 / (denom : Rat))
        (QMat.ofFn s.n cols.length (fun i k => (u.get i (cols.getD k 0)).getD 0) *
          (QMat.ofFn s.n cols.length (fun i k => (u.get i (cols.getD k 0)).getD 0)).transpose)) := by
  unfold covResiduals
  exact model_eq_generated_symmetrize _

end IrisVerif.GenTieC18
