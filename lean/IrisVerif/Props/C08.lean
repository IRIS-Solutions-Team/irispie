/-
C08 — Smoothed estimates reproduce the data and are a simulation of the model.

Theorems about the Kalman recursion `IrisVerif.KalmanAbs` (Lemmas/Kalman.lean: the recursion of Model/Kalman.lean =
fords/kalmans.py over Mathlib matrices, any commutative ring with 2 invertible, any number of states/shocks/observables,
any horizon `N`, any missing-data pattern `p : ℕ → Type`).
-/
import IrisVerif.Lemmas.Kalman
import Mathlib.Algebra.Order.Field.Rat
import Mathlib.Tactic.NormNum

open Matrix

set_option linter.unusedSectionVars false

namespace IrisVerif.C08
open IrisVerif.KalmanAbs

variable {n q w k : Type} [Fintype n] [Fintype q] [Fintype w] [Fintype k] [DecidableEq n] [DecidableEq q] [DecidableEq w]
variable {K : Type} [CommRing K]

section core
variable {p : Type} [Fintype p] [DecidableEq p]

/-- Measurement identity of one `one_step_back` step, for arbitrary matrices: whatever `r_{t+1}` (`rn`) is handed back,
`Z a₂ + H w₂ + D = y` on the observed rows, because `F Fi = 1` makes the `rn`-terms cancel. -/
theorem smooth_measurement_identity
    (T : Matrix n n K) (Z : Matrix p n K) (H : Matrix p w K) (Q0 : Matrix n n K) (Sw : Matrix w w K)
    (F Fi : Matrix p p K) (a0 rn : Matrix n k K) (w0 : Matrix w k K) (y D : Matrix p k K)
    (hQ : Q0ᵀ = Q0) (hS : Swᵀ = Sw)
    (hF : F = Z * Q0 * Zᵀ + H * Sw * Hᵀ) (hFi : F * Fi = 1) (hFiT : Fiᵀ = Fi) :
    let G := Q0 * (Zᵀ * Fi)
    let L := T - T * G * Z
    let pe := y - (Z * a0 + D + H * w0)
    let r := Zᵀ * Fi * pe + Lᵀ * rn
    let a2 := a0 + Q0 * r
    let w2 := w0 + (H * Sw)ᵀ * (Fi * pe - (T * G)ᵀ * rn)
    Z * a2 + H * w2 + D = y := by
  intro G L pe r a2 w2
  exact backward_step_measurement T Z H Q0 Sw F Fi G a0 rn w0 y D pe hS hF hFi (gain_transpose Q0 Z Fi hQ hFiT) rfl

/-- Transition identity of one backward step, for arbitrary matrices (no invertibility needed, only symmetry):
with `Q1 = Q0 - G Z Q0`, next-period `Q0' = T Q1 Tᵀ + P Σ Pᵀ`, `a0' = T (a0 + G pe) + K + P u0'`,
the smoothed `a2' = a0' + Q0' r'`, `a2 = a0 + Q0 (Zᵀ Fi pe + Lᵀ r')`, `u2' = u0' + (P Σ)ᵀ r'` satisfy `a2' = T a2 + K + P u2'`. -/
theorem smooth_transition_identity
    (T : Matrix n n K) (P : Matrix n q K) (Kc a0 a0' : Matrix n k K) (Q0 Q0' Q1 : Matrix n n K)
    (Z : Matrix p n K) (Fi : Matrix p p K) (G : Matrix n p K) (Su' : Matrix q q K) (pe : Matrix p k K)
    (u0' : Matrix q k K) (r' : Matrix n k K)
    (hG : G = Q0 * (Zᵀ * Fi)) (hGT : Gᵀ = Fi * Z * Q0) (hQ1 : Q1 = Q0 - G * Z * Q0)
    (hQ0' : Q0' = T * Q1 * Tᵀ + P * Su' * Pᵀ) (ha0' : a0' = T * (a0 + G * pe) + Kc + P * u0') (hSu : Su'ᵀ = Su') :
    a0' + Q0' * r' = T * (a0 + Q0 * (Zᵀ * Fi * pe + (T - T * G * Z)ᵀ * r')) + Kc + P * (u0' + (P * Su')ᵀ * r') := by
  exact backward_step_transition T P Kc a0 a0' Q0 Q0' Q1 Z Fi G Su' pe u0' r' hG hGT hQ1 hQ0' ha0' hSu

end core

variable [Invertible (2 : K)]
variable {p : ℕ → Type} [∀ t, Fintype (p t)] [∀ t, DecidableEq (p t)]
variable (I : Inputs n q w k p K)

/-- Measurement identity (smoothed estimates reproduce the data): for every period `t < N` of a sample of `N` periods and
any missing-data pattern, the smoothed state and smoothed measurement shocks satisfy every observed measurement equation
exactly: `Z_t a₂(t) + H_t w₂(t) + D_t = y_t`. -/
theorem measurement_identity (hI : I.Regular) {N t : ℕ} (ht : t < N) (hF : I.F t * I.Fi t = 1) :
    I.Z t * I.a2 N t + I.H t * I.w2 N t + I.D t = I.y t := by
  unfold Inputs.a2 Inputs.w2
  rw [I.r_of_lt ht]
  exact backward_step_measurement I.T (I.Z t) (I.H t) (I.Q0 t) (I.Sw t) (I.F t) (I.Fi t) (I.G t) (I.a0 t) (I.r N (t + 1))
    (I.w0 t) (I.y t) (I.D t) (I.pe t) (hI.Sw_symm t) (I.F_eq hI t) hF (I.G_transpose hI t) rfl

/-- Transition identity: smoothed states and smoothed transition shocks satisfy the transition equation exactly,
`a₂(t+1) = T a₂(t) + K + P u₂(t+1)`, for every `t < N`. -/
theorem transition_identity (hI : I.Regular) {N t : ℕ} (ht : t < N) :
    I.a2 N (t + 1) = I.T * I.a2 N t + I.Kc + I.P * I.u2 N (t + 1) := by
  unfold Inputs.a2 Inputs.u2
  rw [I.r_of_lt ht]
  exact backward_step_transition I.T I.P I.Kc (I.a0 t) (I.a0 (t + 1)) (I.Q0 t) (I.Q0 (t + 1)) (I.Q1 t) (I.Z t) (I.Fi t)
    (I.G t) (I.Su (t + 1)) (I.pe t) (I.u0 (t + 1)) (I.r N (t + 1)) rfl (I.G_transpose hI t) (I.Q1_eq hI t)
    (I.Q0_eq hI (t + 1)) rfl (hI.Su_symm (t + 1))

/-- Re-simulation: simulating the model from the smoothed state of any period `s` with the smoothed shocks of the
following periods reproduces the smoothed states, up to the end of the sample (induction over the horizon). -/
theorem resimulation (hI : I.Regular) {N s : ℕ} (j : ℕ) (hj : s + j ≤ N) :
    I.sim (I.a2 N s) (I.u2 N) s j = I.a2 N (s + j) := by
  induction j with
  | zero => rfl
  | succ j ih =>
    have h1 : s + j < N := by omega
    show I.T * I.sim (I.a2 N s) (I.u2 N) s j + I.Kc + I.P * I.u2 N (s + j + 1) = I.a2 N (s + (j + 1))
    rw [ih (by omega), ← add_assoc]
    exact (transition_identity I hI h1).symm

/-- the run in deviation mode: constants `K`, `D` set to zero, data and initial mean taken as deviations from a steady
state `x̄` (`ȳ_t = Z_t x̄ + D_t`); everything else unchanged -/
def deviation (x : Matrix n k K) : Inputs n q w k p K :=
  { I with Kc := 0, D := fun _ => 0, y := fun t => I.y t - (I.Z t * x + I.D t), aInit := I.aInit - x }

/-! ### deviation mode relative to a time-varying steady path (unit root with drift / balanced growth)

With a unit root and a drift the steady state is a PATH `x̄_t` with `x̄_{t+1} = T x̄_t + K` (`xp t` = the path value handed to period
`t`), not a fixed point.  The deviation run takes the data minus `Z_t x̄_{t+1} + D_t` and starts from `aInit − x̄_0`. -/

def deviationPath (xp : ℕ → Matrix n k K) : Inputs n q w k p K :=
  { I with Kc := 0, D := fun _ => 0, y := fun t => I.y t - (I.Z t * xp (t + 1) + I.D t), aInit := I.aInit - xp 0 }

/-! Idea of the lemmas below: handed `a − x̄_t`, the deviation run predicts `a0 − x̄_{t+1}` and sees the same prediction error, so
its state is the level state minus the path and `r`, hence the smoothed shocks, are unchanged.  `Q0f Q1f Ff Gf` do not read
`Kc D y aInit`: those of the deviation run are those of `I` by unfolding (the `congrArg`s below). -/
section path
variable (xp : ℕ → Matrix n k K)

theorem devp_y0f {t : ℕ} {a a' : Matrix n k K} (h : (deviationPath I xp).a0f t a' = I.a0f t a - xp (t + 1)) :
    (deviationPath I xp).y0f t a' = I.y0f t a - (I.Z t * xp (t + 1) + I.D t) := by
  show I.Z t * (deviationPath I xp).a0f t a' + 0 + I.H t * I.w0 t
    = I.Z t * I.a0f t a + I.D t + I.H t * I.w0 t - (I.Z t * xp (t + 1) + I.D t)
  rw [h, Matrix.mul_sub]
  abel

theorem devp_pef {t : ℕ} {a a' : Matrix n k K} (h : (deviationPath I xp).a0f t a' = I.a0f t a - xp (t + 1)) :
    (deviationPath I xp).pef t a' = I.pef t a := by
  show I.y t - (I.Z t * xp (t + 1) + I.D t) - (deviationPath I xp).y0f t a' = I.y t - I.y0f t a
  rw [devp_y0f I xp h, sub_sub_sub_cancel_right]

variable (hx : ∀ t, xp (t + 1) = I.T * xp t + I.Kc)
include hx

theorem devp_a0f (t : ℕ) (a : Matrix n k K) : (deviationPath I xp).a0f t (a - xp t) = I.a0f t a - xp (t + 1) := by
  show I.T * (a - xp t) + 0 + I.P * I.u0 t = I.T * a + I.Kc + I.P * I.u0 t - xp (t + 1)
  rw [hx t, Matrix.mul_sub]
  abel

theorem devp_state (t : ℕ) :
    ((deviationPath I xp).state t).2 = (I.state t).2 ∧ ((deviationPath I xp).state t).1 = (I.state t).1 - xp t := by
  induction t with
  | zero => exact ⟨rfl, rfl⟩
  | succ t ih =>
    refine ⟨congrArg (I.Q1f t) ih.1, ?_⟩
    show (deviationPath I xp).a0f t ((deviationPath I xp).state t).1
        + I.Gf t ((deviationPath I xp).state t).2 * (deviationPath I xp).pef t ((deviationPath I xp).state t).1
      = I.a0f t (I.state t).1 + I.Gf t (I.state t).2 * I.pef t (I.state t).1 - xp (t + 1)
    rw [ih.1, ih.2, devp_pef I xp (devp_a0f I xp hx t _), devp_a0f I xp hx, sub_add_eq_add_sub]

theorem devp_a0 (t : ℕ) : (deviationPath I xp).a0 t = I.a0 t - xp (t + 1) := by
  show (deviationPath I xp).a0f t ((deviationPath I xp).state t).1 = _
  rw [(devp_state I xp hx t).2, devp_a0f I xp hx]
  rfl

theorem devp_pe (t : ℕ) : (deviationPath I xp).pe t = I.pe t :=
  devp_pef I xp (devp_a0 I xp hx t)

theorem devp_G (t : ℕ) : (deviationPath I xp).G t = I.G t :=
  congrArg (I.Gf t) (devp_state I xp hx t).1

theorem devp_r (N t : ℕ) : (deviationPath I xp).r N t = I.r N t := by
  induction t using Inputs.r.induct N with
  | case1 t ht ih =>
    rw [(deviationPath I xp).r_of_lt ht, I.r_of_lt ht, ih, devp_pe I xp hx, Inputs.L, devp_G I xp hx]
    rfl
  | case2 t ht => rw [(deviationPath I xp).r_of_ge (not_lt.mp ht), I.r_of_ge (not_lt.mp ht)]

/-- `deviation_equivariance_path` is a selection of these conjuncts and `deviation_equivariance` the constant path -/
theorem deviationPath_spec (N t : ℕ) :
    (deviationPath I xp).Q0 t = I.Q0 t ∧ (deviationPath I xp).Q1 t = I.Q1 t ∧ (deviationPath I xp).F t = I.F t
    ∧ (deviationPath I xp).a0 t = I.a0 t - xp (t + 1) ∧ (deviationPath I xp).a1 t = I.a1 t - xp (t + 1)
    ∧ (deviationPath I xp).y0 t = I.y0 t - (I.Z t * xp (t + 1) + I.D t) ∧ (deviationPath I xp).pe t = I.pe t
    ∧ (deviationPath I xp).a2 N t = I.a2 N t - xp (t + 1) ∧ (deviationPath I xp).u2 N t = I.u2 N t
    ∧ (deviationPath I xp).w2 N t = I.w2 N t := by
  have hQ := (devp_state I xp hx t).1
  have hQ0 : (deviationPath I xp).Q0 t = I.Q0 t := congrArg (I.Q0f t) hQ
  have ha0 := devp_a0 I xp hx t
  refine ⟨hQ0, (devp_state I xp hx (t + 1)).1, congrArg (I.Ff t) hQ, ha0, (devp_state I xp hx (t + 1)).2, devp_y0f I xp ha0,
    devp_pe I xp hx t, ?_, ?_, ?_⟩
  · rw [Inputs.a2, ha0, hQ0, devp_r I xp hx, sub_add_eq_add_sub]
    rfl
  · rw [Inputs.u2, devp_r I xp hx]
    rfl
  · rw [Inputs.w2, devp_pe I xp hx, devp_G I xp hx, devp_r I xp hx]
    rfl

end path

/-- deviation equivariance along a steady PATH: same MSEs, gains and prediction errors; predicted, updated and smoothed states
equal to the level-mode ones minus the path value of their period; identical smoothed shocks — for every period, horizon and
missing-data pattern.  (`deviation_equivariance` is the case of a constant path.) -/
theorem deviation_equivariance_path (xp : ℕ → Matrix n k K) (hx : ∀ t, xp (t + 1) = I.T * xp t + I.Kc) (N t : ℕ) :
    (deviationPath I xp).Q0 t = I.Q0 t ∧ (deviationPath I xp).Q1 t = I.Q1 t
    ∧ (deviationPath I xp).a0 t = I.a0 t - xp (t + 1) ∧ (deviationPath I xp).a1 t = I.a1 t - xp (t + 1)
    ∧ (deviationPath I xp).pe t = I.pe t
    ∧ (deviationPath I xp).a2 N t = I.a2 N t - xp (t + 1) ∧ (deviationPath I xp).u2 N t = I.u2 N t
    ∧ (deviationPath I xp).w2 N t = I.w2 N t := by
  obtain ⟨h1, h2, -, h4, h5, -, h7, h8, h9, h10⟩ := deviationPath_spec I xp hx N t
  exact ⟨h1, h2, h4, h5, h7, h8, h9, h10⟩

/-- Deviation equivariance (the filter and smoother are affine in the data): if `x̄ = T x̄ + K`, running in deviation mode
(`K = 0`, `D = 0`) on `y_t − (Z_t x̄ + D_t)` from the initial mean minus `x̄` gives, for every period of every horizon and any
missing-data pattern: the same MSEs, gains and prediction errors, predicted / updated / smoothed states equal to the
level-mode ones minus `x̄`, predicted observables minus `ȳ_t`, and identical smoothed shocks. -/
theorem deviation_equivariance (x : Matrix n k K) (hx : x = I.T * x + I.Kc) (N t : ℕ) :
    (deviation I x).Q0 t = I.Q0 t ∧ (deviation I x).Q1 t = I.Q1 t ∧ (deviation I x).F t = I.F t
    ∧ (deviation I x).a0 t = I.a0 t - x ∧ (deviation I x).a1 t = I.a1 t - x
    ∧ (deviation I x).y0 t = I.y0 t - (I.Z t * x + I.D t) ∧ (deviation I x).pe t = I.pe t
    ∧ (deviation I x).a2 N t = I.a2 N t - x ∧ (deviation I x).u2 N t = I.u2 N t ∧ (deviation I x).w2 N t = I.w2 N t :=
  deviationPath_spec I (fun _ => x) (fun _ => hx) N t

/-! ### re-simulation of the measurement block, with the mode flag (`simulators._simulate_measurement(deviation=…)`)

The simulator computes `y = Z ξ + H w + D` in level mode and `y = Z ξ + H w` in deviation mode, always with the matrices of the
SAME model object (`I`).  Re-simulating the smoother output with the flag of the filter run reproduces the data of that run; with
the wrong flag the result is off by exactly the intercept `D`. -/

/-- one period of `_simulate_measurement(deviation=dev)`.  The `if` reduces for a literal flag (`simMeas I true t a wv` is
`Z a + H wv + 0` by unfolding), which the three theorems below rely on -/
def simMeas (dev : Bool) (t : ℕ) (a : Matrix n k K) (wv : Matrix w k K) : Matrix (p t) k K :=
  I.Z t * a + I.H t * wv + (if dev then 0 else I.D t)

theorem deviation_regular (hI : I.Regular) (x : Matrix n k K) : (deviation I x).Regular :=
  ⟨hI.QInit_symm, hI.Su_symm, hI.Sw_symm, hI.Fi_symm⟩

/-- level mode: the re-simulated observables are the data, in every period of the sample -/
theorem resimulate_measurement_level (hI : I.Regular) {N t : ℕ} (ht : t < N) (hF : I.F t * I.Fi t = 1) :
    simMeas I false t (I.a2 N t) (I.w2 N t) = I.y t := by
  exact measurement_identity I hI ht hF

/-- deviation mode: the deviation-mode smoother output re-simulated with `deviation=True` (no intercept, matrices of the level
model object) reproduces the deviation data `y − ȳ` -/
theorem resimulate_measurement_deviation (hI : I.Regular) (x : Matrix n k K) (hx : x = I.T * x + I.Kc) {N t : ℕ} (ht : t < N)
    (hF : I.F t * I.Fi t = 1) :
    simMeas I true t ((deviation I x).a2 N t) ((deviation I x).w2 N t) = I.y t - (I.Z t * x + I.D t) := by
  have hF' : (deviation I x).F t * (deviation I x).Fi t = 1 := by
    rw [(deviation_equivariance I x hx N t).2.2.1]
    exact hF
  exact measurement_identity (deviation I x) (deviation_regular I hI x) ht hF'

/-- with the wrong flag (level intercept on deviation-mode output) the re-simulation is off by exactly `D` -/
theorem resimulate_measurement_wrong_flag (hI : I.Regular) (x : Matrix n k K) (hx : x = I.T * x + I.Kc) {N t : ℕ} (ht : t < N)
    (hF : I.F t * I.Fi t = 1) :
    simMeas I false t ((deviation I x).a2 N t) ((deviation I x).w2 N t) = (I.y t - (I.Z t * x + I.D t)) + I.D t := by
  rw [← resimulate_measurement_deviation I hI x hx ht hF]
  exact congrArg (· + I.D t) (add_zero _).symm

section nonvacuous
local instance inv2 : Invertible (2 : ℚ) := ⟨1/2, by norm_num, by norm_num⟩

/-- a bivariate random walk with drift observed without noise: `T = P = Z = 1`, `H = 0`, unit covariances, data `y_t = t` -/
def exI : Inputs (Fin 2) (Fin 2) (Fin 2) (Fin 1) (fun _ => Fin 2) ℚ :=
  { T := 1, P := 1, Kc := fun _ _ => 1, Z := fun _ => 1, H := fun _ => 0, D := fun _ _ _ => 0,
    y := fun t _ _ => t, Su := fun _ => 1, Sw := fun _ => 1, u0 := fun _ => 0, w0 := fun _ => 0,
    Fi := fun _ => (⅟ (2 : ℚ)) • 1, aInit := 0, QInit := 1 }

/-- the hypotheses of `measurement_identity` / `transition_identity` are met by a concrete system -/
example : exI.Regular ∧ exI.F 0 * exI.Fi 0 = 1 := by
  have hs : IrisVerif.KalmanAbs.symm (1 + 1 : Matrix (Fin 2) (Fin 2) ℚ) = 1 + 1 :=
    symm_of_symmetric _ (by rw [Matrix.transpose_add, Matrix.transpose_one])
  refine ⟨⟨Matrix.transpose_one, fun _ => Matrix.transpose_one, fun _ => Matrix.transpose_one, fun _ => ?_⟩, ?_⟩
  · simp [exI]
  have hF : exI.F 0 = 1 + 1 := by
    simp [Inputs.F, Inputs.Ff, Inputs.Q0f, exI, Inputs.state, hs]
  rw [hF]
  show (1 + 1 : Matrix (Fin 2) (Fin 2) ℚ) * ((⅟ (2 : ℚ)) • 1) = 1
  rw [Matrix.mul_smul, mul_one, ← two_smul ℚ (1 : Matrix (Fin 2) (Fin 2) ℚ), smul_smul, invOf_mul_self, one_smul]

/-- the same with a stationary transition matrix `T = 0` -/
def exJ : Inputs (Fin 2) (Fin 2) (Fin 2) (Fin 1) (fun _ => Fin 2) ℚ :=
  { T := 0, P := 1, Kc := fun _ _ => 1, Z := fun _ => 1, H := fun _ => 0, D := fun _ _ _ => 0,
    y := fun t _ _ => t, Su := fun _ => 1, Sw := fun _ => 1, u0 := fun _ => 0, w0 := fun _ => 0,
    Fi := fun _ => 1, aInit := 0, QInit := 1 }

/-- the steady-state hypothesis of `deviation_equivariance` is met (`x̄ = K`) -/
example : ∃ x : Matrix (Fin 2) (Fin 1) ℚ, x = exJ.T * x + exJ.Kc := by
  refine ⟨exJ.Kc, ?_⟩
  show exJ.Kc = (0 : Matrix (Fin 2) (Fin 2) ℚ) * exJ.Kc + exJ.Kc
  rw [Matrix.zero_mul, zero_add]

/-- the path of the random walk with drift `exI` (`T = 1`, `K = 1`): `x̄_t = t` -/
def exPath (s : ℕ) : Matrix (Fin 2) (Fin 1) ℚ := fun _ _ => (s : ℚ)

/-- the path hypothesis of `deviation_equivariance_path` is met by it -/
example : ∀ t : ℕ, exPath (t + 1) = exI.T * exPath t + exI.Kc := by
  intro t
  ext i j
  show exPath (t + 1) i j = ((1 : Matrix (Fin 2) (Fin 2) ℚ) * exPath t) i j + (1 : ℚ)
  rw [Matrix.one_mul]
  simp [exPath]

end nonvacuous

end IrisVerif.C08
