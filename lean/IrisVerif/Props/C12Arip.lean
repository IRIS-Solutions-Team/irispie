/-
C12 — the arip optimality theorem for aggregation vectors other than "sum"/"mean" (finding C12-b).

"Repaired" is `Conv.aripSystem a true`: the multiplier columns are the transposed constraint rows, as irispie builds them
since commit a408cc0. "Unrepaired" is `Conv.aripSystem a false`: the 0/1 membership columns of `_create_multiplier_column`
that irispie used before.

`BridgeC12.aripSolve_is_constrained_minimiser` is stated for an arbitrary `AripIn`, i.e. for **every** aggregation vector
`a.agg` (first / last / custom weights included): the system `Conv.aripSystem a true` assembles has the transposed
constraint rows as multiplier columns (`BridgeC12.aripSystem_ok`), so it is the KKT system of the documented criterion and
its solution is the constrained minimiser. This file shows the hypotheses are met for such vectors (kernel evaluation of
the model) and that the unrepaired 0/1 membership columns give a different system and a different, non-optimal answer
exactly there, while they coincide with the repaired system for "sum".
-/
import IrisVerif.Props.BridgeC12

namespace IrisVerif.C12Arip
open IrisVerif IrisVerif.Conv IrisVerif.BridgeC12 IrisVerif.AripMin

def nones (n : Nat) : List Val := List.replicate n none

/-- two yearly values 0 and 6, two periods per year, `rho = 1`, no drift -/
def exFirst : AripIn := ⟨2, 2, 1, 0, [1, 1, 1, 1], [1, 0], [some 0, some 6], nones 4⟩
def exLast : AripIn := { exFirst with agg := [0, 1] }
def exCustom : AripIn := { exFirst with agg := [1, 3] }
def exSum : AripIn := { exFirst with agg := [1, 1] }

/-- the model solves the repaired system for "first", "last" and custom weights: the hypotheses of
`aripSolve_is_constrained_minimiser` are met by aggregation vectors that are not constant -/
theorem repaired_solutions :
    aripSolve exFirst true = .ok [0, 3, 6, 6] ∧ aripSolve exLast true = .ok [0, 0, 3, 6] ∧
    (aripSolve exCustom true).toOption.isSome = true ∧ exFirst.nHigh = 3 + 1 := by
  decide +kernel

/-- hence, by the bridge theorem, `[0, 3, 6, 6]` meets the model's constraint rows `A x = b` — for `exFirst` the rows
`x₀ = 0`, `x₂ = 6`, by `BridgeC12.constraint_agg_row` — and minimises the criterion among all `x'` with `A x' = b` -/
example := aripSolve_is_constrained_minimiser exFirst 3 rfl [0, 3, 6, 6] repaired_solutions.1

/-- the unrepaired membership columns: same system as the repaired one for "sum", a different system for "first", whose
solution `(0, 2, 6, 8)` is the non-optimal point of `C12.arip_membership_columns_first_not_minimiser` -/
theorem unrepaired_columns :
    (aripSystem exSum false).map (fun p => (p.1.data, p.2.data)) = (aripSystem exSum true).map (fun p => (p.1.data, p.2.data)) ∧
    (aripSystem exFirst false).map (fun p => p.1.data) ≠ (aripSystem exFirst true).map (fun p => p.1.data) ∧
    aripSolve exFirst false = .ok [0, 2, 6, 8] := by
  decide +kernel

end IrisVerif.C12Arip
