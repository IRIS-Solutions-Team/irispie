/-
Tie T (DESIGN.md §3: the model equals definitions regenerated from the source)
for the matrix code of property C03 (Kalman filter): one pass of the loop body of `predict` in the hand-written
model `Model/Kalman.lean` (`predictStep`: MSE prediction, median prediction, MSE updating, median updating) EQUALS the
two fragments that `tools/gens/npmat_c03.py` regenerates on every run from the loop body of
`/repo/src/irispie/fords/kalmans.py::predict` (`Generated/KalmanStepGen.lean`), for every system, every period input and
every set of observed rows (including none).

What is instantiated: `P` is present (`some s.P`), there is no anticipated-shock impact (`v_impact = None`),
`create_empty()` is the 0 × 0 matrix, `any_y` is "some measurement is observed", and the external `inv` is replaced by
the model's checked exact inverse (the model fails with `singular` where that does not exist).
-/
import IrisVerif.Props.GenTieCore
import IrisVerif.Props.KalmanBridge
import IrisVerif.Model.Kalman
import IrisVerif.Generated.KalmanStepGen

namespace IrisVerif.GenTieC03

open IrisVerif IrisVerif.QMat IrisVerif.Kalman IrisVerif.GenTie IrisVerif.QMatNp

/-- `symmetrize(X) = (X + X.T) / 2` (generated from fords/covariances.py) is the model's `½ (X + Xᵀ)` -/
theorem model_eq_generated_symmetrize (x : QMat) : symmetrize x = Gen.KalmanSymmetrize.symmetrize x :=
  smul_one_div_eq_divScalar 2 _

/-- on a 0 × 0 matrix the model's `symmetrize` is the generated one applied to the empty matrix `create_empty()` -/
theorem symmetrize_empty (x : QMat) (hr : x.rows = 0) (hc : x.cols = 0) :
    symmetrize x = Gen.KalmanSymmetrize.symmetrize (QMat.zero 0 0) := by
  rw [model_eq_generated_symmetrize]
  unfold Gen.KalmanSymmetrize.symmetrize QMatNp.divScalar
  apply ofFn_congr' _ _ (by rw [add_rows, hr]; rfl) (by rw [add_cols, hc]; rfl)
  intro i j hi' _
  rw [add_rows, hr] at hi'
  omega

theorem selectRows_nil_rows (a : QMat) : (a.selectRows []).rows = 0 := rfl

/-- "some measurement is observed in this period" (`any_y = cache.all_num_obs[t] > 0`) -/
def anyY (p : PeriodIn) : Bool := decide (0 < p.obs.length)

/-- a matrix with as many rows and columns as there are observations: its model `symmetrize` is the generated one applied
to what the code symmetrises, the matrix when `any_y` and `create_empty()` otherwise -/
theorem symmetrize_anyY (p : PeriodIn) (x : QMat) (hr : x.rows = p.obs.length) (hc : x.cols = p.obs.length) :
    symmetrize x = Gen.KalmanSymmetrize.symmetrize (if anyY p = true then x else QMat.zero 0 0) := by
  by_cases hy : anyY p = true
  · rw [if_pos hy]
    exact model_eq_generated_symmetrize x
  · have h0 : p.obs.length = 0 := Nat.eq_zero_of_not_pos fun h => hy (decide_eq_true h)
    rw [if_neg hy]
    exact symmetrize_empty x (hr.trans h0) (hc.trans h0)

/-- the MSE prediction fragment (`if P is not None: …` to `F = symmetrize(F)`) computes the model's
`P u0`, `P Σ_u`, `Q0`, `H Σ_w`, `F` -/
theorem model_eq_generated_predict_mse (s : Sys) (Q1p : QMat) (p : PeriodIn) :
    let Z := s.Z.selectRows p.obs
    let H := s.H.selectRows p.obs
    let covU := covOfStd p.stdU
    let covW := covOfStd p.stdW
    let Q0 := symmetrize (s.T * Q1p * s.T.transpose + s.P * covU * s.P.transpose)
    (s.P * p.u0, s.P * covU, Q0, H * covW, symmetrize (Z * Q0 * Z.transpose + H * covW * H.transpose))
      = Gen.KalmanStep.predict_mse (QMat.zero 0 0) s.T (some s.P) Z H covU covW p.u0 Q1p (anyY p) := by
  intro Z H covU covW Q0
  unfold Gen.KalmanStep.predict_mse
  simp only []
  -- with the two `symmetrize`s rewritten the tuples agree component by component (the `rfl` of `rw`); what is left are
  -- the side conditions of `symmetrize_anyY`: both dimensions of `Z Q0 Zᵀ + …` are `Z.rows` by computation
  rw [← model_eq_generated_symmetrize, ← symmetrize_anyY p _ ?_ ?_]
  · rfl
  · rfl

/-- one pass of the loop body of `predict`: whenever the model's `predictStep` succeeds, the cache it returns is
the output of the two generated fragments, the second one run with `inv :=` the model's checked inverse of `F` -/
theorem model_eq_generated_predictStep (s : Sys) (a1p Q1p : QMat) (p : PeriodIn) (c : PeriodCache)
    (h : predictStep s a1p Q1p p = .ok c) :
    (s.P * p.u0, c.PcovU, c.Q0, c.HcovW, c.F)
      = Gen.KalmanStep.predict_mse (QMat.zero 0 0) s.T (some s.P) c.Z c.H (covOfStd p.stdU) (covOfStd p.stdW) p.u0 Q1p
          (anyY p) ∧
    ∃ x, QMat.inverse c.F = some x ∧
      (c.Fi, c.a0, c.y0, c.ZtFi, c.G, c.Q1, c.pe, c.a1)
        = Gen.KalmanStep.predict_update (fun _ => x) (QMat.zero 0 0) s.T s.K c.Z c.H c.D none a1p (s.P * p.u0) p.w0 c.y
            c.Q0 c.F (anyY p) := by
  obtain ⟨x, hx, hc⟩ := predictStep_ok s a1p Q1p p c h
  subst hc
  refine ⟨model_eq_generated_predict_mse s Q1p p, x, hx, ?_⟩
  unfold Gen.KalmanStep.predict_update
  simp only []
  obtain ⟨_, hxr, hxc, _, _⟩ := inverse_sound _ x hx
  -- the generated text differs from the model's in `+ 0` and the two `symmetrize`s; after that the `rfl` of `rw`
  rw [addScalar_zero _ (wellShaped_add _ _), ← symmetrize_anyY p x hxr hxc, ← model_eq_generated_symmetrize]

end IrisVerif.GenTieC03
