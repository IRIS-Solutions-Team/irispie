/-
Tie T (DESIGN.md §3: the model equals definitions regenerated from the source)
for the matrix code of property C15: the hand-written executable model `Model/Acov.lean` EQUALS the definitions
that `tools/gens/npmat.py` regenerates from `/repo/src/irispie/fords/covariances.py` (+ the `Solution` properties of
`fords/solutions.py`) on every run (`Generated/AcovGen.lean`), for all inputs of consistent shape (any dimensions, any
number of unit roots, any order).  Every theorem of `Props/C15.lean` / `Props/BridgeC15.lean` about these functions
therefore speaks about the regenerated code; a change of the Python that changes the meaning of one of them makes a
proof below fail.  Not regenerated, hence not tied: the Lyapunov solver (a parameter of the generated functions), the
stability classification behind the two stored masks (arguments), and what the model covers outside `covariances.py`
(`acorr_from_acov`, `rescale_stds`, the zero-shift selection).

The model keeps `na`, `ny`, `nu` as separate fields and performs no shape checks; the code reads the dimensions off
the arrays.  The two agree exactly when the fields are the dimensions of the arrays: that is `Shapes s` (met by every
`Sol` the driver constructs).  Python `int`s are `Int` in the generated code; the model's `Nat`s are cast.
-/
import IrisVerif.Props.GenTieCore
import IrisVerif.Lemmas.Acov
import IrisVerif.Generated.AcovGen

namespace IrisVerif.GenTieC15

open IrisVerif IrisVerif.QMat IrisVerif.Acov IrisVerif.GenTie IrisVerif.QMatNp

/-- the `Solution` object that the model's `Sol` stands for.  `Z` (only `Z.shape[0]` is read, as `num_y`) and the two
stored stability masks are not part of `Sol`; they are arguments. -/
def solOf (s : Sol) (Z : QMat) (mt mm : List Bool) : Gen.Acov.Solution :=
  { Ta := s.Ta, Pa := s.Pa, Za := s.Za, Ua := s.Ua, H := s.H, Z := Z, num_unit_roots := (s.nu : Int),
    boolex_stable_transition_vector := mt, boolex_stable_measurement_vector := mm }

/-- the model's dimension fields are the dimensions of its arrays (`BridgeC15.Dims` is the other half of the shape
conditions: those on `covU`, `covW`, `H`; the two share `Za_rows` only) -/
structure Shapes (s : Sol) (Z : QMat) : Prop where
  nu_le : s.nu ≤ s.na
  Ta_rows : s.Ta.rows = s.na
  Ta_cols : s.Ta.cols = s.na
  Pa_rows : s.Pa.rows = s.na
  Za_rows : s.Za.rows = s.ny
  Za_cols : s.Za.cols = s.na
  Z_rows : Z.rows = s.ny

variable (s : Sol) (Z : QMat) (mt mm : List Bool)

theorem model_eq_generated_TaStable (h : Shapes s Z) : TaStable s = (solOf s Z mt mm).Ta_stable := by
  unfold TaStable Gen.Acov.Solution.Ta_stable QMatNp.slice solOf
  simp only [lo_some_nat, hi_none, h.Ta_rows, h.Ta_cols, Nat.min_eq_left h.nu_le]

theorem model_eq_generated_PaStable (h : Shapes s Z) : PaStable s = (solOf s Z mt mm).Pa_stable := by
  unfold PaStable Gen.Acov.Solution.Pa_stable QMatNp.slice solOf
  simp only [lo_some_nat, hi_none, lo_none, h.Pa_rows, Nat.min_eq_left h.nu_le]

theorem model_eq_generated_ZaStable (h : Shapes s Z) : ZaStable s = (solOf s Z mt mm).Za_stable := by
  unfold ZaStable Gen.Acov.Solution.Za_stable QMatNp.slice solOf
  simp only [lo_some_nat, hi_none, lo_none, h.Za_rows, h.Za_cols, Nat.min_eq_left h.nu_le]

theorem num_alpha_eq (h : Shapes s Z) : (solOf s Z mt mm).num_alpha = (s.na : Int) := by
  unfold Gen.Acov.Solution.num_alpha solOf
  simp only [shape_fst, h.Ta_rows]

theorem num_y_eq (h : Shapes s Z) : (solOf s Z mt mm).num_y = (s.ny : Int) := by
  unfold Gen.Acov.Solution.num_y solOf
  simp only [shape_fst, h.Z_rows]

/-- `sigma_u = Pa_stable @ cov_u @ Pa_stable.T` -/
theorem model_eq_generated_sigmaU (h : Shapes s Z) :
    sigmaU s = (solOf s Z mt mm).Pa_stable * s.covU * ((solOf s Z mt mm).Pa_stable).transpose := by
  unfold sigmaU
  rw [model_eq_generated_PaStable s Z mt mm h]

/-- `get_cov_alpha_00`: for every value `lyap` of the external Lyapunov solver, the generated function returns the
model's zero-padded covariance of the solver's answer on the model's stable block -/
theorem model_eq_generated_covAlpha00 (h : Shapes s Z) (lyap : QMat → QMat → QMat) :
    covAlpha00 s (lyap (TaStable s) (sigmaU s)) = Gen.Acov.get_cov_alpha_00 lyap (solOf s Z mt mm) s.covU := by
  unfold Gen.Acov.get_cov_alpha_00
  simp only []
  rw [← model_eq_generated_sigmaU s Z mt mm h, ← model_eq_generated_TaStable s Z mt mm h]
  unfold covAlpha00 QMatNp.setSlice
  simp only [solOf, zeros_shape, zero_rows, zero_cols, lo_some_nat, hi_none, h.Ta_rows, h.Ta_cols,
    Nat.min_eq_left h.nu_le]
  apply ofFn_congr
  intro i j hi hj
  rw [get_zero]
  by_cases hc : s.nu ≤ i ∧ s.nu ≤ j
  · rw [if_pos hc, if_pos ⟨hc.1, hi, hc.2, hj⟩]
  · rw [if_neg hc, if_neg (fun hh => hc ⟨hh.1, hh.2.2.1⟩)]

/-- the code slices the stable block back out of the padded matrix; that is the solver's answer when the answer is a
well-shaped `(na - nu) × (na - nu)` matrix -/
theorem slice_covAlpha00 (OmS : QMat) (hle : s.nu ≤ s.na) (hw : OmS.wellShaped = true) (hr : OmS.rows = s.na - s.nu)
    (hc : OmS.cols = s.na - s.nu) :
    QMatNp.slice (covAlpha00 s OmS) (some (s.nu : Int)) none (some (s.nu : Int)) none = OmS := by
  unfold covAlpha00
  rw [((Is.ofFn s.na s.na _).slice _ _ _ _).eq_ofFn, lo_some_nat, hi_none, Nat.min_eq_left hle]
  refine (ofFn_congr _ _ _ _ fun i j _ _ => ?_).trans (ofFn_get OmS hw hr hc)
  rw [if_pos ⟨Nat.le_add_right _ _, Nat.le_add_right _ _⟩, Nat.add_sub_cancel_left, Nat.add_sub_cancel_left]

/-- `get_cov_triangular_00`: the generated function returns the model's `covTriangular00` of the solver's answer,
provided the answer has the shape of the stable block (otherwise the code, which re-slices the padded matrix, and the
model, which uses the answer as it is, differ) -/
theorem model_eq_generated_covTriangular00 (h : Shapes s Z) (lyap : QMat → QMat → QMat)
    (hw : (lyap (TaStable s) (sigmaU s)).wellShaped = true)
    (hr : (lyap (TaStable s) (sigmaU s)).rows = s.na - s.nu) (hc : (lyap (TaStable s) (sigmaU s)).cols = s.na - s.nu) :
    covTriangular00 s (lyap (TaStable s) (sigmaU s))
      = Gen.Acov.get_cov_triangular_00 lyap (solOf s Z mt mm) s.covU s.covW := by
  unfold Gen.Acov.get_cov_triangular_00
  simp only []
  rw [← model_eq_generated_covAlpha00 s Z mt mm h lyap, ← model_eq_generated_ZaStable s Z mt mm h]
  have hsl := slice_covAlpha00 s (lyap (TaStable s) (sigmaU s)) h.nu_le hw hr hc
  simp only [solOf] at hsl ⊢
  rw [hsl]
  rfl

/-- `Ta_00 = Ta.copy(); Ta_00[:nu, :] = 0; Ta_00[:, :nu] = 0` -/
theorem Ta00_eq (h : Shapes s Z) :
    Ta00 s = QMatNp.fillSlice (QMatNp.fillSlice s.Ta none (some (s.nu : Int)) none none 0) none none none
      (some (s.nu : Int)) 0 := by
  unfold Ta00 QMatNp.fillSlice
  simp only [ofFn_rows, ofFn_cols, lo_none, hi_none, hi_some_nat, h.Ta_rows, h.Ta_cols, Nat.min_eq_left h.nu_le]
  apply ofFn_congr
  intro i j hi hj
  rw [get_ofFn_of_lt _ _ _ _ _ hi hj]
  by_cases hc : s.nu ≤ i ∧ s.nu ≤ j
  · rw [if_pos hc, if_neg (by omega), if_neg (by omega)]
  · rw [if_neg hc]
    by_cases hj' : j < s.nu
    · rw [if_pos ⟨Nat.zero_le _, hi, Nat.zero_le _, hj'⟩]
    · rw [if_neg (fun hh => hj' hh.2.2.2), if_pos ⟨Nat.zero_le _, by omega, Nat.zero_le _, hj⟩]

/-- `get_autocov_triangular_00`: the list the generated function returns holds, in slot `j`, the model's
`autocovTriangular … j`, for every order `k` (no slot is left `None`) -/
theorem model_eq_generated_autocovTriangular (h : Shapes s Z) (lyap : QMat → QMat → QMat)
    (hw : (lyap (TaStable s) (sigmaU s)).wellShaped = true)
    (hr : (lyap (TaStable s) (sigmaU s)).rows = s.na - s.nu) (hc : (lyap (TaStable s) (sigmaU s)).cols = s.na - s.nu)
    (k : Nat) :
    Gen.Acov.get_autocov_triangular_00 lyap (solOf s Z mt mm) s.covU s.covW (k : Int)
      = (List.range (k + 1)).map (fun j => some (autocovTriangular s (lyap (TaStable s) (sigmaU s)) j)) := by
  unfold Gen.Acov.get_autocov_triangular_00
  simp only []
  rw [← model_eq_generated_covTriangular00 s Z mt mm h lyap hw hr hc, num_alpha_eq s Z mt mm h, num_y_eq s Z mt mm h,
    zeros_natCast, zeros_natCast, foldl_range_natCast, ← Int.natCast_succ, replicate_natCast,
    ← Int.natCast_zero, listSet_natCast]
  simp only [← Int.natCast_succ, listSet_natCast, listGet_natCast]
  -- one pass of the loop is the model's recursion `Γ (i + 1) = calA · Γ i`, by definition (`fun i => rfl`); `Ta00_eq`
  -- turns the `Ta00` inside `calA` into the two `fillSlice`s of the generated text
  exact (Ta00_eq s Z h) ▸ foldl_set_chain k (fun j => autocovTriangular s (lyap (TaStable s) (sigmaU s)) j)
    (fun o => calA s * QMatNp.unwrap o) (fun i => rfl)

/-- a row of `blockdiag(Ua, I)` against a vector -/
theorem bigU_row_sum (i : Nat) (hi : i < s.na + s.ny) (x : Nat → Rat) :
    ∑ l ∈ Finset.range (s.na + s.ny), (bigU s).get i l * x l
      = if i < s.na then ∑ l ∈ Finset.range s.na, s.Ua.get i l * x l else x i := by
  have hget : ∀ l, l < s.na + s.ny →
      (bigU s).get i l = if i < s.na ∧ l < s.na then s.Ua.get i l else if i = l then 1 else 0 :=
    fun l hl => get_ofFn_of_lt _ _ _ _ _ hi hl
  split
  · rename_i h
    rw [Finset.sum_range_add, Finset.sum_eq_zero (s := Finset.range s.ny), add_zero]
    · refine Finset.sum_congr rfl fun l hl => ?_
      have hl' := Finset.mem_range.1 hl
      rw [hget l (by omega), if_pos ⟨h, hl'⟩]
    · intro l hl
      have hl' := Finset.mem_range.1 hl
      rw [hget _ (by omega), if_neg (by omega), if_neg (by omega), zero_mul]
  · rename_i h
    rw [Finset.sum_eq_single_of_mem i (Finset.mem_range.2 hi), hget i hi, if_neg (fun hh => h hh.1), if_pos rfl,
      one_mul]
    intro l hl hne
    rw [hget l (Finset.mem_range.1 hl), if_neg (fun hh => h hh.1), if_neg (Ne.symm hne), zero_mul]

/-- `cov[:na, :] = Ua @ cov[:na, :]` multiplies by `blockdiag(Ua, I)` on the left -/
theorem setRows_eq (g : QMat) (hUr : s.Ua.rows = s.na) (hUc : s.Ua.cols = s.na) (hgr : g.rows = s.na + s.ny) :
    QMatNp.setSlice g none (some (s.na : Int)) none none (s.Ua * QMatNp.slice g none (some (s.na : Int)) none none)
      = bigU s * g := by
  have hmin : min s.na (s.na + s.ny) = s.na := Nat.min_eq_left (Nat.le_add_right _ _)
  refine ext_of_get _ _ (wellShaped_setSlice _ _ _ _ _ _) (wellShaped_mul _ _) hgr rfl
    fun i j (hi : i < g.rows) (hj : j < g.cols) => ?_
  have hi' : i < s.na + s.ny := hgr ▸ hi
  have hR : (bigU s * g).get i j
      = if i < s.na then ∑ l ∈ Finset.range s.na, s.Ua.get i l * g.get l j else g.get i j := by
    rw [get_mul, if_pos ⟨hi', hj⟩]
    exact bigU_row_sum s i hi' fun l => g.get l j
  rw [hR, get_setSlice _ _ _ _ _ _ _ _ hi hj]
  simp only [lo_none, hi_none, hi_some_nat, hgr, hmin, Nat.sub_zero]
  by_cases h : i < s.na
  · rw [if_pos ⟨Nat.zero_le _, h, Nat.zero_le _, hj⟩, if_pos h, get_mul, hUr, hUc, if_pos ⟨h, hj⟩]
    refine Finset.sum_congr rfl fun l hl => ?_
    rw [get_slice, if_pos ⟨by simpa [hgr, hmin] using Finset.mem_range.1 hl, hj⟩]
    simp only [lo_none, Nat.zero_add]
  · rw [if_neg (fun hh => h hh.2.1), if_neg h]

theorem setCols_eq (g : QMat) (hUr : s.Ua.rows = s.na) (hUc : s.Ua.cols = s.na) (hgc : g.cols = s.na + s.ny) :
    QMatNp.setSlice g none none none (some (s.na : Int))
        (QMatNp.slice g none none none (some (s.na : Int)) * s.Ua.transpose)
      = g * (bigU s).transpose := by
  have hmin : min s.na (s.na + s.ny) = s.na := Nat.min_eq_left (Nat.le_add_right _ _)
  refine ext_of_get _ _ (wellShaped_setSlice _ _ _ _ _ _) (wellShaped_mul _ _) rfl hgc
    fun i j (hi : i < g.rows) (hj : j < g.cols) => ?_
  have hj' : j < s.na + s.ny := hgc ▸ hj
  have hR : (g * (bigU s).transpose).get i j
      = if j < s.na then ∑ l ∈ Finset.range s.na, s.Ua.get j l * g.get i l else g.get i j := by
    rw [get_mul, if_pos ⟨hi, hj'⟩, hgc, ← bigU_row_sum s j hj' fun l => g.get i l]
    refine Finset.sum_congr rfl fun l hl => ?_
    rw [get_transpose, if_pos ⟨Finset.mem_range.1 hl, hj'⟩, mul_comm]
  rw [hR, get_setSlice _ _ _ _ _ _ _ _ hi hj]
  simp only [lo_none, hi_none, hi_some_nat, hgc, hmin, Nat.sub_zero]
  by_cases h : j < s.na
  · rw [if_pos ⟨Nat.zero_le _, hi, Nat.zero_le _, h⟩, if_pos h, get_mul]
    simp only [slice_rows, slice_cols, transpose_cols, lo_none, hi_none, hi_some_nat, hgc, hmin, hUr, Nat.sub_zero]
    rw [if_pos ⟨hi, h⟩]
    refine Finset.sum_congr rfl fun l hl => ?_
    have hl' := Finset.mem_range.1 hl
    rw [get_slice, if_pos ⟨by simpa using hi, by simpa [hgc, hmin] using hl'⟩, get_transpose, hUr, hUc,
      if_pos ⟨hl', h⟩, mul_comm]
    simp only [lo_none, Nat.zero_add]
  · rw [if_neg (fun hh => h hh.2.2.2), if_neg h]

/-- the closure `_transform_cov_triangular_to_square` of `get_autocov_square_00`: the two in-place slice updates
`cov[:na, :] = Ua @ cov[:na, :]`, `cov[:, :na] = cov[:, :na] @ Ua.T` are the model's congruence with `blockdiag(Ua, I)`,
for every `(na + ny)`-square `g` (entries outside the stored data are never read) -/
theorem model_eq_generated_toSquare (g : QMat) (hUr : s.Ua.rows = s.na) (hUc : s.Ua.cols = s.na)
    (hgr : g.rows = s.na + s.ny) (hgc : g.cols = s.na + s.ny) :
    toSquare s g = Gen.Acov.get_autocov_square_00__transform_cov_triangular_to_square s.Ua (s.na : Int) g := by
  unfold Gen.Acov.get_autocov_square_00__transform_cov_triangular_to_square toSquare
  simp only []
  rw [setRows_eq s g hUr hUc hgr, setCols_eq s (bigU s * g) hUr hUc hgc]

/-- `get_autocov_square_00`: slot `j` of the generated list is the model's `toSquare` of `autocovTriangular … j` -/
theorem model_eq_generated_autocovSquare00 (h : Shapes s Z) (hUr : s.Ua.rows = s.na) (hUc : s.Ua.cols = s.na)
    (lyap : QMat → QMat → QMat) (hw : (lyap (TaStable s) (sigmaU s)).wellShaped = true)
    (hr : (lyap (TaStable s) (sigmaU s)).rows = s.na - s.nu) (hc : (lyap (TaStable s) (sigmaU s)).cols = s.na - s.nu)
    (k : Nat) :
    Gen.Acov.get_autocov_square_00 lyap (solOf s Z mt mm) s.covU s.covW (k : Int)
      = (List.range (k + 1)).map (fun j => toSquare s (autocovTriangular s (lyap (TaStable s) (sigmaU s)) j)) := by
  unfold Gen.Acov.get_autocov_square_00
  simp only []
  rw [model_eq_generated_autocovTriangular s Z mt mm h lyap hw hr hc k, num_alpha_eq s Z mt mm h, List.map_map]
  apply List.map_congr_left
  intro j _
  obtain ⟨hgr, hgc⟩ := autocovTriangular_dims s h.Za_rows (lyap (TaStable s) (sigmaU s)) j
  exact (model_eq_generated_toSquare s _ hUr hUc hgr hgc).symm

/-- the generated code's arrays with NaN cells and the model's `CMat` are the same data -/
def toCMat (a : QMatNp.NanMat) : CMat := ⟨a.rows, a.cols, a.data⟩

theorem nanGet_ofFn (r c : Nat) (f : Nat → Nat → Option Rat) (i j : Nat) (hi : i < r) (hj : j < c) :
    (QMatNp.NanMat.ofFn r c f).get i j = f i j := by
  unfold QMatNp.NanMat.get QMatNp.NanMat.ofFn
  simp [hi, hj]

theorem maskNot_getD (m : List Bool) (i : Nat) (hi : i < m.length) :
    (QMatNp.maskNot m).getD i false = !(m.getD i false) := by
  unfold QMatNp.maskNot
  simp [List.getD_eq_getElem?_getD, List.getElem?_eq_getElem hi]

/-- the closure `fill_nans` of `get_autocov_square`: `cov[~stable, :] = nan; cov[:, ~stable] = nan` is the model's
`fillNaN` whenever the stored mask `boolex_stable` is the model's stability classification of the joint vector -/
theorem model_eq_generated_fillNaN (g : QMat) (mask : List Bool) (hsq : g.cols = g.rows) (hlen : mask.length = g.rows)
    (hmask : ∀ i, i < g.rows → mask.getD i false = isStable s i) :
    fillNaN s g = toCMat (Gen.Acov.get_autocov_square_fill_nans mask g) := by
  show CMat.ofFn g.rows g.cols _ = CMat.ofFn g.rows g.cols fun i j =>
    if (QMatNp.maskNot mask).getD j false then none
    else (NanMat.ofFn g.rows g.cols fun i j =>
      if (QMatNp.maskNot mask).getD i false then none
      else (NanMat.ofFn g.rows g.cols fun i j => some (g.get i j)).get i j).get i j
  refine congrArg (CMat.mk g.rows g.cols) (grid_congr _ _ _ _ fun i j hi hj => ?_)
  rw [nanGet_ofFn _ _ _ i j hi hj, nanGet_ofFn _ _ _ i j hi hj, maskNot_getD mask j (by omega),
    maskNot_getD mask i (by omega), hmask i hi, hmask j (by omega)]
  cases isStable s i <;> cases isStable s j <;> rfl

/-- the model's stability classification as the stored masks of `Solution` -/
def maskT : List Bool := (List.range s.na).map (isStable s)
def maskM : List Bool := (List.range s.ny).map (fun i => isStable s (s.na + i))

theorem mask_getD (i : Nat) (hi : i < s.na + s.ny) : (maskT s ++ maskM s).getD i false = isStable s i := by
  have h : maskT s ++ maskM s = (List.range (s.na + s.ny)).map (isStable s) := by
    rw [List.range_add, List.map_append, List.map_map]
    rfl
  rw [h, List.getD_eq_getElem?_getD, List.getElem?_map, List.getElem?_range hi, Option.map_some, Option.getD_some]

theorem lyapunov_shape (T Sig Om : QMat) (h : lyapunov T Sig = some Om) :
    Om.wellShaped = true ∧ Om.rows = T.rows ∧ Om.cols = T.rows := by
  obtain ⟨⟨x, _, rfl⟩, _⟩ := lyapunov_eq_some T Sig Om h
  exact ⟨wellShaped_unvec _ _ _, rfl, rfl⟩

/-- `Acov.acov` (the function the C15 driver runs) is the regenerated code: when the model's checked Lyapunov
solver succeeds with `OmS`, the model's answer is the generated `get_autocov_square` (external solver := the constant
`OmS`, stored masks := the model's classification) followed by the selection of the zero-shift tokens -/
theorem model_eq_generated_acov (Z : QMat) (h : Shapes s Z) (hUr : s.Ua.rows = s.na) (hUc : s.Ua.cols = s.na)
    (sel : List Nat) (k : Nat) (OmS : QMat) (hO : lyapunov (TaStable s) (sigmaU s) = some OmS) :
    acov s sel k = some ((Gen.Acov.get_autocov_square (fun _ _ => OmS) (solOf s Z (maskT s) (maskM s)) s.covU s.covW
      (k : Int)).map (fun c => select (toCMat c) sel)) := by
  obtain ⟨hw, hr, hc⟩ := lyapunov_shape _ _ _ hO
  unfold acov Gen.Acov.get_autocov_square
  rw [hO]
  simp only []
  rw [model_eq_generated_autocovSquare00 s Z (maskT s) (maskM s) h hUr hUc (fun _ _ => OmS) hw hr hc k,
    List.map_map, List.map_map]
  refine congrArg some (List.map_congr_left fun j _ => ?_)
  have hlen : (maskT s ++ maskM s).length = s.na + s.ny := by simp [maskT, maskM]
  -- `toSquare s _` has `na + ny` rows and columns by definition (those of `bigU s`)
  exact congrArg (select · sel) (model_eq_generated_fillNaN s (toSquare s (autocovTriangular s OmS j))
    (maskT s ++ maskM s) rfl hlen (mask_getD s))

/-! ## non-vacuity: the hypotheses are met by a concrete model with a unit root (kernel evaluation) -/

namespace Examples

/-- `α = (random walk, AR(1) with coefficient 1/2)`, `y = α₁ + α₂ + w`: `na = 2`, `ny = 1`, `nu = 1` -/
def exSol : Sol :=
  ⟨2, 1, 1, QMat.ofRows [[1, 0], [0, 1/2]], QMat.ofRows [[1], [1]], QMat.ofRows [[1, 1]], QMat.ofRows [[1, 0], [0, 1]],
    QMat.ofRows [[1]], QMat.ofRows [[1]], QMat.ofRows [[1]], 0⟩

example : Shapes exSol (QMat.ofRows [[1, 1]]) ∧ exSol.Ua.rows = exSol.na ∧ exSol.Ua.cols = exSol.na :=
  ⟨⟨by decide, rfl, rfl, rfl, rfl, rfl, rfl⟩, rfl, rfl⟩

/-- the checked Lyapunov solver succeeds on the stable block (variance 4/3) -/
theorem ex_lyapunov :
    (lyapunov (TaStable exSol) (sigmaU exSol)).map (fun o => decide (3 * o.get 0 0 = 4)) = some true := by
  decide +kernel

/-- on this model the generated code and the model agree by evaluation as well (order 2, all three tokens selected) -/
theorem ex_acov_agrees :
    (match lyapunov (TaStable exSol) (sigmaU exSol) with
     | some OmS => acov exSol [0, 1, 2] 2 == some ((Gen.Acov.get_autocov_square (fun _ _ => OmS)
          (solOf exSol (QMat.ofRows [[1, 1]]) (maskT exSol) (maskM exSol)) exSol.covU exSol.covW 2).map
          (fun c => select (toCMat c) [0, 1, 2]))
     | none => false) = true := by
  decide +kernel

end Examples

end IrisVerif.GenTieC15
