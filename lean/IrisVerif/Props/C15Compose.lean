/-
Property C15 -- the end-to-end statement about the executable model, composed from the stage theorems
(`Props/C15.lean`, `Props/BridgeC15.lean` with its `QMatSolveBridge` block at the end).

One theorem whose hypotheses are the shape of the input (what the driver's parser constructs) and "the model answered":
an answer of `acov` on the zero-shift selection IS the stationary solution of the second-moment recursion of
the solved model, restricted to the current-dated rows, NaN exactly on the rows and columns loading on unit-root states.
-/
import IrisVerif.Props.BridgeC15

open Matrix Kronecker

namespace IrisVerif.C15Compose
open IrisVerif IrisVerif.QMat IrisVerif.Acov IrisVerif.BridgeC15

/-- **C15, end to end on the model.** Let `s` be a solution of driver shape (`Dims s`) and `shifts` the time shifts of the joint
token vector. If the model answers `acov s (zeroShiftSel shifts) k = some l`, then there is a covariance `Ω` of the stable block
such that

1. *(certificate)* `Ω` is symmetric and satisfies the Lyapunov equation of the stable block, `Ω = T_s Ω T_sᵀ + P_s Σ_u P_sᵀ`, as an
   identity of Mathlib matrices;
2. *(uniqueness)* `I − T_s ⊗ T_s` is non-singular, so (`C15.lyapunov_unique_kron`) `Ω` is THE solution: the stationary covariance;
3. *(all lags)* the `j`-th triangular matrix is `𝒜^j Γ₀` with `Γ₀ = get_cov_triangular_00`, which is a fixed point of the
   second-moment propagation of the joint `(α, y)` system (`BridgeC15.covTriangular00_fixed_point`) and the lag-`j` cross moment of
   every stationary family (`C15.lag_cross_moment`);
4. *(what is reported)* `l` has `k+1` matrices; cell `(a, b)` of the `j`-th one is NaN iff the variable at the `a`-th or at the
   `b`-th selected position loads on a unit-root state, and otherwise it is the cell of the square form `U Γ_j Uᵀ` at those
   positions;
5. *(which rows)* the selected positions are exactly the zero-shift positions of the token vector, in vector order;
6. *(which mask)* a measurement variable is masked iff one of its loadings `Za[i, :nu]` on the unit-root states exceeds the
   tolerance — not according to which transition variables it touches.

Missing link to a purely input-level hypothesis: "the model answers" ⇔ `det (I − T_s⊗T_s) ≠ 0` needs, besides the completeness of
the checked solver on non-singular systems (`QMat.solveChecked_isSome_iff` in `Lemmas/QMatSolve.lean`, proved), that the unique solution passes the
model's symmetry re-check (true when `Σ_u` is symmetric; not proved at the `QMat` level). -/
theorem acov_end_to_end (s : Sol) (hd : Dims s) (shifts : List Int) (k : Nat) (l : List CMat)
    (h : acov s (zeroShiftSel shifts) k = some l) :
    ∃ OmS : QMat,
      -- 1. certificate
      (OmS.toMat (s.na - s.nu) (s.na - s.nu)
          = (TaStable s).toMat (s.na - s.nu) (s.na - s.nu) * OmS.toMat (s.na - s.nu) (s.na - s.nu)
              * ((TaStable s).toMat (s.na - s.nu) (s.na - s.nu))ᵀ + (sigmaU s).toMat (s.na - s.nu) (s.na - s.nu)
        ∧ (OmS.toMat (s.na - s.nu) (s.na - s.nu))ᵀ = OmS.toMat (s.na - s.nu) (s.na - s.nu)) ∧
      -- 2. uniqueness
      IsUnit (1 - (TaStable s).toMat (s.na - s.nu) (s.na - s.nu) ⊗ₖ (TaStable s).toMat (s.na - s.nu) (s.na - s.nu)).det ∧
      -- 3. all lags
      (∀ j, (autocovTriangular s OmS j).toMat (s.na + s.ny) (s.na + s.ny)
          = ((Acov.calA s).toMat (s.na + s.ny) (s.na + s.ny)) ^ j * (covTriangular00 s OmS).toMat (s.na + s.ny) (s.na + s.ny)) ∧
      -- 4. what is reported
      (l = (List.range (k + 1)).map
          (fun j => select (fillNaN s (toSquare s (autocovTriangular s OmS j))) (zeroShiftSel shifts)) ∧
        ∀ j a b, a < (zeroShiftSel shifts).length → b < (zeroShiftSel shifts).length →
          let g := toSquare s (autocovTriangular s OmS j)
          let ia := (zeroShiftSel shifts).getD a 0
          let ib := (zeroShiftSel shifts).getD b 0
          ia < g.rows → ib < g.cols →
          (((select (fillNaN s g) (zeroShiftSel shifts)).get a b = none ↔ (isStable s ia = false ∨ isStable s ib = false)) ∧
           (isStable s ia = true → isStable s ib = true →
              (select (fillNaN s g) (zeroShiftSel shifts)).get a b = some (g.get ia ib)))) ∧
      -- 5. which rows
      ((∀ i, i ∈ zeroShiftSel shifts ↔ (i < shifts.length ∧ shifts.getD i 1 = 0)) ∧ (zeroShiftSel shifts).Pairwise (· < ·)) ∧
      -- 6. which mask
      (∀ i, isStable s (s.na + i) = true ↔ ∀ j, j < s.nu → absQ (s.Za.get i j) ≤ s.tol) := by
  rw [acov_eq_map] at h
  obtain ⟨OmS, hO, rfl⟩ := Option.map_eq_some_iff.1 h
  have hT : (TaStable s).rows = s.na - s.nu ∧ (TaStable s).cols = s.na - s.nu := ⟨rfl, rfl⟩
  obtain ⟨_, _, _, hLy, hsym⟩ := lyapunov_view (TaStable s) (sigmaU s) OmS (s.na - s.nu) hT.1 hT.2 hO
  refine ⟨OmS, ⟨hLy, hsym⟩, QMatSolveBridge.lyapunov_isUnit_det hT.1 hT.2 hO,
    fun j => autocovTriangular_view s hd OmS j, ⟨rfl, ?_⟩, C15.zeroShiftSel_spec shifts,
    fun i => C15.measurement_mask_by_states s i⟩
  intro j a b ha hb g ia ib hia hib
  rw [C15.select_get (fillNaN s g) (zeroShiftSel shifts) a b ha hb]
  exact C15.nan_pattern s g ia ib hia hib

/-- non-vacuity: the hypothesis "the model answered" is met by the bridge's example system (AR(1), one measurement) -/
example : ∃ l, acov BridgeC15.Examples.exSol (zeroShiftSel [0, 0]) 1 = some l := by
  have : (acov BridgeC15.Examples.exSol (zeroShiftSel [0, 0]) 1).isSome = true := by decide +kernel
  exact Option.isSome_iff_exists.1 this

end IrisVerif.C15Compose
