/-
Property C18 -- reduced-form VAR estimates are the least-squares solution and reproduce the data.
First Mathlib matrices (any linearly ordered field, all sizes); then (`section Model`) the executable model `Model/RedVar.lean`
that the driver runs against irispie: `estimate` satisfies the normal equations on exactly the complete columns and simulating
with its residuals returns the data; what `estimate(target_db=…)` returns and request histories on one variant; `estimate`
rejects exactly what the code rejects; with priors it is least squares on `[data | dummy observations]`; the variant loops treat
every variant on its own.
-/
import IrisVerif.Lemmas.LeastSquares
import IrisVerif.Lemmas.RedVar
import IrisVerif.Lemmas.Assoc
import Mathlib.LinearAlgebra.Matrix.NonsingularInverse
import Mathlib.Data.Matrix.ColumnRowPartitioned
import Mathlib.LinearAlgebra.Matrix.RowCol
import Mathlib.LinearAlgebra.Matrix.Notation
import Mathlib.Tactic.NormNum

open Matrix

namespace IrisVerif.C18
-- each section fixes its index types with their instances once; not every theorem needs all of them
set_option linter.unusedSectionVars false
open IrisVerif.LeastSquares

section OLS
variable {v k T : Type} [Fintype v] [Fintype k] [Fintype T] [DecidableEq k]
variable {K : Type} [Field K] [LinearOrder K] [IsStrictOrderedRing K]

omit [LinearOrder K] [IsStrictOrderedRing K] [DecidableEq k] in
theorem normalEq_iff_orthogonal (Y : Matrix v T K) (X : Matrix k T K) (β : Matrix v k K) :
    NormalEq Y X β ↔ X * (Y - β * X)ᵀ = 0 :=
  normalEq_iff Y X β

/-- **Least squares**: coefficients satisfying the normal equations minimise the sum of squared
residuals over exactly the columns that entered `X` and `Y`, equation by equation and in total. -/
theorem normalEq_minimises_row (Y : Matrix v T K) (X : Matrix k T K) (β : Matrix v k K)
    (h : NormalEq Y X β) (β' : Matrix v k K) (i : v) :
    ∑ t, (Y - β * X) i t * (Y - β * X) i t ≤ ∑ t, (Y - β' * X) i t * (Y - β' * X) i t := by
  have := LeastSquares.ls_min Xᵀ (Y i) (β i) (orth_row Y X β h i) (β' i)
  rw [← row_resid, ← row_resid] at this
  exact this

theorem normalEq_minimises (Y : Matrix v T K) (X : Matrix k T K) (β : Matrix v k K)
    (h : NormalEq Y X β) (β' : Matrix v k K) : ssr Y X β ≤ ssr Y X β' :=
  Finset.sum_le_sum (fun i _ => normalEq_minimises_row Y X β h β' i)

omit [LinearOrder K] [IsStrictOrderedRing K] in
theorem normalEq_unique (Y : Matrix v T K) (X : Matrix k T K) (β β' : Matrix v k K)
    (hdet : IsUnit (X * Xᵀ).det) (h : NormalEq Y X β) (h' : NormalEq Y X β') : β = β' :=
  Matrix.transpose_injective
    (Matrix.mul_right_injective_of_inv _ _ (Matrix.nonsing_inv_mul _ hdet) (h.trans h'.symm))

omit [LinearOrder K] [IsStrictOrderedRing K] in
theorem normalEq_solution (Y : Matrix v T K) (X : Matrix k T K) (hdet : IsUnit (X * Xᵀ).det) :
    NormalEq Y X ((X * Xᵀ)⁻¹ * (X * Yᵀ))ᵀ := by
  unfold NormalEq
  rw [Matrix.transpose_transpose, ← Matrix.mul_assoc, Matrix.mul_nonsing_inv _ hdet, Matrix.one_mul]

omit [LinearOrder K] [IsStrictOrderedRing K] in
/-- **noise-free data return the generating coefficients** -/
theorem noise_free_recovery (X : Matrix k T K) (β₀ β : Matrix v k K)
    (hdet : IsUnit (X * Xᵀ).det) (h : NormalEq (β₀ * X) X β) : β = β₀ := by
  refine normalEq_unique (β₀ * X) X β β₀ hdet h ?_
  unfold NormalEq
  rw [Matrix.transpose_mul, Matrix.mul_assoc]

theorem minimiser_unique_of_le (Y : Matrix v T K) (X : Matrix k T K) (β β' : Matrix v k K)
    (hdet : IsUnit (X * Xᵀ).det) (h : NormalEq Y X β)
    (hle : ∀ i, ∑ t, (Y - β' * X) i t * (Y - β' * X) i t ≤ ∑ t, (Y - β * X) i t * (Y - β * X) i t) :
    β' = β := by
  -- `X Xᵀ` non-singular: `Xᵀ` has a trivial kernel, so each equation's least-squares solution is unique
  have hker : ∀ d : k → K, Xᵀ *ᵥ d = 0 → d = 0 := fun d hd =>
    Matrix.mulVec_injective_of_isUnit ((Matrix.isUnit_iff_isUnit_det _).2 hdet)
      (by rw [← Matrix.mulVec_mulVec, hd, Matrix.mulVec_zero, Matrix.mulVec_zero])
  ext i j
  have hle' : (Y i - Xᵀ *ᵥ β' i) ⬝ᵥ (Y i - Xᵀ *ᵥ β' i) ≤ (Y i - Xᵀ *ᵥ β i) ⬝ᵥ (Y i - Xᵀ *ᵥ β i) := by
    rw [← row_resid, ← row_resid]
    exact hle i
  exact congrFun (QuadMin.ls_unique Xᵀ hker (Y i) (β i) (orth_row Y X β h i) (β' i) hle') j

/-- the minimiser is unique when `X Xᵀ` is non-singular: any other coefficient matrix with the same
sum of squares, equation by equation, is the same matrix -/
theorem minimiser_unique (Y : Matrix v T K) (X : Matrix k T K) (β β' : Matrix v k K)
    (hdet : IsUnit (X * Xᵀ).det) (h : NormalEq Y X β)
    (heq : ∀ i, ∑ t, (Y - β' * X) i t * (Y - β' * X) i t = ∑ t, (Y - β * X) i t * (Y - β * X) i t) :
    β' = β :=
  minimiser_unique_of_le Y X β β' hdet h (fun i => (heq i).le)

end OLS

-- the normal equations are met by a concrete non-trivial regression: y = (1, 2, 3) on an intercept and the trend (0, 1, 2)
-- has the exact fit β = (1, 1)
example : NormalEq (K := ℚ) (!![1, 2, 3] : Matrix (Fin 1) (Fin 3) ℚ) (!![1, 1, 1; 0, 1, 2] : Matrix (Fin 2) (Fin 3) ℚ)
    (!![1, 1] : Matrix (Fin 1) (Fin 2) ℚ) := by
  unfold NormalEq
  decide +kernel

-- … and its `X Xᵀ` is non-singular (hypothesis of `normalEq_unique`, `noise_free_recovery`, `minimiser_unique`)
example : IsUnit ((!![1, 1, 1; 0, 1, 2] : Matrix (Fin 2) (Fin 3) ℚ) * (!![1, 1, 1; 0, 1, 2] : Matrix (Fin 2) (Fin 3) ℚ)ᵀ).det := by
  rw [Matrix.det_fin_two]
  exact isUnit_iff_ne_zero.2 (by decide +kernel)

section Split
variable {v l x T : Type} [Fintype l] [Fintype x]
variable {K : Type} [CommRing K]

/-- **fit + residual reproduces the data**, with the coefficient matrix split as the code splits it:
`β = [A B c]`, regressors `[y1; x; 1]`, residual `u = y0 - A y1 - B x - c`. -/
theorem fit_plus_residual (A : Matrix v l K) (B : Matrix v x K) (c : v → K)
    (Y0 : Matrix v T K) (Y1 : Matrix l T K) (Xe : Matrix x T K) (i : v) (t : T) :
    let β := fromCols (fromCols A B) (replicateCol Unit c)
    let R := fromRows (fromRows Y1 Xe) (replicateRow Unit (fun _ => (1 : K)))
    let u : Matrix v T K := Y0 - A * Y1 - B * Xe - Matrix.of (fun i _ => c i)
    (β * R) i t + u i t = Y0 i t ∧ (β * R) i t = (A * Y1) i t + (B * Xe) i t + c i := by
  intro β R u
  have h : (β * R) i t = (A * Y1) i t + (B * Xe) i t + c i := by
    rw [fromCols_mul_fromRows, fromCols_mul_fromRows, Matrix.add_apply, Matrix.add_apply,
      Matrix.mul_apply (M := replicateCol Unit c), Finset.univ_unique, Finset.sum_singleton, replicateCol_apply,
      replicateRow_apply, mul_one]
  refine ⟨?_, h⟩
  rw [h]
  simp only [u, Matrix.sub_apply, Matrix.of_apply]
  ring

end Split

section Cov
variable {v T : Type} [Fintype T]
variable {K : Type} [Field K] [LinearOrder K] [IsStrictOrderedRing K]

/-- `cov_residuals = u uᵀ / (T_fitted - K·dof)`: times its denominator it is the second-moment matrix of the
fitted residuals; it is symmetric (so `symmetrize` leaves it unchanged) and, for a positive denominator, has a
non-negative diagonal. -/
theorem cov_residuals_spec (u : Matrix v T K) (d : K) (hd : d ≠ 0) :
    let cov := (1 / d) • (u * uᵀ)
    d • cov = u * uᵀ ∧ covᵀ = cov ∧ ((1 / (2:K)) • (cov + covᵀ) = cov) ∧ (0 < d → ∀ i, 0 ≤ cov i i) := by
  intro cov
  have hsym : covᵀ = cov := by
    simp only [cov, Matrix.transpose_smul, Matrix.transpose_mul, Matrix.transpose_transpose]
  refine ⟨?_, hsym, ?_, ?_⟩
  · simp only [cov, smul_smul]
    rw [mul_one_div_cancel hd, one_smul]
  · rw [hsym, ← two_smul K cov, smul_smul]
    norm_num
  · intro hpos i
    simp only [cov, Matrix.smul_apply, Matrix.mul_apply, Matrix.transpose_apply, smul_eq_mul]
    exact mul_nonneg (le_of_lt (one_div_pos.2 hpos)) (Finset.sum_nonneg (fun t _ => mul_self_nonneg (u i t)))

end Cov

section Companion
variable {n : Type} [Fintype n] [DecidableEq n]
variable {K : Type} [CommRing K]

/-- companion matrix of a VAR of order `p+1`: first block row `[A_0 … A_p]`, below it the shift `[I 0]` -/
def companion (p : Nat) (A : Fin (p+1) → Matrix n n K) : Matrix (Fin (p+1) × n) (Fin (p+1) × n) K :=
  fun a b => Fin.cases (A b.1 a.2 b.2) (fun l0 => if b.1 = Fin.castSucc l0 ∧ a.2 = b.2 then 1 else 0) a.1

/-- **The companion recursion is the VAR recursion.** If the state holds the last `p+1` observations
(`ξ (l, i) = y_{t-1-l} i`), then one step `T ξ + K + P u` has `Σ_l A_l y_{t-1-l} + c + u` in its first block and
the previous first `p` blocks shifted down below it. -/
theorem companion_step (p : Nat) (A : Fin (p+1) → Matrix n n K) (c u : n → K) (ylag : Fin (p+1) → n → K) :
    let ξ : Fin (p+1) × n → K := fun a => ylag a.1 a.2
    let Kc : Fin (p+1) × n → K := fun a => Fin.cases (c a.2) (fun _ => 0) a.1
    let Pu : Fin (p+1) × n → K := fun a => Fin.cases (u a.2) (fun _ => 0) a.1
    let ξ' := companion p A *ᵥ ξ + Kc + Pu
    (∀ i, ξ' (0, i) = (∑ l, A l *ᵥ ylag l) i + c i + u i) ∧
    (∀ (l0 : Fin p) i, ξ' (Fin.succ l0, i) = ylag (Fin.castSucc l0) i) := by
  intro ξ Kc Pu ξ'
  constructor
  · intro i
    simp only [ξ', ξ, Kc, Pu, Pi.add_apply, Matrix.mulVec, dotProduct, companion, Fin.cases_zero,
      Fintype.sum_prod_type, Finset.sum_apply]
  · intro l0 i
    simp only [ξ', ξ, Kc, Pu, Pi.add_apply, Matrix.mulVec, dotProduct, companion, Fin.cases_succ,
      Fintype.sum_prod_type, add_zero]
    -- the shift row is an indicator of one column: the sum over `b` has the single term `b = (castSucc l0, i)`
    simp [ite_and, Finset.sum_ite_eq, Finset.sum_ite_eq']

/-- **The reported mean is the companion-form mean**: a solution of `(I - Σ A_l) μ = c` is a fixed point of the
VAR recursion without shocks, i.e. the state `[μ; …; μ]` is reproduced by the companion step. -/
theorem mean_fixed_point (p : Nat) (A : Fin (p+1) → Matrix n n K) (c μ : n → K)
    (h : (1 - ∑ l, A l) *ᵥ μ = c) : (∑ l, A l *ᵥ μ) + c = μ := by
  rw [← h, Matrix.sub_mulVec, Matrix.one_mulVec, Matrix.sum_mulVec]
  abel

theorem mean_unique (p : Nat) (A : Fin (p+1) → Matrix n n K) (c μ μ' : n → K)
    (hdet : IsUnit (1 - ∑ l, A l).det)
    (h : (1 - ∑ l, A l) *ᵥ μ = c) (h' : (1 - ∑ l, A l) *ᵥ μ' = c) : μ = μ' :=
  Matrix.mulVec_injective_of_isUnit ((Matrix.isUnit_iff_isUnit_det _).2 hdet) (h.trans h'.symm)

end Companion

/-- the hypothesis of `mean_fixed_point` / `mean_unique` is met by a non-trivial VAR(1): `A = 1/2`, `c = 3`, `μ = 6` -/
example : (1 - ∑ l : Fin 1, (fun _ => (!![1/2] : Matrix (Fin 1) (Fin 1) ℚ)) l) *ᵥ ![6] = ![3] := by
  decide +kernel

section Units
variable {v k T : Type} [Fintype v] [Fintype k] [Fintype T] [DecidableEq k]
variable {K : Type} [Field K]

/-- **Change of units.** If `β` solves the normal equations for `(Y, X)`, the left-hand data are multiplied by `s` and the
regressor rows are transformed by any matrix `D` (for a VAR: `s` on the lag and exogenous rows, 1 on the intercept row),
then any `β'` with `β' D = s β` solves the normal equations of the transformed problem: the lag matrices are unchanged
and the intercept is multiplied by `s`, exactly — a small intercept is never a zero intercept. -/
theorem normalEq_rescale (Y : Matrix v T K) (X : Matrix k T K) (β β' : Matrix v k K) (D : Matrix k k K) (s : K)
    (h : NormalEq Y X β) (hβ : β' * D = s • β) : NormalEq (s • Y) (D * X) β' := by
  unfold NormalEq at h ⊢
  have hD : Dᵀ * β'ᵀ = s • βᵀ := by rw [← Matrix.transpose_mul, hβ, Matrix.transpose_smul]
  calc D * X * (D * X)ᵀ * β'ᵀ = D * X * Xᵀ * (Dᵀ * β'ᵀ) := by
        simp only [Matrix.transpose_mul, Matrix.mul_assoc]
    _ = s • (D * (X * Xᵀ * βᵀ)) := by rw [hD]; simp only [Matrix.mul_smul, Matrix.mul_assoc]
    _ = D * X * (s • Y)ᵀ := by rw [h]; simp only [Matrix.transpose_smul, Matrix.mul_smul, Matrix.mul_assoc]

/-- the companion-form mean scales with the intercept: `(I − ΣA) μ = c ⇒ (I − ΣA)(s μ) = s c`; in particular the mean of a
VAR with a non-zero intercept, however small, is `s` times a non-zero vector whenever `μ ≠ 0` -/
theorem mean_scale {n : Type} [Fintype n] [DecidableEq n] (M : Matrix n n K) (c μ : n → K) (s : K)
    (h : M *ᵥ μ = c) : M *ᵥ (s • μ) = s • c := by
  rw [Matrix.mulVec_smul, h]

end Units

-- non-vacuity: the regression y = 1 + t of the examples above in units 1/8: β = (1, 1) becomes (1/8, 1) with D = diag(1, 1/8)
example : ∃ (β' : Matrix (Fin 1) (Fin 2) ℚ) (D : Matrix (Fin 2) (Fin 2) ℚ),
    β' * D = (1/8 : ℚ) • (!![1, 1] : Matrix (Fin 1) (Fin 2) ℚ) :=
  ⟨!![1/8, 1], !![1, 0; 0, 1/8], by decide +kernel⟩

section Model
open IrisVerif IrisVerif.RedVar

/-- **exactly the complete columns are fitted** -/
theorem fitted_iff (s : Spec) (Y X : OMat) (t : Nat) :
    t ∈ fitted s Y X ↔ t < numBase s Y ∧ whereObs s Y X t = true := by
  unfold fitted
  rw [List.mem_filter, List.mem_range]

theorem fitted_complete (s : Spec) (Y X : OMat) (t : Nat) (h : t ∈ fitted s Y X) :
    (∀ i, i < s.n → (y0 s Y i t).isSome = true) ∧ (∀ r, r < s.numRhs → (reg s Y X r t).isSome = true) := by
  have hw := ((fitted_iff s Y X t).1 h).2
  unfold whereObs regsFinite at hw
  simp only [Bool.and_eq_true, List.all_eq_true, List.mem_range] at hw
  exact hw

/-- **the model's estimate satisfies the normal equations exactly** (the checked solve) on the matrices that
hold exactly the fitted columns followed by the dummy observations -/
theorem estimate_normal_equations (s : Spec) (dof : Bool) (Y X : OMat) (pr : Option (List Prior)) (e : Estimate)
    (h : estimate s dof Y X pr = .ok e) :
    ∃ x : QMat, e.beta = x.transpose ∧
      QMat.eqv (normalMx e.rhsEst * x) (normalMy e.lhsEst e.rhsEst) = true ∧
      e.fittedCols = fitted s Y X := by
  obtain ⟨_, beta, hols, _, rfl⟩ := estimate_unfold s dof Y X pr e h
  obtain ⟨x, hx, hxb⟩ := Option.map_eq_some_iff.1 hols
  exact ⟨x, hxb.symm, (QMat.solveChecked_eq_some _ _ x hx).2, rfl⟩

theorem residual_isSome_iff (s : Spec) (beta : QMat) (Y X : OMat) (i t : Nat) :
    (residual s beta Y X i t).isSome = true ↔ (y0 s Y i t).isSome = true ∧ regsFinite s Y X t = true := by
  unfold residual
  cases h : y0 s Y i t with
  | none => simp
  | some y => by_cases hr : regsFinite s Y X t = true <;> simp [hr]

/-- wherever the residual is a number, **fit + residual is the data** (on all periods, fitted or not) -/
theorem residual_identity (s : Spec) (beta : QMat) (Y X : OMat) (i t : Nat) (y r : Rat)
    (hy : y0 s Y i t = some y) (hr : residual s beta Y X i t = some r) :
    fitAt s beta Y X i t + r = y := by
  unfold residual at hr
  rw [hy] at hr
  simp only at hr
  split at hr
  · injection hr with hr
    rw [← hr]; ring
  · cases hr

/-- **Simulating with residuals defined by the data returns the data** — for every horizon `len`, every order,
every number of variables. `P0` is any initial path that agrees with the data `D` on the columns before the
first simulated one (the initial condition); `hres` says that the residuals `E` are the data minus the fitted
value computed from the data. Then after simulating the `len` consecutive columns `t0 … t0+len-1` the path agrees
with the data on every column up to there (the later columns are untouched). -/
theorem simulate_reproduces (s : Spec) (A B : QMat) (c : QVec) (X E D P0 : QMat) (t0 len : Nat)
    (ht0 : 1 ≤ t0) (hn : s.n = D.rows) (hrows : P0.rows = D.rows) (hcols : P0.cols = D.cols)
    (hlen : t0 + len ≤ D.cols)
    (hinit : ∀ i j, i < D.rows → j < t0 → P0.get i j = D.get i j)
    (hres : ∀ t, t0 ≤ t → t < t0 + len → ∀ i, i < D.rows → simValue s A B c X E D i t = D.get i t) :
    ∀ i j, i < D.rows → j < t0 + len →
      (simulate s A B c X E P0 ((List.range len).map (· + t0))).get i j = D.get i j := by
  induction len with
  | zero => exact hinit
  | succ len ih =>
    have ih' := ih (Nat.le_of_succ_le hlen) (fun t h1 h2 => hres t h1 (Nat.lt_succ_of_lt h2))
    intro i j hi hj
    -- `(i, j)` is a cell of the path simulated so far, which has the dimensions of `P0`, i.e. of `D`
    obtain ⟨hdr, hdc⟩ := simulate_dims s A B c X E P0 ((List.range len).map (· + t0))
    have hi' := (hdr.trans hrows).symm ▸ hi
    have hj' := (hdc.trans hcols).symm ▸ hj.trans_le hlen
    unfold simulate at ih' hi' hj' ⊢
    rw [List.range_succ, List.map_append, List.foldl_append, List.map_singleton, List.foldl_cons, List.foldl_nil,
      simStep_get (hi := hi') (hj := hj'), Nat.add_comm len t0]
    split
    · rename_i hj'
      rw [hj', simValue_congr s A B c X E _ D i (t0 + len) (ht0.trans (Nat.le_add_right _ _)) hn ih']
      exact hres (t0 + len) (Nat.le_add_right _ _) (Nat.lt_succ_self _) i hi
    · rename_i hj'
      exact ih' i j hi (Nat.lt_of_le_of_ne (Nat.le_of_lt_succ hj) hj')

/-- non-vacuity of `simulate_reproduces`: for every coefficient set and every data matrix there are residuals
satisfying its hypothesis `hres` (namely data minus fit) -/
theorem residuals_exist (s : Spec) (A B : QMat) (c : QVec) (X D : QMat) :
    ∃ E : QMat, ∀ t, t < D.cols → ∀ i, i < D.rows → simValue s A B c X E D i t = D.get i t := by
  refine ⟨QMat.ofFn D.rows D.cols
    (fun i t => D.get i t - simValue s A B c X (QMat.zero D.rows D.cols) D i t), ?_⟩
  intro t ht i hi
  unfold simValue
  rw [QMat.get_ofFn_of_lt _ _ _ _ _ hi ht, QMat.get_zero]
  ring

/-- **`left | right`: the right operand wins, everything else is carried over** -/
theorem dbUnion_lookup {α : Type} (left right : DB α) (k : String) :
    dbLookup (dbUnion left right) k = match dbLookup right k with
      | some v => some v
      | none => dbLookup left k := by
  have hh : ∀ k, (!dbHas left k) = (Assoc.get? left k).isNone := fun k => by
    unfold dbHas Assoc.get?
    rw [← Option.not_isSome, Option.isSome_map, List.isSome_find?]
  -- `dbLookup` has the body of `Assoc.get?`
  show Assoc.get? _ k = match Assoc.get? right k with | some v => some v | none => Assoc.get? left k
  refine (Assoc.get?_union left right (fun k => !dbHas left k) hh k).trans ?_
  cases Assoc.get? right k <;> rfl

/-- **What `estimate` returns.** Every name the estimation produces (the data it was given and the residual series) has
its *fresh* value in the returned databox, whatever the target held under that name; every other name of the target is
carried over unchanged; without a target the output itself is returned. (The functions are pure: the target is an
argument, not a mutable cell, so it cannot be changed by the call.) -/
theorem estimateReturn_spec {α : Type} (target : Option (DB α)) (output : DB α) (k : String) :
    (∀ v, dbLookup output k = some v → dbLookup (estimateReturn target output) k = some v) ∧
    (dbLookup output k = none → dbLookup (estimateReturn target output) k = (target.bind (fun t => dbLookup t k))) := by
  cases target with
  | none => exact ⟨fun v h => h, id⟩
  | some t =>
    unfold estimateReturn
    rw [dbUnion_lookup]
    exact ⟨fun v h => by rw [h], fun h => by rw [h]; rfl⟩

/-- **deviation mode** (`create_deviation_solution`): the companion constant without an intercept is zero in every entry, and
with an intercept it is `c` on the first block only — the two forms differ exactly by the intercept, so a request for one must
never be answered with the other -/
theorem companionK_spec (s : Spec) (c : QVec) (i : Nat) :
    (companionK s none).getD i 0 = 0 ∧
    (i < s.numLagged → (companionK s (some c)).getD i 0 = if i < s.n then c.getD i 0 else 0) := by
  unfold companionK
  rw [QMat.getD_map_range, QMat.getD_map_range]
  refine ⟨?_, fun h => if_pos h⟩
  split
  · exact ite_self 0  -- `(none.getD #[]).getD i 0` evaluates to `0`
  · rfl

/-- the memo's invariant: empty, or exactly the companion matrix of the coefficients in force -/
def MemoInv (s : Spec) (A : QMat) (st : VMemo) : Prop := st.companionT = none ∨ st.companionT = some (companionT s A)

/-- **Refinement to the stateless specification, for every request history.** Whatever sequence of ordinary and
deviation-mode requests is made on one variant, request number `k` is answered with the companion matrix of the
coefficients and the constant *of the mode it asked for* (`[c; 0]`, or zeros in deviation mode) — no answer depends on
the requests made before it; and the memo invariant is preserved. -/
theorem runRequests_spec (s : Spec) (A : QMat) (c : Option QVec) (reqs : List Bool) (st : VMemo) (h : MemoInv s A st) :
    (runRequests s A c st reqs).2 = reqs.map (fun d => (companionT s A, companionK s (if d then none else c))) ∧
    MemoInv s A (runRequests s A c st reqs).1 := by
  induction reqs generalizing st with
  | nil => exact ⟨rfl, h⟩
  | cons d ds ih =>
    have hreq : requestCompanion s A c st d
        = (⟨some (companionT s A)⟩, (companionT s A, companionK s (if d then none else c))) := by
      unfold requestCompanion
      rcases h with h | h <;> rw [h]
    obtain ⟨h1, h2⟩ := ih ⟨some (companionT s A)⟩ (Or.inr rfl)
    unfold runRequests
    rw [hreq]
    exact ⟨congrArg (_ :: ·) h1, h2⟩

-- non-vacuity: the empty memo satisfies the invariant, and a target holding stale residuals is overridden
example (s : Spec) (A : QMat) : MemoInv s A {} := Or.inl rfl
example : dbLookup (estimateReturn (some [("res_y", 7), ("extra", 1)]) [("y", 2), ("res_y", 3)]) "res_y" = some 3
    ∧ dbLookup (estimateReturn (some [("res_y", 7), ("extra", 1)]) [("y", 2), ("res_y", 3)]) "extra" = some 1 := by
  decide

/-- a rejection is `noData` (no complete base period) or one of the two numerical ones, and each has its cause: `singular` = a (checked) solve of normal
equations found no solution — of the main regression or, with priors, of the scaling pre-regression; `dofZero` = the covariance
denominator `T_fitted − num_rhs·dof` is zero -/
theorem estimate_error_cases (s : Spec) (dof : Bool) (Y X : OMat) (pr : Option (List Prior)) (er : Err)
    (h : estimate s dof Y X pr = .error er) :
    (er = .noData ∧ fitted s Y X = []) ∨
    (er = .singular ∧ (priorScalingOk s Y X (fitted s Y X) pr = false ∨
        ols (lhsFull s Y (fitted s Y X) pr) (rhsFull s Y X (fitted s Y X) pr) = none)) ∨
    (er = .dofZero ∧ ((fitted s Y X).length : Int) - (if dof then (dofCount s : Int) else 0) = 0) := by
  unfold estimate at h
  simp only at h
  split at h
  · rename_i h0
    injection h with h
    exact Or.inl ⟨h.symm, List.eq_nil_of_length_eq_zero h0⟩
  · split at h
    · rename_i hp
      injection h with h
      exact Or.inr (Or.inl ⟨h.symm, Or.inl ((Bool.not_eq_true' _).mp hp)⟩)
    split at h
    · rename_i hols
      injection h with h
      exact Or.inr (Or.inl ⟨h.symm, Or.inr hols⟩)
    · by_cases hden : ((fitted s Y X).length : Int) - (if dof then (dofCount s : Int) else 0) = 0
      · rw [if_pos hden] at h
        injection h with h
        exact Or.inr (Or.inr ⟨h.symm, hden⟩)
      · rw [if_neg hden] at h
        cases h

/-- "No data available for estimation after removing periods with missing observations": raised iff no base period is complete -/
theorem estimate_noData_iff (s : Spec) (dof : Bool) (Y X : OMat) (pr : Option (List Prior)) :
    estimate s dof Y X pr = .error .noData ↔ fitted s Y X = [] := by
  constructor
  · intro h
    rcases estimate_error_cases s dof Y X pr _ h with h1 | h1 | h1
    · exact h1.2
    · cases h1.1
    · cases h1.1
  · intro h
    unfold estimate
    exact if_pos (congrArg List.length h)

/-- AR(1) with intercept on `y = 1, 2, 4, 8, 15`: four complete base periods, a successful estimate -/
def exY : OMat := OMat.ofFn 1 5 (fun _ j => some (if j = 4 then 15 else (2 : Rat) ^ j))
def exX : OMat := OMat.ofFn 0 5 (fun _ _ => none)

example : fitted ⟨1, 0, 1, true⟩ exY exX = [0, 1, 2, 3] := by decide +kernel
example : (match estimate ⟨1, 0, 1, true⟩ false exY exX none with | .ok _ => true | .error _ => false) = true := by
  decide +kernel
-- with a Minnesota and a mean prior (dummy observations appended) the estimate still succeeds
example : (match estimate ⟨1, 0, 1, true⟩ true exY exX (some [.minnesota #[1/2] 2 1, .mean #[1] 1]) with
    | .ok _ => true | .error _ => false) = true := by
  decide +kernel
-- the rejection branches are reachable: no complete period / exactly collinear regressors / zero denominator
example : (match estimate ⟨1, 0, 1, true⟩ false (OMat.ofFn 1 3 (fun _ _ => none)) (OMat.ofFn 0 3 (fun _ _ => none)) none with
    | .error .noData => true | _ => false) = true := by decide +kernel
example : (match estimate ⟨1, 0, 1, true⟩ false (OMat.ofFn 1 4 (fun _ _ => some 1)) (OMat.ofFn 0 4 (fun _ _ => none)) none with
    | .error .singular => true | _ => false) = true := by decide +kernel
example : (match estimate ⟨1, 0, 1, true⟩ true (OMat.ofFn 1 3 (fun _ j => some (j * j : Nat))) (OMat.ofFn 0 3 (fun _ _ => none)) none with
    | .error .dofZero => true | _ => false) = true := by decide +kernel

theorem hstack_get (a b : QMat) (i j : Nat) (hi : i < a.rows) (hj : j < a.cols + b.cols) :
    (QMat.hstack a b).get i j = if j < a.cols then a.get i j else b.get i (j - a.cols) := by
  rw [QMat.get_hstack, if_pos ⟨hi, hj⟩]

/-- the design of a successful estimate: the fitted data columns followed by the dummy observations of the priors, in the
order the priors were given (`hstack([lhs_est, lhs_dummy])`, `hstack([rhs_est, rhs_dummy])`) -/
theorem estimate_design (s : Spec) (dof : Bool) (Y X : OMat) (pr : Option (List Prior)) (e : Estimate)
    (h : estimate s dof Y X pr = .ok e) :
    e.lhsEst = lhsFull s Y (fitted s Y X) pr ∧ e.rhsEst = rhsFull s Y X (fitted s Y X) pr := by
  obtain ⟨_, _, _, _, rfl⟩ := estimate_unfold s dof Y X pr e h
  exact ⟨rfl, rfl⟩

theorem dummy_single (s : Spec) (pr : Prior) :
    dummyLhs s [pr] = QMat.hstack (QMat.zero s.n 0) (pr.lhs s) ∧
    dummyRhs s [pr] = QMat.hstack (QMat.zero s.numRhs 0) (pr.rhs s) := ⟨rfl, rfl⟩

theorem dummy_snoc (s : Spec) (ps : List Prior) (pr : Prior) :
    dummyLhs s (ps ++ [pr]) = QMat.hstack (dummyLhs s ps) (pr.lhs s) ∧
    dummyRhs s (ps ++ [pr]) = QMat.hstack (dummyRhs s ps) (pr.rhs s) :=
  ⟨List.foldl_concat .., List.foldl_concat ..⟩

/-- **Mean prior: the lagged block is stacked lag by lag** (`tile`, not `repeat`): in the single dummy column, the row of lag
`l+1` of variable `i` (row `l·n + i`) holds `mean_i·μ` for EVERY lag, the exogenous rows hold 0 and the intercept row holds `μ`;
the left-hand side holds `mean_i·μ`. (No column at all without an intercept.) -/
theorem mean_prior_entries (s : Spec) (mbar : Array Rat) (mu : Rat) (hic : s.icpt = true) :
    (∀ l i, l < s.p → i < s.n → ((Prior.mean mbar mu).rhs s).get (l * s.n + i) 0 = mbar.getD i 0 * mu) ∧
    (∀ k, k < s.m → ((Prior.mean mbar mu).rhs s).get (s.numLagged + k) 0 = 0) ∧
    ((Prior.mean mbar mu).rhs s).get (s.numLagged + s.m) 0 = mu ∧
    (∀ i, i < s.n → ((Prior.mean mbar mu).lhs s).get i 0 = mbar.getD i 0 * mu) := by
  have hK : s.numRhs = s.numLagged + s.m + 1 := by unfold Spec.numRhs Spec.numNonendog; rw [hic]; rfl
  have h1 : 0 < if s.icpt then 1 else 0 := by rw [hic]; exact Nat.one_pos
  -- with an intercept the prior has one dummy column; its right-hand rows, as the model writes them
  have hrhs : ∀ r, r < s.numLagged + s.m + 1 → ((Prior.mean mbar mu).rhs s).get r 0
      = if r < s.numLagged then mbar.getD (r % s.n) 0 * mu else if r < s.numLagged + s.m then 0 else mu :=
    fun r hr => QMat.get_ofFn_of_lt _ _ _ _ _ (hK ▸ hr) h1
  refine ⟨fun l i hl hi => ?_, fun k hk => ?_, ?_, fun i hi => QMat.get_ofFn_of_lt _ _ _ _ _ hi h1⟩
  · have hlt : l * s.n + i < s.numLagged :=
      calc l * s.n + i < l * s.n + s.n := Nat.add_lt_add_left hi _
        _ = (l + 1) * s.n := (Nat.succ_mul _ _).symm
        _ ≤ s.p * s.n := Nat.mul_le_mul_right _ hl
        _ = s.n * s.p := Nat.mul_comm _ _
    rw [hrhs _ (Nat.lt_succ_of_lt (Nat.lt_add_right _ hlt)), if_pos hlt, Nat.add_comm, Nat.add_mul_mod_self_right,
      Nat.mod_eq_of_lt hi]
  · rw [hrhs _ (Nat.lt_succ_of_lt (Nat.add_lt_add_left hk _)), if_neg (Nat.not_lt.2 (Nat.le_add_right _ _)),
      if_pos (Nat.add_lt_add_left hk _)]
  · rw [hrhs _ (Nat.lt_succ_self _), if_neg (Nat.not_lt.2 (Nat.le_add_right _ _)), if_neg (Nat.lt_irrefl _)]

/-- **Minnesota prior**: one dummy column per lagged regressor; column `l·n + i` has `μ·(l+1)^κ` in its own lagged row and 0
elsewhere (also in the exogenous and intercept rows), and on the left-hand side `μ·ρ_i` for the first lag (`l = 0`) and 0 for the
higher lags -/
theorem minnesota_prior_entries (s : Spec) (rho : Array Rat) (mu : Rat) (kappa : Nat) :
    (∀ r j, r < s.numRhs → j < s.n * s.p → ((Prior.minnesota rho mu kappa).rhs s).get r j
        = if r < s.numLagged ∧ r = j then mu * (((r / s.n + 1 : Nat) : Rat) ^ kappa) else 0) ∧
    (∀ i j, i < s.n → j < s.n * s.p → ((Prior.minnesota rho mu kappa).lhs s).get i j
        = if i = j then mu * rho.getD i 0 else 0) :=
  ⟨fun _ _ hr hj => QMat.get_ofFn_of_lt _ _ _ _ _ hr hj,
    fun _ _ hi hj => QMat.get_ofFn_of_lt _ _ _ _ _ hi hj⟩

/-- **With priors the estimate is ordinary least squares on the data followed by the dummy observations**: the design of a
successful estimate with one prior is `[fitted data columns | that prior's dummy columns]` (entries above), and the coefficient
matrix satisfies the normal equations of exactly this design (`estimate_normal_equations`; hence, by `normalEq_minimises`
through the bridge `QMatBridge.estimate_minimises`, it minimises the sum of squares over data and dummies together). -/
theorem estimate_with_prior_design (s : Spec) (dof : Bool) (Y X : OMat) (pr : Prior) (e : Estimate)
    (h : estimate s dof Y X (some [pr]) = .ok e) :
    e.lhsEst = QMat.hstack (lhsData s Y (fitted s Y X)) (QMat.hstack (QMat.zero s.n 0) (pr.lhs s)) ∧
    e.rhsEst = QMat.hstack (rhsData s Y X (fitted s Y X)) (QMat.hstack (QMat.zero s.numRhs 0) (pr.rhs s)) ∧
    ∃ x : QMat, e.beta = x.transpose ∧ QMat.eqv (normalMx e.rhsEst * x) (normalMy e.lhsEst e.rhsEst) = true := by
  obtain ⟨h1, h2⟩ := estimate_design s dof Y X _ e h
  obtain ⟨x, hx1, hx2, _⟩ := estimate_normal_equations s dof Y X _ e h
  obtain ⟨d1, d2⟩ := dummy_single s pr
  exact ⟨h1.trans (congrArg (QMat.hstack _) d1), h2.trans (congrArg (QMat.hstack _) d2), x, hx1, hx2⟩

-- non-vacuity: order 2, two variables, intercept: the mean-prior dummy column is (m0, m1, m0, m1 | 1)·μ -- lag by lag
example : ((List.range 5).map (fun r => ((Prior.mean #[3, 5] 2).rhs ⟨2, 0, 2, true⟩).get r 0)) = [6, 10, 6, 10, 2] := by
  decide +kernel

/-- **Variant locality of `estimate`**: the result for variant `k` is the estimate of variant `k`'s data alone — no other
variant's data, coefficients or residuals enter; and there are as many results as data variants -/
theorem estimateVariants_local (s : Spec) (dof : Bool) (pr : Option (List Prior)) (datas : List (OMat × OMat)) :
    (estimateVariants s dof pr datas).length = datas.length ∧
    ∀ k (hk : k < datas.length), (estimateVariants s dof pr datas)[k]? = some (estimate s dof datas[k].1 datas[k].2 pr) := by
  unfold estimateVariants
  refine ⟨List.length_map _, fun k hk => ?_⟩
  rw [List.getElem?_map, List.getElem?_eq_getElem hk]
  rfl

/-- **Variant locality of `simulate`**: path `k` is the simulation of variant `k` with its own `A`, `B`, `c`, exogenous data and
residuals (so the exogenous impact of variant `k` is `B_k x_k`, never another variant's) -/
theorem simulateVariants_local (s : Spec) (ts : List Nat) (vs : List SimVariant) :
    (simulateVariants s ts vs).length = vs.length ∧
    ∀ k (hk : k < vs.length), (simulateVariants s ts vs)[k]? =
      some (simulate s vs[k].A vs[k].B vs[k].c vs[k].X vs[k].E vs[k].path0 ts) := by
  unfold simulateVariants
  refine ⟨List.length_map _, fun k hk => ?_⟩
  rw [List.getElem?_map, List.getElem?_eq_getElem hk]
  rfl

-- non-vacuity: two data variants give two results, the second one from the second data set
example : (estimateVariants ⟨1, 0, 1, true⟩ false none [(exY, exX), (OMat.ofFn 1 3 (fun _ _ => none), exX)]).length = 2 := by
  decide +kernel

end Model

end IrisVerif.C18
