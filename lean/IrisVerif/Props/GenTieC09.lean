/-
GenTieC09 — the hand-written calendar model EQUALS the definitions regenerated from dates.py.

`Generated/DatesStmtGen.lean` is rewritten on every run by tools/gens/dates_stmt.py: each small method of
src/irispie/dates.py is translated statement by statement (name table = trusted part, in that file's header).
Every `model_eq_generated_*` theorem says, for ALL inputs, that a function of Model/{Dates,Spans,DateFormats}.lean is equal
to the regenerated definition of the Python method it models (for `create_som`, `create_eopm` and `period_indexes`, which
the model does not have, a reference definition written here stands in its place).  A semantic edit of one of these
methods changes the generated definition and the corresponding proof stops checking.

Where the model has one function for all frequencies and Python has a mixin method plus a daily override, the
relation is stated per frequency class (`p.freq.isRegular = true` / `p.freq = .D`).
-/
import IrisVerif.Model.Dates
import IrisVerif.Model.Spans
import IrisVerif.Model.DateFormats
import IrisVerif.Generated.DatesStmtGen

namespace IrisVerif.Dates.GenTie
open IrisVerif.Dates IrisVerif.Gen.Dates IrisVerif.Gen.DatesStmt

/-! ## (a) year-anchored constructors and accessors -/

theorem model_eq_generated_RegularPeriodMixin_to_year_segment (p : Period) (h : p.freq.isRegular = true) :
    toYearSegment p = pure (RegularPeriodMixin_to_year_segment p) := by
  obtain ⟨f, s⟩ := p
  cases f
  case I | D => exact absurd h Bool.false_ne_true
  all_goals rfl

/-- `DailyPeriod.to_year_segment` (serial minus the ordinal of January 1st, plus one) -/
theorem model_eq_generated_DailyPeriod_to_year_segment (p : Period) (h : p.freq = .D) :
    toYearSegment p = pure (DailyPeriod_to_year_segment p) := by
  obtain ⟨f, s⟩ := p
  cases h
  rfl

theorem model_eq_generated_RegularPeriodMixin_get_year (p : Period) :
    Period.year p = RegularPeriodMixin_get_year p := by
  obtain ⟨f, s⟩ := p
  cases f <;> rfl

theorem model_eq_generated_DailyPeriod_get_year (p : Period) (h : p.freq = .D) :
    Period.year p = pure (DailyPeriod_get_year p) := by
  obtain ⟨f, s⟩ := p
  cases h
  rfl

theorem model_eq_generated_DailyPeriod_to_ymd (p : Period) (h : p.freq = .D) (pos : Pos) :
    toYmd p pos = pure (DailyPeriod_to_ymd p) := by
  obtain ⟨f, s⟩ := p
  cases h
  rfl

/-- `RegularPeriodMixin.create_soy` (also `create_boy`, checked to be an alias) -/
theorem model_eq_generated_RegularPeriodMixin_create_soy (p : Period) :
    createSoy p = RegularPeriodMixin_create_soy p := rfl

theorem model_eq_generated_DailyPeriod_create_soy (p : Period) (h : p.freq = .D) :
    createSoy p = DailyPeriod_create_soy p := by
  obtain ⟨f, s⟩ := p
  cases h
  simp [createSoy, DailyPeriod_create_soy, Period.year, toYearSegment, fromYearSegment, bind, Except.bind, pure, Except.pure]

theorem model_eq_generated_RegularPeriodMixin_create_eoy (p : Period) (h : p.freq.isRegular = true) :
    createEoy p = RegularPeriodMixin_create_eoy p := by
  obtain ⟨f, s⟩ := p
  cases f
  case I | D => exact absurd h Bool.false_ne_true
  all_goals rfl

theorem model_eq_generated_DailyPeriod_create_eoy (p : Period) (h : p.freq = .D) :
    createEoy p = DailyPeriod_create_eoy p := by
  obtain ⟨f, s⟩ := p
  cases h
  rfl

theorem model_eq_generated_RegularPeriodMixin_create_eopy (p : Period) (h : p.freq.isRegular = true) :
    createEopy p = RegularPeriodMixin_create_eopy p := by
  obtain ⟨f, s⟩ := p
  cases f
  case I | D => exact absurd h Bool.false_ne_true
  all_goals rfl

theorem model_eq_generated_DailyPeriod_create_eopy (p : Period) (h : p.freq = .D) :
    createEopy p = DailyPeriod_create_eopy p := by
  obtain ⟨f, s⟩ := p
  cases h
  rfl

theorem model_eq_generated_RegularPeriodMixin_create_tty (p : Period) :
    createTty p = RegularPeriodMixin_create_tty p := rfl

theorem model_eq_generated_DailyPeriod_create_tty (p : Period) :
    createTty p = DailyPeriod_create_tty p := rfl

/-! `DailyPeriod.create_som` / `create_eopm` have no counterpart in Model/Dates.lean; the reference definitions are
stated here (first of the month of the period's own date; the day before it) and tied the same way. -/

/-- first day of the month containing the daily period `p` -/
def createSom (p : Period) : R Period := do
  let (y, m, _) ← toYmd p .start
  pure ⟨p.freq, ymd2ord y m 1⟩

/-- last day of the previous month -/
def createEopm (p : Period) : R Period := do
  let q ← createSom p
  pure (q.add (-1))

theorem model_eq_generated_DailyPeriod_create_som (p : Period) :
    createSom p = DailyPeriod_create_som p := rfl

theorem model_eq_generated_DailyPeriod_create_eopm (p : Period) :
    createEopm p = DailyPeriod_create_eopm p := rfl

/-! ## (b) shift keywords, frequency conversion -/

/-- `Period.shift`: the `match` on the keywords (`"boy"` and `"soy"` are the same case of the code) -/
theorem model_eq_generated_Period_shift (p : Period) (by_ : ShiftBy) :
    Period.shift p by_ = Period_shift p by_ := by
  cases by_ <;> rfl

/-- `Period.refrequent` (also `convert`, `convert_to_new_freq`, `convert_to_new_frequency`: checked aliases) -/
theorem model_eq_generated_Period_refrequent (p : Period) (f : Freq) (pos : Pos) :
    refrequent p f pos = Period_refrequent p f pos := rfl

/-- the module-level `refrequent` (also `convert_to_new_freq`) -/
theorem model_eq_generated_refrequent_function (p : Period) (f : Freq) (pos : Pos) :
    refrequent p f pos = refrequent_function p f pos := rfl

/-- `RegularPeriodMixin.to_ymd`: table lookup, `monthrange` for the open day -/
theorem model_eq_generated_RegularPeriodMixin_to_ymd (p : Period) (h : p.freq.isRegular = true) (pos : Pos) :
    toYmd p pos = RegularPeriodMixin_to_ymd p pos := by
  obtain ⟨f, s⟩ := p
  cases f
  case I | D => exact absurd h Bool.false_ne_true
  -- the model matches on the looked-up row, the generated text on `mdrGet`: the same three outcomes
  all_goals
    simp only [toYmd, RegularPeriodMixin_to_ymd, mdrGet, toYearSegment, bind, Except.bind, pure, Except.pure]
    rcases lookupSeg _ _ with _ | ⟨m, _ | d⟩ <;> rfl

/-- errors of `toYmd` are `badInput` only (so the catch-all `except:` of `to_daily` changes nothing) -/
theorem toYmd_error (p : Period) (pos : Pos) (e : Err) (h : toYmd p pos = .error e) : e = .badInput := by
  obtain ⟨f, s⟩ := p
  cases f <;> simp only [toYmd, toYearSegment, bind, Except.bind, pure, Except.pure, throw, throwThe, MonadExceptOf.throw] at h
  case I => cases h; rfl
  case D => cases h
  -- regular: the only failing branch of the row lookup
  all_goals
    split at h <;> cases h
    rfl

/-- errors of `fromYmd` are `badInput` only -/
theorem fromYmd_error (f : Freq) (y m d : Int) (e : Err) (h : fromYmd f y m d = .error e) : e = .badInput := by
  cases f <;> simp only [fromYmd, pure, Except.pure, throw, throwThe, MonadExceptOf.throw] at h
  case I => cases h; rfl
  case D => split at h <;> cases h; rfl
  all_goals cases h

/-- `RegularPeriodMixin.to_daily`: `DailyPeriod.from_ymd(*self.to_ymd(position=position))` inside `try/except` -/
theorem model_eq_generated_RegularPeriodMixin_to_daily (p : Period) (pos : Pos) :
    toDaily p pos = RegularPeriodMixin_to_daily p pos := by
  simp only [toDaily, refrequent, RegularPeriodMixin_to_daily, bind, Except.bind]
  cases h : toYmd p pos with
  | error e => simp [reraise, toYmd_error p pos e h]
  | ok v =>
    obtain ⟨y, m, d⟩ := v
    simp only [reraise]
    cases h2 : fromYmd Freq.D y m d with
    | error e => simp [fromYmd_error _ _ _ _ e h2]
    | ok q => rfl

/-- `RegularPeriodMixin.from_ymd` (a classmethod: the class is the receiver) -/
theorem model_eq_generated_RegularPeriodMixin_from_ymd (f : Freq) (h : f.isRegular = true) (y m d : Int) :
    fromYmd f y m d = pure (RegularPeriodMixin_from_ymd f y m d) := by
  cases f
  case I | D => exact absurd h Bool.false_ne_true
  all_goals rfl

/-- `DailyPeriod.from_ymd` (through `daily_serial_from_ymd`; `datetime.date` rejects impossible dates) -/
theorem model_eq_generated_DailyPeriod_from_ymd (y m d : Int) :
    fromYmd .D y m d = DailyPeriod_from_ymd .D y m d := by
  simp only [fromYmd, DailyPeriod_from_ymd, dailySerialFromYmd]
  split <;> rfl

/-- `daily_serial_from_ymd` on possible dates -/
theorem model_eq_generated_daily_serial_from_ymd (y m d : Int) :
    dailySerialFromYmd y m d = if ValidYmd y m d then pure (daily_serial_from_ymd y m d) else throw .badInput := rfl

theorem model_eq_generated_DailyPeriod_from_year_segment (y s : Int) :
    fromYearSegment .D y s = DailyPeriod_from_year_segment .D y s := rfl

theorem model_eq_generated_IntegerPeriod_from_year_segment (y s : Int) :
    fromYearSegment .I y s = IntegerPeriod_from_year_segment .I y s := rfl

/-! ## (c) span operators, constructor, resolution, in-place methods, functional operators -/

/-- `x >> y` with a period-like `x`: `_SpannableMixin.__rshift__` -/
theorem model_eq_generated_SpannableMixin_rshift (x : Endpoint) (y : Option Endpoint) :
    Span.rshift (some x) y = SpannableMixin_rshift x y := rfl

/-- `y >> x` dispatched to the right operand (`None >> x`): `_SpannableMixin.__rrshift__` -/
theorem model_eq_generated_SpannableMixin_rrshift (x : Endpoint) (y : Option Endpoint) :
    Span.rshift y (some x) = SpannableMixin_rrshift x y := rfl

/-- `x << y` with a period-like `x`: `_SpannableMixin.__lshift__` -/
theorem model_eq_generated_SpannableMixin_lshift (x : Endpoint) (y : Option Endpoint) :
    Span.lshift (some x) y = SpannableMixin_lshift x y := rfl

/-- `y << x` dispatched to the right operand (`None << x`): `_SpannableMixin.__rlshift__` -/
theorem model_eq_generated_SpannableMixin_rlshift (x : Endpoint) (y : Option Endpoint) :
    Span.lshift y (some x) = SpannableMixin_rlshift x y := rfl

theorem add_add (p : Period) (a b : Int) : (p.add a).add b = p.add (a + b) := by
  simp [Period.add, Int.add_assoc]

/-- `period ** n`: `_SpannableMixin.__pow__` (never raises) -/
theorem model_eq_generated_SpannableMixin_pow (p : Period) (n : Int) :
    SpannableMixin_pow p n = pure (Period.pow p n) := by
  simp only [SpannableMixin_pow, Period.pow, Span.make, Option.getD, Period.add]
  -- the last `else` of `__pow__` is never reached; `Span.make` succeeds, both ends having the frequency of `p`, and
  -- `(p + n) ∓ 1` is `p + (n ∓ 1)`
  by_cases h1 : n = 1
  · subst h1; simp
  by_cases h2 : n = -1
  · subst h2; simp
  by_cases h3 : n > 0
  · simp [h1, h2, h3, bind, Except.bind, pure, Except.pure]; omega
  by_cases h4 : n < 0
  · simp [h1, h2, h3, h4, bind, Except.bind, pure, Except.pure]; omega
  have h5 : n = 0 := by omega
  subst h5; simp

/-- `Span.__init__`: default ends by the sign of the step, the frequency check, and the `needs_resolve` attribute -/
theorem model_eq_generated_Span_init (a b : Option Endpoint) (step : Int) :
    Span_init a b step = (Span.make a b step).map (fun s => (s, s.needsResolve)) := by
  simp only [Span_init, Span.make, checkPeriodsOE, typeTag]
  -- nine shapes of the two ends (absent, resolved, contextual) by the sign of the step; only two resolved ends
  -- reach the frequency check
  by_cases hs : step > 0 <;> rcases a with _ | ⟨p⟩ | ⟨e, o⟩ <;> rcases b with _ | ⟨q⟩ | ⟨e', o'⟩
  case pos.some.res.some.res | neg.some.res.some.res =>
    by_cases hf : p.freq = q.freq <;>
      simp [hs, hf, Span.needsResolve, Endpoint.needsResolve, Except.map, bind, Except.bind, pure, Except.pure,
        throw, throwThe, MonadExceptOf.throw]
  all_goals
    simp [hs, Span.needsResolve, Endpoint.needsResolve, Except.map, pure, Except.pure]

theorem model_eq_generated_Span_resolve (s : Span) (c : Ctx) :
    Span.resolve s c = Span_resolve s c := by
  obtain ⟨a, b, st⟩ := s
  cases a <;> cases b <;> rfl

-- `reverse`, `shift`, `shift_start` and `shift_end` change the span in place; model and translation return the new span
theorem model_eq_generated_Span_reverse (s : Span) : Span.reverse s = Span_reverse s := rfl

theorem model_eq_generated_Span_shift (s : Span) (k : Int) : Span.shift s k = Span_shift s k := rfl

theorem model_eq_generated_Span_shift_start (s : Span) (k : Int) : Span.shiftStart s k = Span_shift_start s k := rfl

theorem model_eq_generated_Span_shift_end (s : Span) (k : Int) : Span.shiftEnd s k = Span_shift_end s k := rfl

/-- `span + k` -/
theorem model_eq_generated_Span_add (s : Span) (k : Int) : Span.addInt s k = Span_add s k := rfl

/-- `span - k` for an integer `k` -/
theorem model_eq_generated_Span_sub (s : Span) (k : Int) : Span.subInt s k = Span_sub s k := rfl

/-- `span >> step` -/
theorem model_eq_generated_Span_rshift_step (s : Span) (k : Int) : Span.withStepR s k = Span_rshift_step s k := rfl

/-- `span << step` -/
theorem model_eq_generated_Span_lshift_step (s : Span) (k : Int) : Span.withStepL s k = Span_lshift_step s k := rfl

/-! ## (d) module-level helpers -/

theorem model_eq_generated_sign (x : Int) : sign x = sign_function x := rfl

/-- `periods_from_until` (also `periods_from_to`, `daters_from_to`) -/
theorem model_eq_generated_periods_from_until (a b : Period) (step : Int) :
    periodsFromUntil a b step = periods_from_until a b step := by
  simp only [periodsFromUntil, periods_from_until, pyRangeR, checkPeriods]
  by_cases hf : a.freq = b.freq <;> by_cases hs : step = 0 <;>
    simp [hf, hs, bind, Except.bind, pure, Except.pure, throw, throwThe, MonadExceptOf.throw]

/-- reference definition for `period_indexes` (no counterpart in Model/Spans.lean): position of every period relative to the
base, `None` kept, mixed frequencies rejected when the generator is consumed -/
def periodIndexes (ps : List (Option Period)) (base : Period) : R (List (Option Int)) :=
  ps.mapM (fun t => match t with
    | some t => (t.subPeriod base).map some
    | none => pure none)

theorem model_eq_generated_period_indexes (ps : List (Option Period)) (base : Period) :
    periodIndexes ps base = period_indexes ps base := by
  unfold periodIndexes period_indexes
  congr 1

/-- `periods_from_sdmx_strings` (C11): frequency detected from the FIRST string when not given, then every string parsed by
that frequency's class, in order -/
theorem model_eq_generated_periods_from_sdmx_strings (f? : Option Freq) (l : List Str) :
    periodsFromSdmx f? l = periods_from_sdmx_strings l f? := by
  cases l with
  | nil => rfl
  | cons s0 rest =>
    cases f? with
    | some f => rfl
    | none =>
      simp only [periodsFromSdmx, periods_from_sdmx_strings, listHead, List.isEmpty, Bool.not_false, Bool.not_true,
        bind, Except.bind, pure, Except.pure]
      cases h : detectFreq s0 with
      | error e => simp
      | ok o => cases o <;> simp [needSome, throw, throwThe, MonadExceptOf.throw, pure, Except.pure]

/-! ## Default parameter values (what a call that omits the argument means; the name table and the harness assume these) -/

/-- `shift(by=-1)`, `to_ymd/to_daily(position="start")`, `from_ymd(month=1, day=1)`, `from_year_segment(segment=1)` (integer
periods: `0`), `Span(from_per=None, until_per=None, step=1)`, `periods_from_until(step=1)`,
`periods_from_sdmx_strings(frequency=None)` -/
theorem generated_defaults :
    Period_shift_default1 = .by_ (-1) ∧ RegularPeriodMixin_to_ymd_default1 = .start ∧ RegularPeriodMixin_to_daily_default1 = .start
    ∧ RegularPeriodMixin_from_ymd_default1 = 1 ∧ RegularPeriodMixin_from_ymd_default2 = 1
    ∧ DailyPeriod_from_ymd_default1 = 1 ∧ DailyPeriod_from_ymd_default2 = 1
    ∧ DailyPeriod_from_year_segment_default1 = 1 ∧ IntegerPeriod_from_year_segment_default1 = 0
    ∧ Span_init_default1 = none ∧ Span_init_default2 = none ∧ Span_init_default3 = 1
    ∧ periods_from_until_default1 = 1 ∧ periods_from_sdmx_strings_default1 = none := by
  refine ⟨rfl, rfl, rfl, rfl, rfl, rfl, rfl, rfl, rfl, rfl, rfl, rfl, rfl, rfl⟩

/-! ## Non-vacuity: the generated definitions compute on concrete non-trivial values -/

example : RegularPeriodMixin_create_eoy ⟨.Q, 8081⟩ = .ok ⟨.Q, 8083⟩ := by decide
example : DailyPeriod_create_eoy ⟨.D, 738000⟩ = .ok ⟨.D, 738155⟩ := by decide
example : Period_shift ⟨.M, 24250⟩ .tty = .ok ⟨.M, 24249⟩ := by decide
example : RegularPeriodMixin_to_ymd ⟨.M, 24241⟩ .end_ = .ok (2020, 2, 29) := by decide
example : SpannableMixin_rlshift (.res ⟨.Q, 5⟩) none = .ok ⟨.res ⟨.Q, 5⟩, .ctx false 0, -1⟩ := by decide
example : (Span_init (some (.res ⟨.Q, 5⟩)) (some (.res ⟨.M, 5⟩)) 1) = .error .mixedFreq := by decide
example : periods_from_until ⟨.M, 10⟩ ⟨.M, 15⟩ 2 = .ok [⟨.M, 10⟩, ⟨.M, 12⟩, ⟨.M, 14⟩] := by decide
example : period_indexes [some ⟨.Q, 12⟩, none, some ⟨.Q, 7⟩] ⟨.Q, 10⟩ = .ok [some 2, none, some (-3)] := by decide
example : Span_resolve ⟨.ctx false 1, .res ⟨.Y, 9⟩, 2⟩ ⟨⟨.Y, 3⟩, ⟨.Y, 7⟩⟩ = .ok ⟨.res ⟨.Y, 4⟩, .res ⟨.Y, 9⟩, 2⟩ := by decide

end IrisVerif.Dates.GenTie
