/-
Property C13 — change and cumulation transforms follow their formulas and invert each other.

Every theorem is about the executable model `IrisVerif.Temporal` (Model/Temporal.lean), whose formulas are the definitions of
`IrisVerif.Gen.Temporal`, regenerated from /repo/src/irispie/series/_temporal.py on every run: the proofs below
unfold those definitions, so a changed formula in the code re-checks (and, if wrong, breaks) them.
-/
import Mathlib.Analysis.SpecialFunctions.Pow.Real
import IrisVerif.Lemmas.Temporal
import IrisVerif.Props.C09

-- every statement of a section carries the section's instance arguments `[Add α] … [IntCast α]`, needed or not
set_option linter.unusedSectionVars false

namespace IrisVerif.C13
open IrisVerif.Dates IrisVerif.Temporal IrisVerif.Gen.Temporal IrisVerif.Gen.Dates

/-! ## 1. Structure of a temporal change -/

section structure_
variable {α : Type} [Add α] [Sub α] [Mul α] [Div α] [NatCast α] [IntCast α]

/-- the cell-wise function a change applies: the generated lambda on its numpy domain, NaN-strict -/
def cellFn (S : Sym α) (kind : ChangeKind) (f : Freq) : Option α → Option α → Option α :=
  lift2 (kind.dom S) (kind.fn S (factorOf f))

@[simp] theorem cellFn_none_left (S : Sym α) (kind : ChangeKind) (f : Freq) (u : Option α) :
    cellFn S kind f none u = none := lift2_none_left _ _ u

@[simp] theorem cellFn_none_right (S : Sym α) (kind : ChangeKind) (f : Freq) (u : Option α) :
    cellFn S kind f u none = none := lift2_none_right _ _ u

/-- the value a change compares `x_t` with: the value in the period that `Period.shift` yields for `t`, and
`neutral` where it yields none ("tty" in a start-of-year period). `Ser.refCell` tells "no such period" from the errors
that raise; here every error gives `neutral`, which agrees wherever `shiftRef` succeeds (`get_shiftRef`) -/
def refValue (s : Ser α) (by_ : ShiftBy) (neutral : Option α) (t : Int) : Option α :=
  match Period.shift ⟨s.freq, t⟩ by_ with
  | .ok q => s.get q.serial
  | .error _ => neutral

theorem refValue_ok {s : Ser α} {by_ : ShiftBy} {t : Int} {q : Period} (h : Period.shift ⟨s.freq, t⟩ by_ = .ok q)
    (neutral : Option α) : refValue s by_ neutral t = s.get q.serial := by
  unfold refValue; rw [h]

theorem refValue_error {s : Ser α} {by_ : ShiftBy} {t : Int} {e : Err} (h : Period.shift ⟨s.freq, t⟩ by_ = .error e)
    (neutral : Option α) : refValue s by_ neutral t = neutral := by
  unfold refValue; rw [h]

theorem refValue_by_ (s : Ser α) (k : Int) (neutral : Option α) (t : Int) :
    refValue s (.by_ k) neutral t = s.get (t + k) := rfl

theorem refValue_yoy (s : Ser α) (neutral : Option α) (t : Int) :
    refValue s .yoy neutral t = s.get (t - s.freq.value) := by
  rw [Int.sub_eq_add_neg]
  rfl

/-- what `shiftRef` puts into a row is the reference value (`neutral'` is what the keyword passes on: the caller's
neutral value for "tty", nothing for the others, which always find a period) -/
theorem get_shiftRef (s o : Ser α) (by_ : ShiftBy) (neutral neutral' : Option α) (hn : by_ = .tty → neutral' = neutral)
    (h : s.shiftRef (fun t => (Period.shift ⟨s.freq, t⟩ by_).map (·.serial)) neutral' = .ok o) (t : Int)
    (r : s.lo ≤ t ∧ t ≤ s.hi) : o.get t = refValue s by_ neutral t := by
  obtain ⟨hok, rfl⟩ := (Ser.shiftRef_eq_ok ..).mp h
  have hok := hok t r.1 r.2
  refine (if_pos r).trans ?_
  unfold refValue
  dsimp only
  cases hq : Period.shift ⟨s.freq, t⟩ by_ with
  | ok q => rfl
  | error e =>
    rw [hq] at hok
    cases e with
    | noPeriod => exact hn (shift_noPeriod _ _ hq)
    | badInput => cases hok
    | mixedFreq => cases hok

/-- `Inlay.temporal_change` as one equation: `_catch_invalid_shift`, then `other.shift(by)`, then `_binop`. -/
theorem temporalChange_eq (S : Sym α) (kind : ChangeKind) (by_ : ShiftBy) (s : Ser α) :
    temporalChange S kind by_ s =
      if validShift by_ = true then
        (s.shift by_ (kind.neutral.map (fun (n : Int) => (n : α)))).map (Ser.binop (cellFn S kind s.freq) s)
      else .error .badInput := by
  unfold temporalChange
  cases validShift by_
  · rfl
  · cases s.shift by_ (kind.neutral.map (fun (n : Int) => (n : α))) <;> rfl

/-- **The cell formula of every change.** Whenever a change succeeds (any shift, any series), its value in every
period `t` (inside or outside the rows of the series) is the formula applied to `x_t` and the reference value,
missing as soon as one of the two is missing. -/
theorem temporalChange_get (S : Sym α) (kind : ChangeKind) (by_ : ShiftBy) (s o : Ser α)
    (h : temporalChange S kind by_ s = .ok o) (t : Int) :
    o.get t = cellFn S kind s.freq (s.get t) (refValue s by_ (kind.neutral.map (fun (n : Int) => (n : α))) t) := by
  rw [temporalChange_eq] at h
  generalize kind.neutral.map (fun (n : Int) => (n : α)) = neutral at h ⊢
  split at h
  case isFalse => cases h
  obtain ⟨other, hsh, rfl⟩ := Except.map_eq_ok.mp h
  rw [Ser.get_binop _ (cellFn_none_left ..)]
  -- outside the rows `x_t` is missing; inside, the shifted copy holds the reference value
  by_cases r : s.lo ≤ t ∧ t ≤ s.hi
  swap
  · rw [Ser.get_of_not_mem r, cellFn_none_left, cellFn_none_left]
  congr 1
  cases by_ with
  | by_ k => cases hsh; exact Ser.get_shiftBy s k t
  | yoy => cases hsh; exact Ser.get_shiftBy s _ t
  | soy => exact get_shiftRef s other .soy neutral none nofun hsh t r
  | eopy => exact get_shiftRef s other .eopy neutral none nofun hsh t r
  | tty => exact get_shiftRef s other .tty neutral neutral (fun _ => rfl) hsh t r

/-- existence next to the cell formula: a change fails only at the validity test or inside `Series.shift` -/
theorem temporalChange_spec (S : Sym α) (kind : ChangeKind) (by_ : ShiftBy) (s : Ser α) (hv : validShift by_ = true)
    (hsh : ∃ other, s.shift by_ (kind.neutral.map (fun (n : Int) => (n : α))) = .ok other) :
    ∃ o, temporalChange S kind by_ s = .ok o ∧ o.freq = s.freq ∧
      ∀ t, o.get t = cellFn S kind s.freq (s.get t) (refValue s by_ (kind.neutral.map (fun (n : Int) => (n : α))) t) := by
  obtain ⟨other, hsh⟩ := hsh
  have h : temporalChange S kind by_ s = .ok (Ser.binop (cellFn S kind s.freq) s other) := by
    rw [temporalChange_eq, if_pos hv, hsh]; rfl
  exact ⟨_, h, Ser.freq_binop .., temporalChange_get S kind by_ s _ h⟩

/-- `diff`, `diff_log`, `pct`, `roc` pass the caller's shift on; the annualised variants pass their fixed `-1` -/
theorem change_of_flex (S : Sym α) {kind : ChangeKind} (h : kind.fixedShift = none) (by_ : ShiftBy) (s : Ser α) :
    change S kind by_ s = temporalChange S kind by_ s := by
  unfold change; rw [h]

theorem change_of_fixed (S : Sym α) {kind : ChangeKind} {k : Int} (h : kind.fixedShift = some k) (by_ : ShiftBy)
    (s : Ser α) : change S kind by_ s = temporalChange S kind (.by_ k) s := by
  unfold change; rw [h]

/-- the cell formula of `change`: `temporalChange_get` with the shift `by'` the function passes on, its own or the
caller's -/
theorem change_get (S : Sym α) (kind : ChangeKind) (by_ : ShiftBy) :
    ∃ by', ∀ s o, change S kind by_ s = .ok o → ∀ t,
      o.get t = cellFn S kind s.freq (s.get t) (refValue s by' (kind.neutral.map (fun (n : Int) => (n : α))) t) := by
  cases h : kind.fixedShift with
  | some k => exact ⟨.by_ k, fun s o ho => temporalChange_get S kind _ s o (change_of_fixed S h by_ s ▸ ho)⟩
  | none => exact ⟨by_, fun s o ho => temporalChange_get S kind _ s o (change_of_flex S h by_ s ▸ ho)⟩

/-- **Negative integer shift.** For every series and every `k < 0` the change exists and its value in
every period `t` (inside or outside the rows of the series) is the formula applied to `x_t` and `x_{t+k}`,
missing as soon as one of the two is missing. -/
theorem change_int (S : Sym α) (kind : ChangeKind) (hflex : kind.fixedShift = none) (s : Ser α)
    (k : Int) (hk : k < 0) :
    ∃ o, change S kind (.by_ k) s = .ok o ∧ o.freq = s.freq ∧
      ∀ t, o.get t = cellFn S kind s.freq (s.get t) (s.get (t + k)) := by
  rw [change_of_flex S hflex]
  simpa only [refValue_by_] using temporalChange_spec S kind (.by_ k) s (decide_eq_true hk) ⟨_, rfl⟩

/-- **Annualised variants** take no shift: the reference period is always the previous one. -/
theorem change_annual (S : Sym α) (kind : ChangeKind) (hann : kind.fixedShift.isSome = true) (s : Ser α)
    (by_ : ShiftBy) :
    ∃ o, change S kind by_ s = .ok o ∧ o.freq = s.freq ∧
      ∀ t, o.get t = cellFn S kind s.freq (s.get t) (s.get (t + (-1))) := by
  have hshift : kind.fixedShift = some (-1) := by
    cases kind with
    | adiff | adiffLog | apct | aroc => rfl
    | _ => cases hann
  rw [change_of_fixed S hshift]
  simpa only [refValue_by_] using temporalChange_spec S kind (.by_ (-1)) s rfl ⟨_, rfl⟩

/-- **Leads are rejected** (`_catch_invalid_shift`): a non-negative number is not a valid shift. -/
theorem change_rejects_leads (S : Sym α) (kind : ChangeKind) (hflex : kind.fixedShift = none) (s : Ser α)
    (k : Int) (hk : 0 ≤ k) : change S kind (.by_ k) s = .error .badInput := by
  rw [change_of_flex S hflex, temporalChange_eq, if_neg]
  exact fun h => Int.not_lt.mpr hk (of_decide_eq_true h)

/-- the change of an empty series (no start period) is an empty series, whatever the (valid) shift -/
theorem change_empty (S : Sym α) (kind : ChangeKind) (s : Ser α) (he : s.isEmpty = true) (by_ : ShiftBy)
    (o : Ser α) (h : change S kind by_ s = .ok o) (t : Int) : o.get t = none := by
  obtain ⟨by', hget⟩ := change_get S kind by_
  rw [hget s o h t, Ser.get_of_isEmpty s he, cellFn_none_left]

/-- **Year-on-year**: the reference period is `t − a`, `a` the number of periods of the frequency in a year. -/
theorem change_yoy (S : Sym α) (kind : ChangeKind) (hflex : kind.fixedShift = none) (s : Ser α) :
    ∃ o, change S kind .yoy s = .ok o ∧ o.freq = s.freq ∧
      ∀ t, o.get t = cellFn S kind s.freq (s.get t) (s.get (t - s.freq.value)) := by
  rw [change_of_flex S hflex]
  simpa only [refValue_yoy] using temporalChange_spec S kind .yoy s rfl ⟨_, rfl⟩

/-- **Calendar frequencies: every valid shift gives a change**, keyword or number, and its cells follow the formula
with the reference period that `Period.shift` (the function the cumulation loop calls) yields -/
theorem change_keyword (S : Sym α) (kind : ChangeKind) (hflex : kind.fixedShift = none) (s : Ser α)
    (hf : s.freq ≠ .I) (by_ : ShiftBy) (hv : validShift by_ = true) :
    ∃ o, change S kind by_ s = .ok o ∧ o.freq = s.freq ∧
      ∀ t, o.get t = cellFn S kind s.freq (s.get t) (refValue s by_ (kind.neutral.map (fun (n : Int) => (n : α))) t) := by
  rw [change_of_flex S hflex]
  refine temporalChange_spec S kind by_ s hv ?_
  -- with a calendar no reference computation raises
  have hok : ∀ by' t, s.lo ≤ t → t ≤ s.hi → Ser.refOk ((Period.shift ⟨s.freq, t⟩ by').map (·.serial)) = true := by
    intro by' t _ _
    rcases shift_ok_or_noPeriod s.freq hf t by' with ⟨q, hq⟩ | hq <;> rw [hq] <;> rfl
  cases by_ with
  | by_ k => exact ⟨_, rfl⟩
  | yoy => exact ⟨_, rfl⟩
  | soy => exact ⟨_, (Ser.shiftRef_eq_ok ..).mpr ⟨hok .soy, rfl⟩⟩
  | eopy => exact ⟨_, (Ser.shiftRef_eq_ok ..).mpr ⟨hok .eopy, rfl⟩⟩
  | tty => exact ⟨_, (Ser.shiftRef_eq_ok ..).mpr ⟨hok .tty, rfl⟩⟩

/-- **Start of year**: wherever `create_soy` yields the period `p`, the reference value is `x_p`. -/
theorem change_soy (S : Sym α) (kind : ChangeKind) (hflex : kind.fixedShift = none) (s : Ser α)
    (hf : s.freq ≠ .I) :
    ∃ o, change S kind .soy s = .ok o ∧ o.freq = s.freq ∧
      ∀ t p, createSoy ⟨s.freq, t⟩ = .ok p → o.get t = cellFn S kind s.freq (s.get t) (s.get p.serial) := by
  obtain ⟨o, ho, hof, hg⟩ := change_keyword S kind hflex s hf .soy rfl
  exact ⟨o, ho, hof, fun t p hp => by rw [hg t, refValue_ok (by_ := .soy) hp]⟩

/-- **End of previous year**: wherever `create_eopy` yields the period `p`, the reference value is `x_p`. -/
theorem change_eopy (S : Sym α) (kind : ChangeKind) (hflex : kind.fixedShift = none) (s : Ser α)
    (hf : s.freq ≠ .I) :
    ∃ o, change S kind .eopy s = .ok o ∧ o.freq = s.freq ∧
      ∀ t p, createEopy ⟨s.freq, t⟩ = .ok p → o.get t = cellFn S kind s.freq (s.get t) (s.get p.serial) := by
  obtain ⟨o, ho, hof, hg⟩ := change_keyword S kind hflex s hf .eopy rfl
  exact ⟨o, ho, hof, fun t p hp => by rw [hg t, refValue_ok (by_ := .eopy) hp]⟩

/-- **Throughout the year**: the previous period while it lies in the same year (`create_tty` yields `p = t − 1`,
C09 `shift_tty`); in a start-of-year period (`create_tty` yields nothing) the reference value is the method's
`neutral_value` (missing when that is `None`). -/
theorem change_tty (S : Sym α) (kind : ChangeKind) (hflex : kind.fixedShift = none) (s : Ser α)
    (hf : s.freq ≠ .I) :
    ∃ o, change S kind .tty s = .ok o ∧ o.freq = s.freq ∧
      (∀ t p, createTty ⟨s.freq, t⟩ = .ok p → o.get t = cellFn S kind s.freq (s.get t) (s.get p.serial)) ∧
      (∀ t, createTty ⟨s.freq, t⟩ = .error .noPeriod →
        o.get t = cellFn S kind s.freq (s.get t) (kind.neutral.map (fun (n : Int) => (n : α)))) := by
  obtain ⟨o, ho, hof, hg⟩ := change_keyword S kind hflex s hf .tty rfl
  exact ⟨o, ho, hof, fun t p hp => by rw [hg t, refValue_ok (by_ := .tty) hp],
    fun t hp => by rw [hg t, refValue_error (by_ := .tty) hp]⟩

/-- integer periods have no calendar: soy / eopy / tty raise (as `IntegerPeriod` has no `create_*` methods) -/
theorem change_keyword_integer_rejected (S : Sym α) (kind : ChangeKind) (hflex : kind.fixedShift = none) (s : Ser α)
    (hne : s.isEmpty = false) (hf : s.freq = .I) (by_ : ShiftBy) (hby : by_ = .soy ∨ by_ = .eopy ∨ by_ = .tty) :
    change S kind by_ s = .error .badInput := by
  have hlo : s.lo ∈ s.rows := (Ser.mem_rows s s.lo).mpr ⟨Int.le_refl _, Int.not_lt.mp (of_decide_eq_false hne)⟩
  -- the reference computation raises in the first row already
  have key : ∀ (ref : Int → R Int) n, ref s.lo = .error .badInput → s.shiftRef ref n = .error .badInput := by
    intro ref n h
    rw [Ser.shiftRef, if_neg]
    · rfl
    · intro hall
      have := List.all_eq_true.mp hall s.lo hlo
      rw [h] at this
      cases this
  have hv : validShift by_ = true := by rcases hby with rfl | rfl | rfl <;> rfl
  have hsh : ∀ n, s.shift by_ n = .error .badInput := fun n => by
    rcases hby with rfl | rfl | rfl <;> exact key _ _ (by rw [hf]; rfl)
  rw [change_of_flex S hflex, temporalChange_eq, if_pos hv, hsh]
  rfl

end structure_

/-! ## 2. The documented formulas, period by period -/

/-- the annualisation factor `a` of every frequency: periods per year, 1 for integer periods -/
theorem annualFactor_values :
    annualFactor Freq.I.value = 1 ∧ annualFactor Freq.Y.value = 1 ∧ annualFactor Freq.H.value = 2 ∧
    annualFactor Freq.Q.value = 4 ∧ annualFactor Freq.M.value = 12 ∧ annualFactor Freq.D.value = 365 := by
  decide

theorem annualFactor_pos (f : Freq) : 0 < annualFactor f.value := by
  cases f <;> decide

section field
variable {K : Type} [Field K]

/-- the carrier's zero test is the field's -/
def ZeroTest (S : Sym K) : Prop := ∀ x, S.isZero x = true ↔ x = 0

theorem ZeroTest.ne {S : Sym K} (hz : ZeroTest S) {x : K} (hx : x ≠ 0) : S.isZero x = false := by
  cases h : S.isZero x
  · rfl
  · exact absurd ((hz x).mp h) hx

/-- `diff`: `y_t = x_t − x_s` -/
theorem cell_diff (S : Sym K) (f : Freq) (x y : K) : cellFn S .diff f (some x) (some y) = some (x - y) := rfl

/-- `adiff`: `y_t = a·(x_t − x_{t−1})` -/
theorem cell_adiff (S : Sym K) (f : Freq) (x y : K) :
    cellFn S .adiff f (some x) (some y) = some (((annualFactor f.value : ℤ) : K) * (x - y)) := rfl

/-- `pct`: `y_t = 100·(x_t/x_s − 1)` when `x_s ≠ 0`; not a number when `x_s = 0` -/
theorem cell_pct (S : Sym K) (hz : ZeroTest S) (f : Freq) (x y : K) :
    (y ≠ 0 → cellFn S .pct f (some x) (some y) = some (100 * (x / y - 1))) ∧
    (y = 0 → cellFn S .pct f (some x) (some y) = none) := by
  constructor
  · intro hy
    simp [cellFn, ChangeKind.dom, ChangeKind.fn, pctF, hz.ne hy]
  · intro hy
    simp [cellFn, ChangeKind.dom, (hz y).mpr hy]

/-- `roc`: `y_t = x_t/x_s` when `x_s ≠ 0` -/
theorem cell_roc (S : Sym K) (hz : ZeroTest S) (f : Freq) (x y : K) :
    (y ≠ 0 → cellFn S .roc f (some x) (some y) = some (x / y)) ∧
    (y = 0 → cellFn S .roc f (some x) (some y) = none) := by
  constructor
  · intro hy
    simp [cellFn, ChangeKind.dom, ChangeKind.fn, rocF, hz.ne hy]
  · intro hy
    simp [cellFn, ChangeKind.dom, (hz y).mpr hy]

/-- a missing `x_t` or `x_s` gives a missing change, for every function -/
theorem cell_missing (S : Sym K) (kind : ChangeKind) (f : Freq) (u : Option K) :
    cellFn S kind f none u = none ∧ cellFn S kind f u none = none :=
  ⟨cellFn_none_left .., cellFn_none_right ..⟩

theorem diff_formula (S : Sym K) (s : Ser K) (k : Int) (hk : k < 0) :
    ∃ o, change S .diff (.by_ k) s = .ok o ∧
      ∀ t x y, s.get t = some x → s.get (t + k) = some y → o.get t = some (x - y) := by
  obtain ⟨o, ho, _, h⟩ := change_int S .diff rfl s k hk
  exact ⟨o, ho, fun t x y hx hy => by rw [h t, hx, hy, cell_diff]⟩

theorem pct_formula (S : Sym K) (hz : ZeroTest S) (s : Ser K) (k : Int) (hk : k < 0) :
    ∃ o, change S .pct (.by_ k) s = .ok o ∧
      ∀ t x y, s.get t = some x → s.get (t + k) = some y → y ≠ 0 → o.get t = some (100 * (x / y - 1)) := by
  obtain ⟨o, ho, _, h⟩ := change_int S .pct rfl s k hk
  exact ⟨o, ho, fun t x y hx hy hy0 => by rw [h t, hx, hy, (cell_pct S hz _ x y).1 hy0]⟩

theorem roc_formula (S : Sym K) (hz : ZeroTest S) (s : Ser K) (k : Int) (hk : k < 0) :
    ∃ o, change S .roc (.by_ k) s = .ok o ∧
      ∀ t x y, s.get t = some x → s.get (t + k) = some y → y ≠ 0 → o.get t = some (x / y) := by
  obtain ⟨o, ho, _, h⟩ := change_int S .roc rfl s k hk
  exact ⟨o, ho, fun t x y hx hy hy0 => by rw [h t, hx, hy, (cell_roc S hz _ x y).1 hy0]⟩

theorem adiff_formula (S : Sym K) (s : Ser K) (by_ : ShiftBy) :
    ∃ o, change S .adiff by_ s = .ok o ∧
      ∀ t x y, s.get t = some x → s.get (t - 1) = some y →
        o.get t = some (((annualFactor s.freq.value : ℤ) : K) * (x - y)) := by
  obtain ⟨o, ho, _, h⟩ := change_annual S .adiff rfl s by_
  exact ⟨o, ho, fun t x y hx hy => by rw [h t, ← Int.sub_eq_add_neg, hx, hy, cell_adiff]⟩

/-- **pct year-on-year**: the keyword theorems of section 1 combine with the cell formulas in the same way -/
theorem pct_yoy_formula (S : Sym K) (hz : ZeroTest S) (s : Ser K) :
    ∃ o, change S .pct .yoy s = .ok o ∧
      ∀ t x y, s.get t = some x → s.get (t - s.freq.value) = some y → y ≠ 0 → o.get t = some (100 * (x / y - 1)) := by
  obtain ⟨o, ho, _, h⟩ := change_yoy S .pct rfl s
  exact ⟨o, ho, fun t x y hx hy hy0 => by rw [h t, hx, hy, (cell_pct S hz _ x y).1 hy0]⟩

/-- **"tty" in a start-of-year period**: `diff` and `roc` leave the value unchanged (documented); `pct` is missing -/
theorem tty_start_of_year (S : Sym K) (hz : ZeroTest S) (f : Freq) (x : K) :
    cellFn S .diff f (some x) (ChangeKind.diff.neutral.map (fun (n : Int) => (n : K))) = some x ∧
    cellFn S .roc f (some x) (ChangeKind.roc.neutral.map (fun (n : Int) => (n : K))) = some x ∧
    cellFn S .pct f (some x) (ChangeKind.pct.neutral.map (fun (n : Int) => (n : K))) = none := by
  refine ⟨?_, ?_, cellFn_none_right ..⟩
  · simp [ChangeKind.neutral, diffNeutral, cell_diff]
  · simpa [ChangeKind.neutral, rocNeutral] using (cell_roc S hz f x 1).1 one_ne_zero

end field

/-- the real carrier: `Real.log`, `Real.exp`, real powers -/
noncomputable def symReal : Sym ℝ :=
  { log := Real.log, exp := Real.exp, pw := fun x y => x ^ y,
    isZero := fun x => decide (x = 0), isPos := fun x => decide (0 < x) }

theorem symReal_zeroTest : ZeroTest symReal := by
  intro x; simp [symReal]

/-- `diff_log`: `y_t = log x_t − log x_s` for positive values; not a number otherwise -/
theorem cell_diff_log (f : Freq) (x y : ℝ) :
    cellFn symReal .diffLog f (some x) (some y) = if 0 < x ∧ 0 < y then some (Real.log x - Real.log y) else none := by
  simp only [cellFn, ChangeKind.dom, ChangeKind.fn, diffLogF, symReal, lift2_some, Bool.and_eq_true, decide_eq_true_eq]

/-- `adiff_log`: `y_t = a·(log x_t − log x_{t−1})` -/
theorem cell_adiff_log (f : Freq) (x y : ℝ) (hx : 0 < x) (hy : 0 < y) :
    cellFn symReal .adiffLog f (some x) (some y) = some (((annualFactor f.value : ℤ) : ℝ) * (Real.log x - Real.log y)) := by
  simp [cellFn, ChangeKind.dom, ChangeKind.fn, adiffLogF, symReal, hx, hy, factorOf]

/-- `aroc`: `y_t = (x_t/x_{t−1})^a` (`a` an integer: an ordinary power) -/
theorem cell_aroc (f : Freq) (x y : ℝ) (hy : y ≠ 0) :
    cellFn symReal .aroc f (some x) (some y) = some ((x / y) ^ (annualFactor f.value)) := by
  simp [cellFn, ChangeKind.dom, ChangeKind.fn, arocF, symReal, hy, factorOf, Real.rpow_intCast]

/-- `apct`: `y_t = 100·((x_t/x_{t−1})^a − 1)` -/
theorem cell_apct (f : Freq) (x y : ℝ) (hy : y ≠ 0) :
    cellFn symReal .apct f (some x) (some y) = some (100 * ((x / y) ^ (annualFactor f.value) - 1)) := by
  simp [cellFn, ChangeKind.dom, ChangeKind.fn, apctF, symReal, hy, factorOf, Real.rpow_intCast]

theorem diff_log_formula (s : Ser ℝ) (k : Int) (hk : k < 0) :
    ∃ o, change symReal .diffLog (.by_ k) s = .ok o ∧
      ∀ t x y, s.get t = some x → s.get (t + k) = some y → 0 < x → 0 < y →
        o.get t = some (Real.log x - Real.log y) := by
  obtain ⟨o, ho, _, h⟩ := change_int symReal .diffLog rfl s k hk
  exact ⟨o, ho, fun t x y hx hy hx0 hy0 => by rw [h t, hx, hy, cell_diff_log, if_pos ⟨hx0, hy0⟩]⟩

theorem annualised_formulas (s : Ser ℝ) (by_ : ShiftBy) :
    ∃ o1 o2 o3, change symReal .adiffLog by_ s = .ok o1 ∧ change symReal .apct by_ s = .ok o2 ∧
      change symReal .aroc by_ s = .ok o3 ∧
      ∀ t x y, s.get t = some x → s.get (t - 1) = some y → 0 < x → 0 < y →
        o1.get t = some (((annualFactor s.freq.value : ℤ) : ℝ) * (Real.log x - Real.log y)) ∧
        o2.get t = some (100 * ((x / y) ^ (annualFactor s.freq.value) - 1)) ∧
        o3.get t = some ((x / y) ^ (annualFactor s.freq.value)) := by
  obtain ⟨o1, ho1, _, h1⟩ := change_annual symReal .adiffLog rfl s by_
  obtain ⟨o2, ho2, _, h2⟩ := change_annual symReal .apct rfl s by_
  obtain ⟨o3, ho3, _, h3⟩ := change_annual symReal .aroc rfl s by_
  refine ⟨o1, o2, o3, ho1, ho2, ho3, fun t x y hx hy hx0 hy0 => ?_⟩
  rw [h1 t, h2 t, h3 t, ← Int.sub_eq_add_neg, hx, hy, cell_adiff_log _ _ _ hx0 hy0, cell_apct _ _ _ hy0.ne',
    cell_aroc _ _ _ hy0.ne']
  exact ⟨rfl, rfl, rfl⟩

/-- `diff_log` with "tty" in a start-of-year period: the neutral value 0 has no logarithm, the result is not a number
(the code returns `inf`; a quirk the model reproduces, not the documented "unchanged") -/
theorem diff_log_tty_start_of_year (f : Freq) (x : ℝ) :
    cellFn symReal .diffLog f (some x) (ChangeKind.diffLog.neutral.map (fun (n : Int) => (n : ℝ))) = none := by
  simp [ChangeKind.neutral, diffLogNeutral, cell_diff_log]

/-! ## 3. The conversion helpers are consistent with the change functions -/

section conversions
variable {K : Type} [Field K]

theorem convert_get (S : Sym K) (c : ConvKind) (o : Ser K) (t : Int) :
    (convert S c o).get t = lift1 (c.dom S o.freq) (c.fn S (factorOf o.freq)) (o.get t) :=
  Ser.get_mapCells _ _ (lift1_none ..) t

theorem gross_of_pct (h100 : (100 : K) ≠ 0) (r : K) :
    ((1 : ℕ) : K) + ((100 : ℕ) : K) * (r - ((1 : ℕ) : K)) / ((100 : ℕ) : K) = r := by
  rw [Nat.cast_one, Nat.cast_ofNat, mul_div_cancel_left₀ _ h100, add_sub_cancel]

/-- cell level: the percent and the gross rate of the same two values convert into each other (both are missing
when a value is missing or the reference value is zero) -/
theorem pct_roc_conversion_cells (S : Sym K) (hz : ZeroTest S) (h100 : (100 : K) ≠ 0) (f : Freq) (u v : Option K) :
    lift1 (ConvKind.dom S f .rocFromPct) (ConvKind.fn S .rocFromPct (factorOf f)) (cellFn S .pct f u v) =
      cellFn S .roc f u v ∧
    lift1 (ConvKind.dom S f .pctFromRoc) (ConvKind.fn S .pctFromRoc (factorOf f)) (cellFn S .roc f u v) =
      cellFn S .pct f u v := by
  rcases u with _ | x
  · exact ⟨rfl, rfl⟩
  rcases v with _ | y
  · exact ⟨rfl, rfl⟩
  by_cases hy0 : y = 0
  · rw [(cell_pct S hz _ x y).2 hy0, (cell_roc S hz _ x y).2 hy0]
    exact ⟨rfl, rfl⟩
  simp only [cellFn, ChangeKind.dom, ChangeKind.fn, pctF, rocF, lift2_some, hz.ne hy0, Bool.not_false, if_true,
    lift1_some, ConvKind.dom, ConvKind.fn, rocFromPct, pctFromRoc, gross_of_pct h100, and_self]

/-- `roc_from_pct(pct(x, k)) = roc(x, k)` and `pct_from_roc(roc(x, k)) = pct(x, k)`: in every period, for every
series (missing values and zero reference values included: both sides are then missing) and every negative shift -/
theorem pct_roc_conversions (S : Sym K) (hz : ZeroTest S) (h100 : (100 : K) ≠ 0) (s : Ser K)
    (k : Int) (hk : k < 0) :
    ∃ p r, change S .pct (.by_ k) s = .ok p ∧ change S .roc (.by_ k) s = .ok r ∧
      (∀ t, (convert S .rocFromPct p).get t = r.get t) ∧ (∀ t, (convert S .pctFromRoc r).get t = p.get t) := by
  obtain ⟨p, hp, hpf, hpg⟩ := change_int S .pct rfl s k hk
  obtain ⟨r, hr, hrf, hrg⟩ := change_int S .roc rfl s k hk
  refine ⟨p, r, hp, hr, fun t => ?_, fun t => ?_⟩
  · rw [convert_get, hpf, hpg, hrg]; exact (pct_roc_conversion_cells S hz h100 ..).1
  · rw [convert_get, hrf, hpg, hrg]; exact (pct_roc_conversion_cells S hz h100 ..).2

end conversions

theorem root_of_power (a : ℤ) (ha : 0 < a) (r : ℝ) (hr : 0 < r) : (r ^ a) ^ ((1 : ℝ) / (a : ℝ)) = r := by
  have ha' : (a : ℝ) ≠ 0 := Int.cast_ne_zero.mpr ha.ne'
  rw [← Real.rpow_intCast, ← Real.rpow_mul hr.le, mul_one_div_cancel ha', Real.rpow_one]

/-- the three de-annualising helpers, applied to the annualised changes of the two values `u`, `v`, give their plain
percent change resp. gross rate -/
def Deannualised (f : Freq) (u v : Option ℝ) : Prop :=
  lift1 (ConvKind.dom symReal f .pctFromApct) (ConvKind.fn symReal .pctFromApct (factorOf f))
      (cellFn symReal .apct f u v) = cellFn symReal .pct f u v ∧
  lift1 (ConvKind.dom symReal f .rocFromApct) (ConvKind.fn symReal .rocFromApct (factorOf f))
      (cellFn symReal .apct f u v) = cellFn symReal .roc f u v ∧
  lift1 (ConvKind.dom symReal f .rocFromAroc) (ConvKind.fn symReal .rocFromAroc (factorOf f))
      (cellFn symReal .aroc f u v) = cellFn symReal .roc f u v

/-- the hypotheses are what the formulas need: numpy's power defined for the annualised gross rate (factor 1, or a
positive base), and the `a`-th root undoing the `a`-th power -/
theorem deannualised_of_root (f : Freq) (x y : ℝ) (hy : y ≠ 0)
    (hdom : annualFactor f.value = 1 ∨ 0 < (x / y) ^ (annualFactor f.value))
    (hroot : ((x / y) ^ (annualFactor f.value)) ^ ((1 : ℝ) / (annualFactor f.value : ℝ)) = x / y) :
    Deannualised f (some x) (some y) := by
  have hd : (decide (annualFactor f.value = 1) || decide (0 < (x / y) ^ annualFactor f.value)) = true := by
    simpa using hdom
  unfold Deannualised
  rw [cell_apct _ _ _ hy, cell_aroc _ _ _ hy, (cell_pct symReal symReal_zeroTest _ x y).1 hy,
    (cell_roc symReal symReal_zeroTest _ x y).1 hy]
  simp only [lift1_some, ConvKind.dom, ConvKind.fn, pctFromApct, rocFromApct, rocFromAroc, symReal, factorOf,
    Nat.cast_one, Nat.cast_ofNat, mul_div_cancel_left₀ _ (show (100 : ℝ) ≠ 0 by norm_num), add_sub_cancel, hd, hroot,
    if_true, and_self]

/-- cell level: the three annualised helpers undo the annualisation of a positive gross rate -/
theorem annualised_conversion_cells (f : Freq) (x y : ℝ) (hx0 : 0 < x) (hy0 : 0 < y) :
    lift1 (ConvKind.dom symReal f .pctFromApct) (ConvKind.fn symReal .pctFromApct (factorOf f))
        (cellFn symReal .apct f (some x) (some y)) = cellFn symReal .pct f (some x) (some y) ∧
    lift1 (ConvKind.dom symReal f .rocFromApct) (ConvKind.fn symReal .rocFromApct (factorOf f))
        (cellFn symReal .apct f (some x) (some y)) = cellFn symReal .roc f (some x) (some y) ∧
    lift1 (ConvKind.dom symReal f .rocFromAroc) (ConvKind.fn symReal .rocFromAroc (factorOf f))
        (cellFn symReal .aroc f (some x) (some y)) = cellFn symReal .roc f (some x) (some y) :=
  deannualised_of_root f x y hy0.ne' (Or.inr (zpow_pos (div_pos hx0 hy0) _))
    (root_of_power _ (annualFactor_pos f) _ (div_pos hx0 hy0))

/-- cell level: with the annualisation factor 1 (yearly and integer periods) the root is the power `gross ^ (1/1)`,
defined for every gross rate -/
theorem annualised_conversion_cells_factor_one (f : Freq) (hf : annualFactor f.value = 1) (x y : ℝ) :
    Deannualised f (some x) (some y) := by
  by_cases hy : y = 0
  · subst hy
    -- a zero reference value is outside the domain of all four changes: every cell is missing
    simp [Deannualised, cellFn, ChangeKind.dom, symReal]
  · exact deannualised_of_root f x y hy (Or.inl hf) (by rw [hf]; simp)

/-- from cells to series: the four changes of `s` at lag 1 exist, and a conversion of one of them is the conversion of
its cells, so the cell-level statement for every observed pair of neighbours is enough -/
theorem conversions_of_cells (s : Ser ℝ)
    (hcell : ∀ t x y, s.get t = some x → s.get (t + -1) = some y → Deannualised s.freq (some x) (some y)) :
    ∃ ap ar p r, change symReal .apct (.by_ (-1)) s = .ok ap ∧ change symReal .aroc (.by_ (-1)) s = .ok ar ∧
      change symReal .pct (.by_ (-1)) s = .ok p ∧ change symReal .roc (.by_ (-1)) s = .ok r ∧
      (∀ t, (convert symReal .pctFromApct ap).get t = p.get t) ∧
      (∀ t, (convert symReal .rocFromApct ap).get t = r.get t) ∧
      (∀ t, (convert symReal .rocFromAroc ar).get t = r.get t) := by
  obtain ⟨ap, hap, hapf, hapg⟩ := change_annual symReal .apct rfl s (.by_ (-1))
  obtain ⟨ar, har, harf, harg⟩ := change_annual symReal .aroc rfl s (.by_ (-1))
  obtain ⟨p, hp, _, hpg⟩ := change_int symReal .pct rfl s (-1) (by omega)
  obtain ⟨r, hr, _, hrg⟩ := change_int symReal .roc rfl s (-1) (by omega)
  have key : ∀ t, Deannualised s.freq (s.get t) (s.get (t + -1)) := by
    intro t
    cases hx : s.get t with
    | none => simp [Deannualised]
    | some x =>
      cases hy : s.get (t + -1) with
      | none => simp [Deannualised]
      | some y => exact hcell t x y hx hy
  refine ⟨ap, ar, p, r, hap, har, hp, hr, fun t => ?_, fun t => ?_, fun t => ?_⟩
  · rw [convert_get, hapg, hpg, hapf]; exact (key t).1
  · rw [convert_get, hapg, hrg, hapf]; exact (key t).2.1
  · rw [convert_get, harg, hrg, harf]; exact (key t).2.2

/-- `pct_from_apct(apct(x)) = pct(x)`, `roc_from_apct(apct(x)) = roc(x)`, `roc_from_aroc(aroc(x)) = roc(x)`:
in every period, for every series of positive values (missing values allowed), every frequency -/
theorem annualised_conversions (s : Ser ℝ) (hpos : ∀ t x, s.get t = some x → 0 < x) :
    ∃ ap ar p r, change symReal .apct (.by_ (-1)) s = .ok ap ∧ change symReal .aroc (.by_ (-1)) s = .ok ar ∧
      change symReal .pct (.by_ (-1)) s = .ok p ∧ change symReal .roc (.by_ (-1)) s = .ok r ∧
      (∀ t, (convert symReal .pctFromApct ap).get t = p.get t) ∧
      (∀ t, (convert symReal .rocFromApct ap).get t = r.get t) ∧
      (∀ t, (convert symReal .rocFromAroc ar).get t = r.get t) :=
  conversions_of_cells s fun t x y hx hy => annualised_conversion_cells s.freq x y (hpos t x hx) (hpos _ y hy)

/-- **Yearly and integer periods: the de-annualising helpers are consistent with `pct` / `roc` for EVERY series** — data
of any sign (negative gross rates included), missing values and zero reference values (both sides are then missing). -/
theorem annualised_conversions_factor_one (s : Ser ℝ) (hf : annualFactor s.freq.value = 1) :
    ∃ ap ar p r, change symReal .apct (.by_ (-1)) s = .ok ap ∧ change symReal .aroc (.by_ (-1)) s = .ok ar ∧
      change symReal .pct (.by_ (-1)) s = .ok p ∧ change symReal .roc (.by_ (-1)) s = .ok r ∧
      (∀ t, (convert symReal .pctFromApct ap).get t = p.get t) ∧
      (∀ t, (convert symReal .rocFromApct ap).get t = r.get t) ∧
      (∀ t, (convert symReal .rocFromAroc ar).get t = r.get t) :=
  conversions_of_cells s fun _ x y _ _ => annualised_conversion_cells_factor_one s.freq hf x y

example : annualFactor Freq.Y.value = 1 ∧ annualFactor Freq.I.value = 1 := by decide

/-! ## 4. Inversion: cumulating a change series with the original as initial condition reproduces the original -/

section inversion
variable {α : Type} [Add α] [Sub α] [Mul α] [Div α] [NatCast α] [IntCast α]

theorem nonempty_of_get {s : Ser α} {t : Int} {x : α} (h : s.get t = some x) : s.isEmpty = false := by
  cases he : s.isEmpty
  · rfl
  · rw [Ser.get_of_isEmpty s he] at h; cases h

theorem temporalCumulation_span (S : Sym α) (cum : CumKind) (by_ : ShiftBy) (hv : validShift by_ = true)
    (ini : Init α) (f : Freq) (a b step : Int) (c : Ser α) :
    temporalCumulation S cum by_ (some ini) (some ⟨.res ⟨f, a⟩, .res ⟨f, b⟩, step⟩) c =
      if step > 0 then cumulateForward S cum by_ ini f a b step c
      else if step < 0 then cumulateBackward S cum by_ ini f a b step c
      else .error .badInput := by
  -- both ends are given: `needsResolve` is false and `resolve` returns the span as it is; what `simp` leaves is
  -- `throw` against `Except.error`
  simp [temporalCumulation, hv, Span.needsResolve, Endpoint.needsResolve, Span.resolve, Endpoint.resolve, Span.make,
    bind, Except.bind, pure, Except.pure]
  rfl

theorem freqs_agree {c ini : Ser α} {f : Freq} (hcf : c.freq = f) (hif : ini.freq = f) :
    ¬ ((!c.isEmpty && c.freq ≠ f) ∨ !(Init.series ini).freqOk f) := by
  simp [hcf, hif, Init.freqOk]

/-- a forward span that is not empty, frequencies agreeing: `initial` is planted on `[min_period, b]`, then the
steps run over the zipped pairs -/
theorem temporalCumulation_forward (S : Sym α) (cum : CumKind) (by_ : ShiftBy) (hv : validShift by_ = true)
    (ini : Ser α) {f : Freq} (a b step : Int) (c : Ser α) (hstep : 0 < step) (hab : a ≤ b) (hcf : c.freq = f)
    (hif : ini.freq = f) {zs : List (Int × Int)} (hzs : zipShift f by_ (pyRange a (b + 1) step) = .ok zs) :
    temporalCumulation S cum by_ (some (.series ini)) (some ⟨.res ⟨f, a⟩, .res ⟨f, b⟩, step⟩) c =
      .ok (Ser.trim (zs.foldl (stepForward S cum c) ⟨f, minOr a (zs.map (·.2)), b, fun t => ini.get t⟩)) := by
  rw [temporalCumulation_span S cum by_ hv, if_pos hstep]
  unfold cumulateForward
  rw [hzs]
  exact (if_neg (Int.not_lt.mpr hab)).trans (if_neg (freqs_agree hcf hif))

/-- a backward span that is not empty: `initial` is planted on `[min(span), a − k]` -/
theorem temporalCumulation_backward (S : Sym α) (cum : CumKind) (k : Int) (hk : k < 0) (ini : Ser α) {f : Freq}
    (a b step : Int) (c : Ser α) (hstep : step < 0) (hba : b ≤ a) (hcf : c.freq = f) (hif : ini.freq = f) :
    temporalCumulation S cum (.by_ k) (some (.series ini)) (some ⟨.res ⟨f, a⟩, .res ⟨f, b⟩, step⟩) c =
      .ok (Ser.trim ((pyRange a (b - 1) step).foldl (stepBackward S cum k c)
        ⟨f, minOr a (pyRange a (b - 1) step), a - k, fun t => ini.get t⟩)) := by
  have : (pyRange a (b - 1) step).isEmpty = false :=
    List.isEmpty_eq_false_iff.mpr (List.ne_nil_of_mem (head_mem_pyRange (Or.inr ⟨hstep, by omega⟩)))
  rw [temporalCumulation_span S cum (.by_ k) (decide_eq_true hk), if_neg (by omega), if_pos hstep]
  unfold cumulateBackward
  exact (if_neg (ne_true_of_eq_false this)).trans (if_neg (freqs_agree hcf hif))

/-- period `u` lies on the chain of period `T` for the lag `k`: `u = T + n·k`. A cumulation at lag `k` consists of
`|k|` interleaved chains that never touch each other. -/
def OnChain (k T u : Int) : Prop := ∃ n : Int, u = T + n * k

theorem OnChain.self (k T : Int) : OnChain k T T := ⟨0, by simp⟩

theorem OnChain.step {k T u : Int} (h : OnChain k T u) : OnChain k T (u + k) ∧ OnChain k T (u - k) := by
  obtain ⟨n, rfl⟩ := h
  refine ⟨⟨n + 1, ?_⟩, ⟨n - 1, ?_⟩⟩
  · rw [Int.add_mul, Int.one_mul, Int.add_assoc]
  · rw [Int.sub_mul, Int.one_mul, Int.add_sub_assoc]

section
variable (S : Sym α) (ck : ChangeKind) (cum : CumKind) {ok : α → Prop}

/-- the round-trip law of a change formula and a forward cumulation formula on the admissible values `ok`: cumulating
from the reference value `y` with the change of `(x, y)` gives `x` back. `fac` is the annualisation factor every change
lambda takes; the four flexible ones ignore it -/
def ForwardLaw (ok : α → Prop) : Prop := ∀ fac x y, ok x → ok y →
  lift2 (cum.domF S) (cum.forward S) (some y) (lift2 (ck.dom S) (ck.fn S fac) (some x) (some y)) = some x

/-- … and of a backward cumulation formula: cumulating from `x` gives `y` -/
def BackwardLaw (ok : α → Prop) : Prop := ∀ fac x y, ok x → ok y →
  lift2 (cum.domB S) (cum.backward S) (some x) (lift2 (ck.dom S) (ck.fn S fac) (some x) (some y)) = some y

/-- The two places where a round-trip law of the generated formulas enters: one step of the forward loop, fed with
original values, writes the original value, and likewise backward. -/
theorem forward_step_of_law (law : ForwardLaw S ck cum ok)
    {s c : Ser α} {t r : Int} (hx : ∃ x, s.get t = some x ∧ ok x) (hy : ∃ y, s.get r = some y ∧ ok y)
    (hc : c.get t = cellFn S ck s.freq (s.get t) (s.get r)) :
    lift2 (cum.domF S) (cum.forward S) (s.get r) (c.get t) = s.get t := by
  obtain ⟨x, hx, okx⟩ := hx
  obtain ⟨y, hy, oky⟩ := hy
  rw [hc, hx, hy]
  exact law _ x y okx oky

theorem backward_step_of_law (law : BackwardLaw S ck cum ok)
    {s c : Ser α} {t r : Int} (hx : ∃ x, s.get t = some x ∧ ok x) (hy : ∃ y, s.get r = some y ∧ ok y)
    (hc : c.get t = cellFn S ck s.freq (s.get t) (s.get r)) :
    lift2 (cum.domB S) (cum.backward S) (s.get t) (c.get t) = s.get r := by
  obtain ⟨x, hx, okx⟩ := hx
  obtain ⟨y, hy, oky⟩ := hy
  rw [hc, hx, hy]
  exact law _ x y okx oky

/-- **Inversion, forward, general form** — any initial series, any span `a, a+step, … ≤ b`, series with missing values
allowed. For a change function `ck` and a cumulation function `cum` whose generated formulas satisfy the round-trip
law on admissible values `ok`: `cum(ck(s, k), k, initial, span)` exists and reproduces the original value in every
period `T` of `[a + k, b]` on whose own chain `T, T + k, T + 2k, …` (down to `a + k`) the original is defined and
admissible and the initial series agrees with it in the periods the loop does not write. -/
theorem inverts_forward_general (hflex : ck.fixedShift = none) (law : ForwardLaw S ck cum ok)
    (s ini : Ser α) (hif : ini.freq = s.freq) (k : Int) (hk : k < 0) (a b step : Int) (hstep : 0 < step) (hab : a ≤ b) :
    ∃ c o, change S ck (.by_ k) s = .ok c ∧
      temporalCumulation S cum (.by_ k) (some (.series ini))
        (some ⟨.res ⟨s.freq, a⟩, .res ⟨s.freq, b⟩, step⟩) c = .ok o ∧
      ∀ T, a + k ≤ T → T ≤ b →
        (∀ u, a + k ≤ u → u ≤ T → OnChain k T u →
          (∃ x, s.get u = some x ∧ ok x) ∧ (u ∉ pyRange a (b + 1) step → ini.get u = s.get u)) →
        o.get T = s.get T := by
  obtain ⟨c, hc, hcf, hcg⟩ := change_int S ck hflex s k hk
  have ho := temporalCumulation_forward S cum (.by_ k) (decide_eq_true hk) ini a b step c hstep hab hcf hif
    (zipShift_int ..)
  refine ⟨c, _, hc, ho, fun T hT1 hT2 hs => ?_⟩
  have hmin := minOr_le a (((pyRange a (b + 1) step).map fun t => (t, t + k)).map (·.2)) (a + k) (List.mem_map.mpr
    ⟨(a, a + k), List.mem_map.mpr ⟨a, head_mem_pyRange (Or.inl ⟨hstep, by omega⟩), rfl⟩, rfl⟩)
  rw [Ser.get_trim, List.foldl_map]
  -- the periods are written in ascending order and each step reads an earlier period
  refine foldl_setCell_inv_ordered (w := id) (r := (· + k))
    (F := fun t v => lift2 (cum.domF S) (cum.forward S) v (c.get t)) (tgt := s.get) (hset := fun _ _ => rfl)
    (P := fun u => a + k ≤ u ∧ u ≤ T ∧ OnChain k T u) _ _
    (hord := ((pyRange_pairwise a (b + 1) step).1 hstep).imp fun {p q} (h : p < q) => by dsimp only [id]; omega)
    (hrw := fun p _ => by dsimp only [id]; omega) (h0 := fun u ⟨h1, h2, h3⟩ hu => ?_)
    (hz := fun t ht (⟨h1, h2, h3⟩ : a + k ≤ t ∧ t ≤ T ∧ OnChain k T t) => ?_) T
    ⟨hT1, Int.le_refl _, OnChain.self k T⟩
  · exact (Ser.get_of_mem ⟨by dsimp only; exact Int.le_trans hmin h1, Int.le_trans h2 hT2⟩).trans
      ((hs u h1 h2 h3).2 fun hm => hu u hm rfl)
  · have hb := (pyRange_bounds hstep.ne' ht).1 hstep
    have hr : a + k ≤ t + k ∧ t + k ≤ T := ⟨Int.add_le_add_right hb.1 k, by omega⟩
    exact ⟨⟨hr.1, hr.2, h3.step.1⟩, forward_step_of_law S ck cum law (hs t h1 h2 h3).1
      (hs (t + k) hr.1 hr.2 h3.step.1).1 (hcg t)⟩

/-- **Inversion, backward, general form.** Every `k < 0`, every backward span `a, a+step, … ≥ b`: the original value in
a period `T` of the span (or among the `|k|` initial periods after its start) is reproduced as soon as, on `T`'s chain
`T, T − k, T − 2k, …` up to `a − k`, the original is defined and admissible and the initial series agrees with it in the
periods the loop does not write. -/
theorem inverts_backward_general (hflex : ck.fixedShift = none) (law : BackwardLaw S ck cum ok)
    (s ini : Ser α) (hif : ini.freq = s.freq) (k : Int) (hk : k < 0) (a b step : Int) (hstep : step < 0) (hba : b ≤ a) :
    ∃ c o, change S ck (.by_ k) s = .ok c ∧
      temporalCumulation S cum (.by_ k) (some (.series ini))
        (some ⟨.res ⟨s.freq, a⟩, .res ⟨s.freq, b⟩, step⟩) c = .ok o ∧
      ∀ T, (T ∈ pyRange a (b - 1) step ∨ (a ≤ T ∧ T ≤ a - k)) →
        (∀ u, T ≤ u → u ≤ a - k → OnChain k T u →
          (∃ x, s.get u = some x ∧ ok x) ∧ (u ∉ pyRange a (b - 1) step → ini.get u = s.get u)) →
        o.get T = s.get T := by
  obtain ⟨c, hc, hcf, hcg⟩ := change_int S ck hflex s k hk
  have ho := temporalCumulation_backward S cum k hk ini a b step c hstep hba hcf hif
  have hbd : ∀ t, t ∈ pyRange a (b - 1) step → t ≤ a := fun t ht => ((pyRange_bounds (by omega) ht).2 hstep).2
  refine ⟨c, _, hc, ho, fun T hT hs => ?_⟩
  obtain ⟨m, hm, hmT⟩ : ∃ m ∈ pyRange a (b - 1) step, m ≤ T :=
    hT.elim (fun h => ⟨T, h, Int.le_refl _⟩) fun h => ⟨a, head_mem_pyRange (Or.inr ⟨hstep, by omega⟩), h.1⟩
  have hmin := minOr_le a _ m hm
  have hTa : T ≤ a - k := hT.elim (fun h => by have := hbd T h; omega) (·.2)
  rw [Ser.get_trim]
  -- the periods are written in descending order and each step reads a later period
  refine foldl_setCell_inv_ordered (w := id) (r := (· - k))
    (F := fun sh v => lift2 (cum.domB S) (cum.backward S) v (c.get (sh - k))) (tgt := s.get) (hset := fun _ _ => rfl)
    (P := fun u => T ≤ u ∧ u ≤ a - k ∧ OnChain k T u) _ _
    (hord := ((pyRange_pairwise a (b - 1) step).2 hstep).imp fun {p q} (h : p > q) => by dsimp only [id]; omega)
    (hrw := fun p _ => by dsimp only [id]; omega) (h0 := fun u ⟨h1, h2, h3⟩ hu => ?_)
    (hz := fun sh hsh (⟨h1, h2, h3⟩ : T ≤ sh ∧ sh ≤ a - k ∧ OnChain k T sh) => ?_) T
    ⟨Int.le_refl _, hTa, OnChain.self k T⟩
  · exact (Ser.get_of_mem ⟨by dsimp only; exact Int.le_trans (Int.le_trans hmin hmT) h1, h2⟩).trans
      ((hs u h1 h2 h3).2 fun hm' => hu u hm' rfl)
  · have hr : T ≤ sh - k ∧ sh - k ≤ a - k := ⟨by omega, Int.sub_le_sub_right (hbd sh hsh) k⟩
    exact ⟨⟨hr.1, hr.2, h3.step.2⟩, backward_step_of_law S ck cum law
      (hs (sh - k) hr.1 hr.2 h3.step.2).1 (hs sh h1 h2 h3).1 (by rw [hcg (sh - k), Int.sub_add_cancel]; rfl)⟩

end

/-- **Inversion, forward**: for every series, every negative shift `k`, every span `a, a+step, … ≤ b` (any positive
step) such that the series is defined and admissible on `[a + k, b]`, `cum(ck(s, k), k, initial = s, span)` exists
and equals `s` on `[a + k, b]` — in particular on the span. -/
theorem inverts_forward (S : Sym α) (ck : ChangeKind) (cum : CumKind) (ok : α → Prop) (hflex : ck.fixedShift = none)
    (law : ∀ fac x y, ok x → ok y →
      lift2 (cum.domF S) (cum.forward S) (some y) (lift2 (ck.dom S) (ck.fn S fac) (some x) (some y)) = some x)
    (s : Ser α) (k : Int) (hk : k < 0) (a b step : Int) (hstep : 0 < step) (hab : a ≤ b)
    (hs : ∀ t, a + k ≤ t → t ≤ b → ∃ x, s.get t = some x ∧ ok x) :
    ∃ c o, change S ck (.by_ k) s = .ok c ∧
      temporalCumulation S cum (.by_ k) (some (.series s))
        (some ⟨.res ⟨s.freq, a⟩, .res ⟨s.freq, b⟩, step⟩) c = .ok o ∧
      ∀ t, a + k ≤ t → t ≤ b → o.get t = s.get t := by
  obtain ⟨c, o, hc, ho, hog⟩ := inverts_forward_general S ck cum hflex law s s rfl k hk a b step hstep hab
  exact ⟨c, o, hc, ho, fun t h1 h2 => hog t h1 h2 fun u hu1 hu2 _ => ⟨hs u hu1 (by omega), fun _ => rfl⟩⟩

/-- **Inversion, backward**: for every series, every negative shift `k`, every backward span `a, a+step, … ≥ b`
(any negative step) such that the series is defined and admissible on `[b, a − k]`,
`cum(ck(s, k), k, initial = s, span)` exists and equals `s` on every period of the span and on the `|k|` initial
periods after it. -/
theorem inverts_backward (S : Sym α) (ck : ChangeKind) (cum : CumKind) (ok : α → Prop) (hflex : ck.fixedShift = none)
    (law : BackwardLaw S ck cum ok)
    (s : Ser α) (k : Int) (hk : k < 0) (a b step : Int) (hstep : step < 0) (hba : b ≤ a)
    (hs : ∀ t, b ≤ t → t ≤ a - k → ∃ x, s.get t = some x ∧ ok x) :
    ∃ c o, change S ck (.by_ k) s = .ok c ∧
      temporalCumulation S cum (.by_ k) (some (.series s))
        (some ⟨.res ⟨s.freq, a⟩, .res ⟨s.freq, b⟩, step⟩) c = .ok o ∧
      (∀ t ∈ pyRange a (b - 1) step, o.get t = s.get t) ∧ (∀ t, a ≤ t → t ≤ a - k → o.get t = s.get t) := by
  obtain ⟨c, o, hc, ho, hog⟩ := inverts_backward_general S ck cum hflex law s s rfl k hk a b step hstep hba
  refine ⟨c, o, hc, ho, fun t ht => hog t (Or.inl ht) fun u hu1 hu2 _ => ⟨hs u ?_ hu2, fun _ => rfl⟩,
    fun t h1 h2 => hog t (Or.inr ⟨h1, h2⟩) fun u hu1 hu2 _ => ⟨hs u (by omega) hu2, fun _ => rfl⟩⟩
  have := (pyRange_bounds (by omega) ht).2 hstep
  omega

/-- **Inversion, forward, chain by chain**: `inverts_forward_general` with `initial = s`, read for one period `T` —
whatever is missing on the other `|k| − 1` chains, or later on the same chain, does not matter. -/
theorem inverts_forward_chainwise (S : Sym α) (ck : ChangeKind) (cum : CumKind) (ok : α → Prop)
    (hflex : ck.fixedShift = none)
    (law : ∀ fac x y, ok x → ok y →
      lift2 (cum.domF S) (cum.forward S) (some y) (lift2 (ck.dom S) (ck.fn S fac) (some x) (some y)) = some x)
    (s : Ser α) (k : Int) (hk : k < 0) (a b step : Int) (hstep : 0 < step) (hab : a ≤ b)
    (T : Int) (hT1 : a + k ≤ T) (hT2 : T ≤ b)
    (hs : ∀ u, a + k ≤ u → u ≤ T → OnChain k T u → ∃ x, s.get u = some x ∧ ok x) :
    ∃ c o, change S ck (.by_ k) s = .ok c ∧
      temporalCumulation S cum (.by_ k) (some (.series s))
        (some ⟨.res ⟨s.freq, a⟩, .res ⟨s.freq, b⟩, step⟩) c = .ok o ∧
      o.get T = s.get T := by
  obtain ⟨c, o, hc, ho, hog⟩ := inverts_forward_general S ck cum hflex law s s rfl k hk a b step hstep hab
  exact ⟨c, o, hc, ho, hog T hT1 hT2 fun u h1 h2 h3 => ⟨hs u h1 h2 h3, fun _ => rfl⟩⟩

/-- **Inversion, backward, chain by chain**: `inverts_backward_general` with `initial = s`, read for one period `T`. -/
theorem inverts_backward_chainwise (S : Sym α) (ck : ChangeKind) (cum : CumKind) (ok : α → Prop)
    (hflex : ck.fixedShift = none)
    (law : ∀ fac x y, ok x → ok y →
      lift2 (cum.domB S) (cum.backward S) (some x) (lift2 (ck.dom S) (ck.fn S fac) (some x) (some y)) = some y)
    (s : Ser α) (k : Int) (hk : k < 0) (a b step : Int) (hstep : step < 0) (hba : b ≤ a)
    (T : Int) (hT : T ∈ pyRange a (b - 1) step ∨ (a ≤ T ∧ T ≤ a - k))
    (hs : ∀ u, T ≤ u → u ≤ a - k → OnChain k T u → ∃ x, s.get u = some x ∧ ok x) :
    ∃ c o, change S ck (.by_ k) s = .ok c ∧
      temporalCumulation S cum (.by_ k) (some (.series s))
        (some ⟨.res ⟨s.freq, a⟩, .res ⟨s.freq, b⟩, step⟩) c = .ok o ∧
      o.get T = s.get T := by
  obtain ⟨c, o, hc, ho, hog⟩ := inverts_backward_general S ck cum hflex law s s rfl k hk a b step hstep hba
  exact ⟨c, o, hc, ho, hog T hT fun u h1 h2 h3 => ⟨hs u h1 h2 h3, fun _ => rfl⟩⟩

end inversion

/-! The round-trip laws of the generated `_CUMULATIVE_FACTORY` entries and change lambdas. Each holds on the values
where numpy returns finite numbers (`y ≠ 0`, for the backward ratios also `x ≠ 0`; positive for logs). -/

section laws
variable {K : Type} [Field K]

theorem law_diff_forward (S : Sym K) : ForwardLaw S .diff .diff fun _ => True := by
  intro fac x y _ _
  simp only [CumKind.domF, CumKind.forward, ChangeKind.dom, ChangeKind.fn, cumDiffForward, diffF, lift2_some, if_true,
    add_sub_cancel]

theorem law_diff_backward (S : Sym K) : BackwardLaw S .diff .diff fun _ => True := by
  intro fac x y _ _
  simp only [CumKind.domB, CumKind.backward, ChangeKind.dom, ChangeKind.fn, cumDiffBackward, diffF, lift2_some, if_true,
    sub_sub_cancel]

theorem law_pct_forward (S : Sym K) (hz : ZeroTest S) (h100 : (100 : K) ≠ 0) : ForwardLaw S .pct .pct (· ≠ 0) := by
  intro fac x y _ hy
  simp only [CumKind.domF, CumKind.forward, ChangeKind.dom, ChangeKind.fn, cumPctForward, pctF, lift2_some, hz.ne hy,
    Bool.not_false, if_true, gross_of_pct h100, mul_div_cancel₀ x hy]

theorem law_pct_backward (S : Sym K) (hz : ZeroTest S) (h100 : (100 : K) ≠ 0) : BackwardLaw S .pct .pct (· ≠ 0) := by
  intro fac x y hx hy
  simp only [CumKind.domB, CumKind.backward, ChangeKind.dom, ChangeKind.fn, cumPctBackward, pctF, lift2_some, hz.ne hy,
    Bool.not_false, if_true, gross_of_pct h100, hz.ne (div_ne_zero hx hy), div_div_cancel₀ hx]

theorem law_roc_forward (S : Sym K) (hz : ZeroTest S) : ForwardLaw S .roc .roc (· ≠ 0) := by
  intro fac x y _ hy
  simp only [CumKind.domF, CumKind.forward, ChangeKind.dom, ChangeKind.fn, cumRocForward, rocF, lift2_some, hz.ne hy,
    Bool.not_false, if_true, mul_div_cancel₀ x hy]

theorem law_roc_backward (S : Sym K) (hz : ZeroTest S) : BackwardLaw S .roc .roc (· ≠ 0) := by
  intro fac x y hx hy
  simp only [CumKind.domB, CumKind.backward, ChangeKind.dom, ChangeKind.fn, cumRocBackward, rocF, lift2_some, hz.ne hy,
    Bool.not_false, if_true, hz.ne (div_ne_zero hx hy), div_div_cancel₀ hx]

end laws

theorem exp_log_sub_log {x y : ℝ} (hx : 0 < x) (hy : 0 < y) : Real.exp (Real.log x - Real.log y) = x / y := by
  rw [Real.exp_sub, Real.exp_log hx, Real.exp_log hy]

theorem law_diff_log_forward : ForwardLaw symReal .diffLog .diffLog (0 < ·) := by
  intro fac x y hx hy
  simp only [CumKind.domF, CumKind.forward, ChangeKind.dom, ChangeKind.fn, cumDiffLogForward, diffLogF, lift2_some,
    symReal, hx, hy, decide_true, Bool.and_self, if_true, exp_log_sub_log hx hy, mul_div_cancel₀ x hy.ne']

theorem law_diff_log_backward : BackwardLaw symReal .diffLog .diffLog (0 < ·) := by
  intro fac x y hx hy
  simp only [CumKind.domB, CumKind.backward, ChangeKind.dom, ChangeKind.fn, cumDiffLogBackward, diffLogF, lift2_some,
    symReal, hx, hy, decide_true, Bool.and_self, if_true, exp_log_sub_log hx hy, div_div_cancel₀ hx.ne']

section field_inverses
variable {K : Type} [Field K]

def spanOf (f : Freq) (a b step : Int) : Span := ⟨.res ⟨f, a⟩, .res ⟨f, b⟩, step⟩

/-- **cum_diff ∘ diff = id, forward**: every series, every `k < 0`, every forward span on which (from `a + k`) the
series has no missing value -/
theorem cum_diff_inverts_forward (S : Sym K) (s : Ser K) (k : Int) (hk : k < 0) (a b step : Int) (hstep : 0 < step)
    (hab : a ≤ b) (hs : ∀ t, a + k ≤ t → t ≤ b → ∃ x, s.get t = some x) :
    ∃ c o, change S .diff (.by_ k) s = .ok c ∧
      temporalCumulation S .diff (.by_ k) (some (.series s)) (some (spanOf s.freq a b step)) c = .ok o ∧
      ∀ t, a + k ≤ t → t ≤ b → o.get t = s.get t :=
  inverts_forward S .diff .diff (fun _ => True) rfl (law_diff_forward S) s k hk a b step
    hstep hab (fun t h1 h2 => (hs t h1 h2).imp fun _ hx => ⟨hx, trivial⟩)

theorem cum_diff_inverts_backward (S : Sym K) (s : Ser K) (k : Int) (hk : k < 0) (a b step : Int) (hstep : step < 0)
    (hba : b ≤ a) (hs : ∀ t, b ≤ t → t ≤ a - k → ∃ x, s.get t = some x) :
    ∃ c o, change S .diff (.by_ k) s = .ok c ∧
      temporalCumulation S .diff (.by_ k) (some (.series s)) (some (spanOf s.freq a b step)) c = .ok o ∧
      (∀ t ∈ pyRange a (b - 1) step, o.get t = s.get t) ∧ (∀ t, a ≤ t → t ≤ a - k → o.get t = s.get t) :=
  inverts_backward S .diff .diff (fun _ => True) rfl (law_diff_backward S) s k hk a b step
    hstep hba (fun t h1 h2 => (hs t h1 h2).imp fun _ hx => ⟨hx, trivial⟩)

/-- **cum_pct ∘ pct = id, forward** (non-zero data; a field in which `100 ≠ 0`) -/
theorem cum_pct_inverts_forward (S : Sym K) (hz : ZeroTest S) (h100 : (100 : K) ≠ 0) (s : Ser K) (k : Int) (hk : k < 0)
    (a b step : Int) (hstep : 0 < step) (hab : a ≤ b) (hs : ∀ t, a + k ≤ t → t ≤ b → ∃ x, s.get t = some x ∧ x ≠ 0) :
    ∃ c o, change S .pct (.by_ k) s = .ok c ∧
      temporalCumulation S .pct (.by_ k) (some (.series s)) (some (spanOf s.freq a b step)) c = .ok o ∧
      ∀ t, a + k ≤ t → t ≤ b → o.get t = s.get t :=
  inverts_forward S .pct .pct (· ≠ 0) rfl (law_pct_forward S hz h100) s k hk a b step hstep hab hs

theorem cum_pct_inverts_backward (S : Sym K) (hz : ZeroTest S) (h100 : (100 : K) ≠ 0) (s : Ser K) (k : Int) (hk : k < 0)
    (a b step : Int) (hstep : step < 0) (hba : b ≤ a) (hs : ∀ t, b ≤ t → t ≤ a - k → ∃ x, s.get t = some x ∧ x ≠ 0) :
    ∃ c o, change S .pct (.by_ k) s = .ok c ∧
      temporalCumulation S .pct (.by_ k) (some (.series s)) (some (spanOf s.freq a b step)) c = .ok o ∧
      (∀ t ∈ pyRange a (b - 1) step, o.get t = s.get t) ∧ (∀ t, a ≤ t → t ≤ a - k → o.get t = s.get t) :=
  inverts_backward S .pct .pct (· ≠ 0) rfl (law_pct_backward S hz h100) s k hk a b step hstep hba hs

/-- **cum_roc ∘ roc = id, forward** (non-zero data) -/
theorem cum_roc_inverts_forward (S : Sym K) (hz : ZeroTest S) (s : Ser K) (k : Int) (hk : k < 0)
    (a b step : Int) (hstep : 0 < step) (hab : a ≤ b) (hs : ∀ t, a + k ≤ t → t ≤ b → ∃ x, s.get t = some x ∧ x ≠ 0) :
    ∃ c o, change S .roc (.by_ k) s = .ok c ∧
      temporalCumulation S .roc (.by_ k) (some (.series s)) (some (spanOf s.freq a b step)) c = .ok o ∧
      ∀ t, a + k ≤ t → t ≤ b → o.get t = s.get t :=
  inverts_forward S .roc .roc (· ≠ 0) rfl (law_roc_forward S hz) s k hk a b step hstep hab hs

theorem cum_roc_inverts_backward (S : Sym K) (hz : ZeroTest S) (s : Ser K) (k : Int) (hk : k < 0)
    (a b step : Int) (hstep : step < 0) (hba : b ≤ a) (hs : ∀ t, b ≤ t → t ≤ a - k → ∃ x, s.get t = some x ∧ x ≠ 0) :
    ∃ c o, change S .roc (.by_ k) s = .ok c ∧
      temporalCumulation S .roc (.by_ k) (some (.series s)) (some (spanOf s.freq a b step)) c = .ok o ∧
      (∀ t ∈ pyRange a (b - 1) step, o.get t = s.get t) ∧ (∀ t, a ≤ t → t ≤ a - k → o.get t = s.get t) :=
  inverts_backward S .roc .roc (· ≠ 0) rfl (law_roc_backward S hz) s k hk a b step hstep hba hs

end field_inverses

/-- **cum_diff_log ∘ diff_log = id, forward** (positive data, over ℝ with `Real.log` / `Real.exp`) -/
theorem cum_diff_log_inverts_forward (s : Ser ℝ) (k : Int) (hk : k < 0)
    (a b step : Int) (hstep : 0 < step) (hab : a ≤ b) (hs : ∀ t, a + k ≤ t → t ≤ b → ∃ x, s.get t = some x ∧ 0 < x) :
    ∃ c o, change symReal .diffLog (.by_ k) s = .ok c ∧
      temporalCumulation symReal .diffLog (.by_ k) (some (.series s)) (some (spanOf s.freq a b step)) c = .ok o ∧
      ∀ t, a + k ≤ t → t ≤ b → o.get t = s.get t :=
  inverts_forward symReal .diffLog .diffLog (0 < ·) rfl law_diff_log_forward s k hk a b step hstep hab hs

theorem cum_diff_log_inverts_backward (s : Ser ℝ) (k : Int) (hk : k < 0)
    (a b step : Int) (hstep : step < 0) (hba : b ≤ a) (hs : ∀ t, b ≤ t → t ≤ a - k → ∃ x, s.get t = some x ∧ 0 < x) :
    ∃ c o, change symReal .diffLog (.by_ k) s = .ok c ∧
      temporalCumulation symReal .diffLog (.by_ k) (some (.series s)) (some (spanOf s.freq a b step)) c = .ok o ∧
      (∀ t ∈ pyRange a (b - 1) step, o.get t = s.get t) ∧ (∀ t, a ≤ t → t ≤ a - k → o.get t = s.get t) :=
  inverts_backward symReal .diffLog .diffLog (0 < ·) rfl law_diff_log_backward s k hk a b step hstep hba hs

/-- the chain-wise round trip for the differences over any field: a series may have missing values on other chains -/
theorem cum_diff_inverts_chainwise {K : Type} [Field K] (S : Sym K) (s : Ser K) (k : Int) (hk : k < 0)
    (a b step : Int) (hstep : 0 < step) (hab : a ≤ b) (T : Int) (hT1 : a + k ≤ T) (hT2 : T ≤ b)
    (hs : ∀ u, a + k ≤ u → u ≤ T → OnChain k T u → ∃ x, s.get u = some x) :
    ∃ c o, change S .diff (.by_ k) s = .ok c ∧
      temporalCumulation S .diff (.by_ k) (some (.series s)) (some (spanOf s.freq a b step)) c = .ok o ∧
      o.get T = s.get T :=
  inverts_forward_chainwise S .diff .diff (fun _ => True) rfl (law_diff_forward S) s k hk
    a b step hstep hab T hT1 hT2 (fun u h1 h2 h3 => (hs u h1 h2 h3).imp fun _ hx => ⟨hx, trivial⟩)

section initial_periods
variable {α : Type} [Add α] [Sub α] [Mul α] [Div α] [NatCast α] [IntCast α]

/-- **Forward from the initial periods.** Span `a, a+1, …, b`; the `initial` series only has to agree with the
original on the `|k|` periods `a + k … a − 1` before the span (anything, also missing values, elsewhere): the
cumulation still reproduces the original on `[a + k, b]` — every step reads a value that is initial or was written
by an earlier step. -/
theorem inverts_forward_from_initial_periods (S : Sym α) (ck : ChangeKind) (cum : CumKind) (ok : α → Prop)
    (hflex : ck.fixedShift = none)
    (law : ∀ fac x y, ok x → ok y →
      lift2 (cum.domF S) (cum.forward S) (some y) (lift2 (ck.dom S) (ck.fn S fac) (some x) (some y)) = some x)
    (s ini : Ser α) (hif : ini.freq = s.freq) (k : Int) (hk : k < 0) (a b : Int) (hab : a ≤ b)
    (hs : ∀ t, a + k ≤ t → t ≤ b → ∃ x, s.get t = some x ∧ ok x)
    (hini : ∀ t, a + k ≤ t → t < a → ini.get t = s.get t) :
    ∃ c o, change S ck (.by_ k) s = .ok c ∧
      temporalCumulation S cum (.by_ k) (some (.series ini)) (some ⟨.res ⟨s.freq, a⟩, .res ⟨s.freq, b⟩, 1⟩) c = .ok o ∧
      ∀ t, a + k ≤ t → t ≤ b → o.get t = s.get t := by
  obtain ⟨c, o, hc, ho, hog⟩ := inverts_forward_general S ck cum hflex law s ini hif k hk a b 1 (by omega) hab
  refine ⟨c, o, hc, ho, fun t h1 h2 => hog t h1 h2 fun u hu1 hu2 _ => ⟨hs u hu1 (by omega), fun hu => hini u hu1 ?_⟩⟩
  -- with the unit step every period from `a` on is written
  exact Int.lt_of_not_ge fun h => hu ((mem_pyRange_up a b u).mpr ⟨h, by omega⟩)

/-- **Backward from the initial periods.** Span `a, a−1, …, b`; `initial` only has to agree with the original on the
`|k|` periods `a + 1 … a − k` after the first period written. -/
theorem inverts_backward_from_initial_periods (S : Sym α) (ck : ChangeKind) (cum : CumKind) (ok : α → Prop)
    (hflex : ck.fixedShift = none)
    (law : ∀ fac x y, ok x → ok y →
      lift2 (cum.domB S) (cum.backward S) (some x) (lift2 (ck.dom S) (ck.fn S fac) (some x) (some y)) = some y)
    (s ini : Ser α) (hif : ini.freq = s.freq) (k : Int) (hk : k < 0) (a b : Int) (hba : b ≤ a)
    (hs : ∀ t, b ≤ t → t ≤ a - k → ∃ x, s.get t = some x ∧ ok x)
    (hini : ∀ t, a < t → t ≤ a - k → ini.get t = s.get t) :
    ∃ c o, change S ck (.by_ k) s = .ok c ∧
      temporalCumulation S cum (.by_ k) (some (.series ini)) (some ⟨.res ⟨s.freq, a⟩, .res ⟨s.freq, b⟩, -1⟩) c = .ok o ∧
      ∀ t, b ≤ t → t ≤ a - k → o.get t = s.get t := by
  obtain ⟨c, o, hc, ho, hog⟩ := inverts_backward_general S ck cum hflex law s ini hif k hk a b (-1) (by omega) hba
  refine ⟨c, o, hc, ho, fun t h1 h2 => hog t ?_ fun u hu1 hu2 _ => ⟨hs u (by omega) hu2, fun hu => hini u ?_ hu2⟩⟩
  -- with the unit step every period from `b` to `a` is written
  · by_cases h : t ≤ a
    · exact Or.inl ((mem_pyRange_down b a t).mpr ⟨h1, h⟩)
    · exact Or.inr ⟨by omega, h2⟩
  · exact Int.lt_of_not_ge fun h => hu ((mem_pyRange_down b a u).mpr ⟨by omega, h⟩)

end initial_periods

section keyword
variable {α : Type} [Add α] [Sub α] [Mul α] [Div α] [NatCast α] [IntCast α]

/-- What makes the forward loop work for every valid shift: the period a step reads is never later than the one it
writes, so it lies in the initial span or was written before. -/
theorem shift_serial_le (f : Freq) (t : Int) (by_ : ShiftBy) (hv : validShift by_ = true) (q : Period)
    (h : Period.shift ⟨f, t⟩ by_ = .ok q) : q.serial ≤ t := by
  cases by_ with
  | by_ k =>
    cases h
    have : k < 0 := of_decide_eq_true hv
    show t + k ≤ t
    omega
  | yoy =>
    cases h
    have : 0 ≤ f.value := by cases f <;> decide
    show t + -f.value ≤ t
    omega
  | tty =>
    cases hys : toYearSegment ⟨f, t⟩ with
    | error e =>
      -- `create_tty` raises where `toYearSegment` does
      simp [Period.shift, createTty, hys, bind, Except.bind] at h
    | ok ys =>
      rw [C09.shift_tty _ ys.1 ys.2 hys] at h
      split at h <;> cases h
      show t + -1 ≤ t
      omega
  | soy => exact (C09.soy_eopy_serial_le f t q).1 h
  | eopy => exact (C09.soy_eopy_serial_le f t q).2 h

/-- every valid shift, negative numbers included, on a calendar frequency; `inverts_forward_keyword` restricts it to
the four keywords. For `.by_ k` it overlaps with `inverts_forward`, whose chain-wise argument also serves integer
periods and series with holes on other chains; here the series has to be defined on all of `[min_period, b]`. -/
theorem inverts_forward_valid (S : Sym α) (ck : ChangeKind) (cum : CumKind) (ok : α → Prop)
    (hflex : ck.fixedShift = none) (law : ForwardLaw S ck cum ok)
    (s : Ser α) (hf : s.freq ≠ .I) (by_ : ShiftBy) (hv : validShift by_ = true)
    (a b step : Int) (hstep : 0 < step) (hab : a ≤ b) :
    ∃ zs, zipShift s.freq by_ (pyRange a (b + 1) step) = .ok zs ∧
      ((∀ t, minOr a (zs.map (·.2)) ≤ t → t ≤ b → ∃ x, s.get t = some x ∧ ok x) →
        ∃ c o, change S ck by_ s = .ok c ∧
          temporalCumulation S cum by_ (some (.series s))
            (some ⟨.res ⟨s.freq, a⟩, .res ⟨s.freq, b⟩, step⟩) c = .ok o ∧
          ∀ t, minOr a (zs.map (·.2)) ≤ t → t ≤ b → o.get t = s.get t) := by
  obtain ⟨zs, hzs⟩ := zipShift_ok s.freq hf by_ (pyRange a (b + 1) step)
  refine ⟨zs, hzs, fun hs => ?_⟩
  obtain ⟨c, hc, hcf, hcg⟩ := change_keyword S ck hflex s hf by_ hv
  have ho := temporalCumulation_forward S cum _ hv s a b step c hstep hab hcf rfl hzs
  refine ⟨c, _, hc, ho, fun t h1 h2 => ?_⟩
  rw [Ser.get_trim]
  -- the whole initial span is right from the start and stays so
  refine foldl_setCell_inv_on (w := Prod.fst) (r := Prod.snd)
    (F := fun p v => lift2 (cum.domF S) (cum.forward S) v (c.get p.1)) (tgt := s.get) (hset := fun _ _ => rfl)
    (P := fun u => minOr a (zs.map (·.2)) ≤ u ∧ u ≤ b) zs _ (h0 := fun u hu => Ser.get_of_mem hu)
    (hz := fun p hp _ => ?_) t ⟨h1, h2⟩
  -- a kept pair is a period of the span with the period `Period.shift` yields for it, which is never later
  obtain ⟨hmem, q, hq, hqs⟩ := zipShift_mem hzs hp
  have hb := (pyRange_bounds hstep.ne' hmem).1 hstep
  have hle := shift_serial_le s.freq p.1 by_ hv q hq
  have hm := minOr_le a (zs.map (·.2)) p.2 (List.mem_map_of_mem hp)
  have hr : p.2 ≤ b := by omega
  exact ⟨⟨hm, hr⟩, forward_step_of_law S ck cum law (hs p.1 (by omega) (by omega)) (hs p.2 hm hr)
    (by rw [hcg p.1, refValue_ok hq, hqs])⟩

/-- **Inversion, forward, keyword shifts.** For every series with a calendar frequency, every keyword shift and every
forward span (any step): the code's zip of the span with the shifted periods succeeds, and if the series is defined
and admissible on the initial span `[min_period, b]` the code computes, the cumulation of the change with the
original as initial condition equals the original there.  (The property statement asks this for negative integer
shifts only; for keywords the initial span need not contain every period of a stepped span — see notes/C13.md.) -/
theorem inverts_forward_keyword (S : Sym α) (ck : ChangeKind) (cum : CumKind) (ok : α → Prop)
    (hflex : ck.fixedShift = none)
    (law : ∀ fac x y, ok x → ok y →
      lift2 (cum.domF S) (cum.forward S) (some y) (lift2 (ck.dom S) (ck.fn S fac) (some x) (some y)) = some x)
    (s : Ser α) (hf : s.freq ≠ .I) (by_ : ShiftBy)
    (hkw : by_ = .yoy ∨ by_ = .soy ∨ by_ = .eopy ∨ by_ = .tty)
    (a b step : Int) (hstep : 0 < step) (hab : a ≤ b) :
    ∃ zs, zipShift s.freq by_ (pyRange a (b + 1) step) = .ok zs ∧
      ((∀ t, minOr a (zs.map (·.2)) ≤ t → t ≤ b → ∃ x, s.get t = some x ∧ ok x) →
        ∃ c o, change S ck by_ s = .ok c ∧
          temporalCumulation S cum by_ (some (.series s))
            (some ⟨.res ⟨s.freq, a⟩, .res ⟨s.freq, b⟩, step⟩) c = .ok o ∧
          ∀ t, minOr a (zs.map (·.2)) ≤ t → t ≤ b → o.get t = s.get t) :=
  inverts_forward_valid S ck cum ok hflex law s hf by_ (by rcases hkw with rfl | rfl | rfl | rfl <;> rfl) a b step
    hstep hab

end keyword

section default_span
variable {α : Type} [Add α] [Sub α] [Mul α] [Div α] [NatCast α] [IntCast α]

/-- `span=None` is the span of the (non-empty) series being cumulated: `Span(None, None)` resolved against `self` -/
theorem cum_default_span (S : Sym α) (kind : CumKind) (by_ : ShiftBy) (initial : Option (Init α)) (self : Ser α)
    (hne : self.isEmpty = false) :
    temporalCumulation S kind by_ initial none self =
      temporalCumulation S kind by_ initial (some ⟨.res ⟨self.freq, self.lo⟩, .res ⟨self.freq, self.hi⟩, 1⟩) self := by
  unfold temporalCumulation
  cases hv : validShift by_ with
  | false => rfl
  | true =>
    -- `Span.make none none 1` has two open ends, which resolve to the ends of `self`
    simp [Span.make, Span.resolve, Endpoint.resolve, Span.needsResolve, Endpoint.needsResolve, hne, bind, Except.bind,
      pure, Except.pure, Period.add]

/-- **Inversion for the default call** `cum_X(X(s, k), k, initial = s)` (no span): the span is that of the change
series `c` itself; wherever the original is defined and admissible on `[c.lo + k, c.hi]` the cumulation reproduces it
there. (End-to-end: change, span resolution, forward loop.) -/
theorem inverts_forward_default_span (S : Sym α) (ck : ChangeKind) (cum : CumKind) (ok : α → Prop)
    (hflex : ck.fixedShift = none)
    (law : ∀ fac x y, ok x → ok y →
      lift2 (cum.domF S) (cum.forward S) (some y) (lift2 (ck.dom S) (ck.fn S fac) (some x) (some y)) = some x)
    (s : Ser α) (k : Int) (hk : k < 0) :
    ∃ c, change S ck (.by_ k) s = .ok c ∧
      (c.isEmpty = false → (∀ t, c.lo + k ≤ t → t ≤ c.hi → ∃ x, s.get t = some x ∧ ok x) →
        ∃ o, temporalCumulation S cum (.by_ k) (some (.series s)) none c = .ok o ∧
          ∀ t, c.lo + k ≤ t → t ≤ c.hi → o.get t = s.get t) := by
  obtain ⟨c, hc, hcf, _⟩ := change_int S ck hflex s k hk
  refine ⟨c, hc, fun hne hs => ?_⟩
  have hle : c.lo ≤ c.hi := Int.not_lt.mp (of_decide_eq_false hne)
  obtain ⟨c', o, hc', ho, hog⟩ := inverts_forward S ck cum ok hflex law s k hk c.lo c.hi 1 (by omega) hle hs
  cases hc.symm.trans hc'
  exact ⟨o, by rw [cum_default_span S cum (.by_ k) _ c hne, hcf]; exact ho, hog⟩

end default_span

/-! Non-vacuity of sections 1–4: the hypotheses are met by concrete non-trivial values. -/

/-- a quarterly series `1, 2, 4, …` (no missing values, non-zero, positive) over ℚ -/
def exSer : Ser ℚ := ⟨.Q, 8080, 8091, fun t => some (2 ^ (t - 8080).toNat)⟩

/-- a carrier over ℚ for evaluating the model: `log`, `exp`, `pw` are dummies, so only `diff`, `pct`, `roc` and their
cumulations mean anything with it -/
def exSym : Sym ℚ := ⟨id, id, fun x _ => x, fun x => decide (x = 0), fun x => decide (0 < x)⟩

example : ZeroTest exSym := by intro x; simp [exSym]
example : (100 : ℚ) ≠ 0 := by norm_num
example : exSer.isEmpty = false := by decide
example : exSer.freq ≠ .I := by decide
/-- the hypotheses of the forward inversion theorems: shift −3, span 8084 … 8090 step 2 -/
example : ∀ t, 8084 + (-3) ≤ t → t ≤ 8090 → ∃ x, exSer.get t = some x ∧ x ≠ 0 := by
  intro t h1 h2
  exact ⟨_, if_pos ⟨show (8080 : Int) ≤ t by omega, show t ≤ 8091 by omega⟩, by positivity⟩
/-- … and of the backward ones: shift −3, span 8088 … 8082 step −1 -/
example : ∀ t, (8082 : Int) ≤ t → t ≤ 8088 - (-3) → ∃ x, exSer.get t = some x ∧ x ≠ 0 := by
  intro t h1 h2
  exact ⟨_, if_pos ⟨show (8080 : Int) ≤ t by omega, show t ≤ 8091 by omega⟩, by positivity⟩
/-- a positive real series for the logarithmic theorems -/
noncomputable def exSerR : Ser ℝ := ⟨.M, 24240, 24260, fun t => some (Real.exp (t : ℝ))⟩
example : ∀ t x, exSerR.get t = some x → 0 < x := by
  intro t x h
  unfold Ser.get at h
  split at h
  · cases h; exact Real.exp_pos _
  · cases h
/-- the model computes: pct of `1, 2, 4` at lag 1 is `100, 100` -/
example : (change exSym .pct (.by_ (-1)) (Ser.ofCells .Q 8080 #[some 1, some 2, some 4])).toOption.map
    (fun o => (o.lo, o.cells)) = some (8081, [some 100, some 100]) := by decide +kernel
/-- the change of the example series is not empty and spans 8081..8091: the default span of its cumulation -/
example : (change exSym .diff (.by_ (-1)) exSer).toOption.map (fun c => (c.isEmpty, c.lo, c.hi)) = some (false, 8081, 8091) := by
  decide +kernel

/-! ## 5. Several variants: trim, variant locality, rows of other variants do not leak -/

/-- while supplied variants last, receiving variant `j` takes supplied variant `j` -/
theorem pickVariant_lt {β : Type} (l : List β) (j : Nat) (h : j < l.length) : pickVariant l j = l[j]? := by
  unfold pickVariant
  rw [Nat.min_eq_left (by omega)]

/-- afterwards every receiving variant takes the LAST supplied one (not the first) -/
theorem pickVariant_ge {β : Type} (l : List β) (j : Nat) (h : l.length ≤ j + 1) : pickVariant l j = l.getLast? := by
  unfold pickVariant
  rw [Nat.min_eq_right (by omega), List.getLast?_eq_getElem?]

section variants
variable {α : Type}

theorem mtrim_get (m : MSer α) (t : Int) (j : Nat) : m.trim.get t j = m.get t j := MSer.get_trim m t j

/-- **Trim removes exactly the leading and trailing rows that are missing in ALL variants.** If the result is not
empty, its rows lie inside the old rows, its first and its last row each carry an observation in at least one
variant, and every removed row is missing in every variant; if it is empty, every old row was missing in every
variant. -/
theorem mtrim_spec (m : MSer α) :
    (m.trim.isEmpty = false →
      m.lo ≤ m.trim.lo ∧ m.trim.hi ≤ m.hi ∧
      (∃ j, j < m.nv ∧ (m.val m.trim.lo j).isSome = true) ∧ (∃ j, j < m.nv ∧ (m.val m.trim.hi j).isSome = true) ∧
      ∀ t, m.lo ≤ t → t ≤ m.hi → (t < m.trim.lo ∨ m.trim.hi < t) → ∀ j, j < m.nv → m.val t j = none) ∧
    (m.trim.isEmpty = true → ∀ t, m.lo ≤ t → t ≤ m.hi → ∀ j, j < m.nv → m.val t j = none) := by
  obtain ⟨h1, h2⟩ := Ser.trimRange_spec m.rowMark m.lo m.hi
  rw [MSer.trim_eq]
  simp only [MSer.isEmpty, decide_eq_false_iff_not, decide_eq_true_eq]
  refine ⟨fun hne => ?_, fun he t ht1 ht2 => (MSer.rowMark_eq_none m t).mp (h1 t ht1 ht2 (by omega))⟩
  obtain ⟨g1, g2, g3, g4⟩ := h2 (by omega)
  exact ⟨g1, g2, MSer.rowMark_isSome m _ g3, MSer.rowMark_isSome m _ g4,
    fun t ht1 ht2 ht => (MSer.rowMark_eq_none m t).mp (h1 t ht1 ht2 (by omega))⟩

/-- a column on the shared rows and the same column trimmed on its own have the same cells -/
theorem column_get (m : MSer α) (j : Nat) (t : Int) : (m.column j).get t = m.get t j := by
  simp only [MSer.column, Ser.get, MSer.get]
  by_cases hj : j < m.nv
  · simp only [hj, and_true, if_true]
  · simp only [hj, and_false, if_false, ite_self]

variable [Add α] [Sub α] [Mul α] [Div α] [NatCast α] [IntCast α]

/-- **Variant locality of the change functions.** On a series with several variants every change function (any
shift argument) either fails in some variant's computation, or returns a series with the same number of variants
whose variant `j` is, cell by cell, the change of variant `j` alone (taken on the shared rows). -/
theorem mchange_variant_local (S : Sym α) (kind : ChangeKind) (a : ShiftArg) (m o : MSer α)
    (h : mchange S kind a m = .ok o) :
    o.nv = m.nv ∧ ∀ j, j < m.nv → ∃ oj, changeArg S kind a (m.column j) = .ok oj ∧ ∀ t, o.get t j = oj.get t := by
  unfold mchange at h
  split at h
  · cases h
  · rename_i outs hm
    cases h
    exact MSer.ofSers_mapR m.freq hm

/-- … and it fails only if the change of one of the variants fails (with that error) -/
theorem mchange_error (S : Sym α) (kind : ChangeKind) (a : ShiftArg) (m : MSer α) (e : Err)
    (h : mchange S kind a m = .error e) : ∃ j, j < m.nv ∧ changeArg S kind a (m.column j) = .error e := by
  unfold mchange at h
  split at h
  · rename_i e' hm
    cases h
    obtain ⟨j, hj, hg⟩ := mapR_error hm
    exact ⟨j, List.mem_range.mp hj, hg⟩
  · cases h

theorem mconvert_variant_local (S : Sym α) (c : ConvKind) (m : MSer α) (j : Nat) (hj : j < m.nv) (t : Int) :
    (mconvert S c m).get t j = (convert S c (m.column j)).get t := by
  unfold mconvert
  rw [MSer.get_ofSers, List.getElem?_map, List.getElem?_range hj]
  rfl

/-- **Variant locality of the cumulation functions, with the broadcast rule for `initial`.** Variant `j` of the result
is the cumulation of variant `j` of the change series started from the initial condition `pickVariant initials j`
(supplied variant `j` while they last, then the last supplied one). -/
theorem mcum_variant_local (S : Sym α) (kind : CumKind) (a : ShiftArg) (initials : List (Option (Init α)))
    (span : Option Span) (m o : MSer α) (h : mcum S kind a initials span m = .ok o) :
    o.nv = m.nv ∧ ∀ j, j < m.nv → ∃ ini oj, pickVariant initials j = some ini ∧
      cumArg S kind a ini span (m.column j) = .ok oj ∧ ∀ t, o.get t j = oj.get t := by
  unfold mcum at h
  split at h
  · cases h
  · rename_i outs hm
    cases h
    obtain ⟨hnv, hget⟩ := MSer.ofSers_mapR m.freq hm
    refine ⟨hnv, fun j hj => ?_⟩
    obtain ⟨oj, hoj, hg⟩ := hget j hj
    revert hoj
    cases pickVariant initials j with
    | none => exact nofun
    | some ini => exact fun hoj => ⟨ini, oj, rfl, hoj, hg⟩

end variants

section congruence
variable {α : Type} [Add α] [Sub α] [Mul α] [Div α] [NatCast α] [IntCast α]

theorem change_congr (S : Sym α) (kind : ChangeKind) (by_ : ShiftBy) (s s' : Ser α) (hf : s.freq = s'.freq)
    (hg : ∀ t, s.get t = s'.get t)
    (o o' : Ser α) (h : change S kind by_ s = .ok o) (h' : change S kind by_ s' = .ok o') (t : Int) :
    o.get t = o'.get t := by
  obtain ⟨by', hget⟩ := change_get S kind by_
  -- both cells are the formula of `x_t` and the reference value, which is read through `get` at a period that
  -- depends on the frequency only
  rw [hget s o h, hget s' o' h', hg, hf]
  congr 1
  unfold refValue
  rw [hf]
  cases Period.shift ⟨s'.freq, t⟩ by' with
  | ok q => exact hg _
  | error e => rfl

set_option linter.unusedVariables false in -- `hcal` is not needed
/-- **The change depends on the cells only.** Two series with the same frequency and the same cells (whatever their
row ranges -- e.g. a variant on the rows it shares with other variants, and the same variant trimmed on its own) have
changes with the same cells, for every change function and every shift (calendar keywords: calendar frequencies). -/
theorem change_cells_only (S : Sym α) (kind : ChangeKind) (by_ : ShiftBy) (s s' : Ser α) (hf : s.freq = s'.freq)
    (hg : ∀ t, s.get t = s'.get t)
    (hcal : (by_ = .soy ∨ by_ = .eopy ∨ by_ = .tty) → kind.fixedShift = none → s.freq ≠ .I)
    (o o' : Ser α) (h : change S kind by_ s = .ok o) (h' : change S kind by_ s' = .ok o') (t : Int) :
    o.get t = o'.get t :=
  change_congr S kind by_ s s' hf hg o o' h h' t

end congruence

/-! ## 6. The shift argument as passed by the caller; default initial values -/

section shiftarg
variable {α : Type} [Add α] [Sub α] [Mul α] [Div α] [NatCast α] [IntCast α]

/-- `_catch_invalid_shift` lets a number through exactly when it is a negative whole number (strings always pass) -/
theorem shiftArg_invalid_iff :
    (∀ k : Int, (ShiftArg.int k).invalid = false ↔ k < 0) ∧
    (∀ q : Rat, (ShiftArg.float q).invalid = false ↔ (q.den = 1 ∧ q < 0)) ∧
    (∀ b, (ShiftArg.kw b).invalid = false) ∧ ShiftArg.otherString.invalid = false := by
  refine ⟨fun k => ?_, fun q => ?_, fun _ => rfl, rfl⟩
  · simp [ShiftArg.invalid]
  · simp [ShiftArg.invalid]

theorem changeArg_int (S : Sym α) (kind : ChangeKind) (s : Ser α) (k : Int) :
    changeArg S kind (.int k) s = change S kind (.by_ k) s := by
  unfold changeArg change
  cases hfx : kind.fixedShift with
  | some k' => rfl
  | none =>
    -- a lead is refused by the argument test here and by `_catch_invalid_shift` there
    by_cases hk : k < 0
    · simp [ShiftArg.invalid, show ¬ 0 ≤ k by omega]
    · simp [ShiftArg.invalid, show 0 ≤ k by omega, temporalChange, validShift, hk]

theorem changeArg_kw (S : Sym α) (kind : ChangeKind) (s : Ser α) (b : ShiftBy) :
    changeArg S kind (.kw b) s = change S kind b s := by
  unfold changeArg change
  cases hfx : kind.fixedShift with
  | some k' => rfl
  | none => cases b <;> rfl

/-- a change function given a Python `int` or a keyword is the change of section 1 -/
theorem changeArg_int_kw (S : Sym α) (kind : ChangeKind) (s : Ser α) :
    (∀ k, changeArg S kind (.int k) s = change S kind (.by_ k) s) ∧
    (∀ b, (∀ k, b ≠ .by_ k) → changeArg S kind (.kw b) s = change S kind b s) :=
  ⟨changeArg_int S kind s, fun b _ => changeArg_kw S kind s b⟩

/-- **A float-valued shift is rejected by every flexible change function**, also when it is a negative whole number
(`diff(x, -1.0)`): after the validity test `Series.shift` looks for a method named `_shift_-1.0`. The same for a string
that is not one of the four keywords. -/
theorem change_float_or_unknown_string_rejected (S : Sym α) (kind : ChangeKind) (hflex : kind.fixedShift = none)
    (s : Ser α) : (∀ q, changeArg S kind (.float q) s = .error .badInput) ∧
      changeArg S kind .otherString s = .error .badInput := by
  unfold changeArg
  rw [hflex]
  refine ⟨fun q => ?_, rfl⟩
  dsimp only
  split <;> rfl

/-- **A cumulation function takes a negative whole-number float as the integer** (`cum_diff(c, -1.0, …)`), rejects every
other number that is not a negative integer, and rejects unknown strings. -/
theorem cumArg_float (S : Sym α) (kind : CumKind) (initial : Option (Init α)) (span : Option Span) (self : Ser α) :
    (∀ k : Int, k < 0 → cumArg S kind (.float (k : Rat)) initial span self =
        temporalCumulation S kind (.by_ k) initial span self) ∧
    (∀ q : Rat, (q.den ≠ 1 ∨ 0 ≤ q) → cumArg S kind (.float q) initial span self = .error .badInput) ∧
    cumArg S kind .otherString initial span self = .error .badInput := by
  refine ⟨fun k hk => ?_, fun q hq => ?_, rfl⟩
  · have h2 : ¬ (0 : Rat) ≤ (k : Rat) := Rat.not_le.mpr (by exact_mod_cast hk)
    simp [cumArg, ShiftArg.invalid, h2]
  · have : (ShiftArg.float q).invalid = true := by
      rcases hq with h | h <;> simp [ShiftArg.invalid, h]
    unfold cumArg
    rw [this]
    rfl

/-- **Default initial values** as documented ("0 for diff and diff_log, 1 for pct and roc"), read from the regenerated
`_CUMULATIVE_FACTORY` -/
theorem default_initial_documented :
    CumKind.diff.initial = 0 ∧ CumKind.diffLog.initial = 0 ∧ CumKind.pct.initial = 1 ∧ CumKind.roc.initial = 1 := by
  decide

/-- … and `initial=None` is that number: the cumulation is the one started from the constant series -/
theorem cum_default_initial (S : Sym α) (kind : CumKind) (by_ : ShiftBy) (span : Option Span) (self : Ser α) :
    temporalCumulation S kind by_ none span self =
      temporalCumulation S kind by_ (some (.scalar ((kind.initial : Int) : α))) span self := rfl

end shiftarg

/-! ## 7. Keyword shifts at the series level, with the calendar rule of C09 made explicit -/

section keywords_explicit
variable {α : Type} [Add α] [Sub α] [Mul α] [Div α] [NatCast α] [IntCast α]

/-- the model does not restate the calendar: the period-level function used by the series-level shifts is
`IrisVerif.Dates.Period.shift` of Model/Dates.lean (the subject of the C09 `shift_*` theorems) -/
theorem series_shift_uses_period_shift (f : Freq) (t : Int) :
    Ser.refSoy f t = (Period.shift ⟨f, t⟩ .soy).map (·.serial) ∧
    Ser.refEopy f t = (Period.shift ⟨f, t⟩ .eopy).map (·.serial) ∧
    Ser.refTty f t = (Period.shift ⟨f, t⟩ .tty).map (·.serial) := ⟨rfl, rfl, rfl⟩

/-- **"soy" and "eopy" on a regular frequency, explicitly**: with `(year, segment)` of period `t` (C09), the reference
period of `soy` is `t − (segment − 1)` (segment 1 of the same year) and that of `eopy` is `t − segment` (the last
segment of the previous year) -/
theorem change_soy_eopy_regular (S : Sym α) (kind : ChangeKind) (hflex : kind.fixedShift = none) (s : Ser α)
    (hf : s.freq ∈ IrisVerif.Dates.C09.regularFreqs) :
    ∃ o1 o2, change S kind .soy s = .ok o1 ∧ change S kind .eopy s = .ok o2 ∧
      ∀ t y seg, toYearSegment ⟨s.freq, t⟩ = .ok (y, seg) →
        o1.get t = cellFn S kind s.freq (s.get t) (s.get (t - (seg - 1))) ∧
        o2.get t = cellFn S kind s.freq (s.get t) (s.get (t - seg)) := by
  have hI : s.freq ≠ .I := by
    intro h; rw [h] at hf; simp [IrisVerif.Dates.C09.regularFreqs] at hf
  obtain ⟨o1, ho1, _, hg1⟩ := change_soy S kind hflex s hI
  obtain ⟨o2, ho2, _, hg2⟩ := change_eopy S kind hflex s hI
  refine ⟨o1, o2, ho1, ho2, fun t y seg hys => ?_⟩
  obtain ⟨y1, seg1, q1, h1, hq1, _, _, hs1⟩ := IrisVerif.Dates.C09.shift_soy_regular s.freq hf t
  obtain ⟨y2, seg2, q2, h2, hq2, _, _, hs2⟩ := IrisVerif.Dates.C09.shift_eopy_regular s.freq hf t
  cases hys.symm.trans h1
  cases hys.symm.trans h2
  rw [hg1 t q1 hq1, hg2 t q2 hq2, hs1, hs2]
  exact ⟨rfl, rfl⟩

/-- **"tty", explicitly, including the neutral-value fill**: in a period with segment > 1 the reference is the previous
period; in a start-of-year period (segment 1) the reference value is the method's neutral value -/
theorem change_tty_explicit (S : Sym α) (kind : ChangeKind) (hflex : kind.fixedShift = none) (s : Ser α)
    (hf : s.freq ≠ .I) :
    ∃ o, change S kind .tty s = .ok o ∧ ∀ t y seg, toYearSegment ⟨s.freq, t⟩ = .ok (y, seg) →
      (1 < seg → o.get t = cellFn S kind s.freq (s.get t) (s.get (t - 1))) ∧
      (seg ≤ 1 → o.get t = cellFn S kind s.freq (s.get t) (kind.neutral.map (fun (n : Int) => (n : α)))) := by
  obtain ⟨o, ho, _, hg, hn⟩ := change_tty S kind hflex s hf
  refine ⟨o, ho, fun t y seg hys => ?_⟩
  have htty := IrisVerif.Dates.C09.shift_tty ⟨s.freq, t⟩ y seg hys
  refine ⟨fun hseg => ?_, fun hseg => hn t (htty.trans (if_neg (by omega)))⟩
  rw [hg t _ (htty.trans (if_pos hseg)), Int.sub_eq_add_neg]
  -- the period `create_tty` yields is `Period.add ⟨s.freq, t⟩ (-1)`, of serial `t + -1`
  rfl

end keywords_explicit

/-- **The neutral-value fill of "tty" for the three neutral values 0 / 1 / none**, at the series level over a field:
in a start-of-year period `diff` returns `x_t − 0 = x_t`, `roc` returns `x_t / 1 = x_t`, `pct` (neutral `None`) is
missing -/
theorem tty_neutral_fill {K : Type} [Field K] (S : Sym K) (hz : ZeroTest S) (s : Ser K) (hf : s.freq ≠ .I) :
    ∃ od orr op, change S .diff .tty s = .ok od ∧ change S .roc .tty s = .ok orr ∧ change S .pct .tty s = .ok op ∧
      ∀ t y x, toYearSegment ⟨s.freq, t⟩ = .ok (y, 1) → s.get t = some x →
        od.get t = some x ∧ orr.get t = some x ∧ op.get t = none := by
  obtain ⟨od, hod, hd⟩ := change_tty_explicit S .diff rfl s hf
  obtain ⟨orr, hor, hr⟩ := change_tty_explicit S .roc rfl s hf
  obtain ⟨op, hop, hp⟩ := change_tty_explicit S .pct rfl s hf
  refine ⟨od, orr, op, hod, hor, hop, fun t y x hys hx => ?_⟩
  rw [(hd t y 1 hys).2 (by omega), (hr t y 1 hys).2 (by omega), (hp t y 1 hys).2 (by omega), hx]
  exact tty_start_of_year S hz s.freq x

/-! Non-vacuity of sections 5–7. -/

/-- two variants missing at different edges: rows 0..4, variant 0 observed on 1..2, variant 1 on 2..3 -/
def exM : MSer ℚ := ⟨.Q, 0, 4, 2, fun t j => if (j = 0 ∧ 1 ≤ t ∧ t ≤ 2) ∨ (j = 1 ∧ 2 ≤ t ∧ t ≤ 3) then some 1 else none⟩

example : exM.trim.isEmpty = false ∧ exM.trim.lo = 1 ∧ exM.trim.hi = 3 := by decide
example : pickVariant [10, 20] 2 = some 20 ∧ pickVariant [10, 20] 0 = some 10 ∧ pickVariant ([] : List Nat) 1 = none := by decide
example : (mchange exSym .diff (.int (-1)) exM).toOption.map (fun o => (o.nv, o.lo, o.hi)) = some (2, 2, 3) := by
  decide +kernel
example : (ShiftArg.float (-1 : Rat)).invalid = false ∧ (ShiftArg.float ((-3 : Rat) / 2)).invalid = true := by
  decide +kernel
example : exSer.freq ∈ IrisVerif.Dates.C09.regularFreqs := by decide
example : toYearSegment ⟨exSer.freq, 8080⟩ = .ok (2020, 1) := by decide

/-! ## 8. Rejection branches of the cumulation (the model rejects what the code rejects); reference periods before
the start of the series; the annualisation factor of every frequency -/

section rejections
variable {α : Type} [Add α] [Sub α] [Mul α] [Div α] [NatCast α] [IntCast α]

/-- a non-negative number is not a valid shift for a cumulation either -/
theorem cum_rejects_leads (S : Sym α) (kind : CumKind) (k : Int) (hk : 0 ≤ k) (initial : Option (Init α))
    (span : Option Span) (self : Ser α) :
    temporalCumulation S kind (.by_ k) initial span self = .error .badInput := by
  unfold temporalCumulation
  rw [show validShift (.by_ k) = false from decide_eq_false (Int.not_lt.mpr hk)]
  rfl

/-- a keyword shift cannot be used in a backward cumulation (`Span.shift` of a string raises) -/
theorem cum_backward_keyword_rejected (S : Sym α) (kind : CumKind) (by_ : ShiftBy) (hkw : ∀ k, by_ ≠ .by_ k)
    (initial : Init α) (f : Freq) (a b step : Int) (orig : Ser α) :
    cumulateBackward S kind by_ initial f a b step orig = .error .badInput := by
  cases by_ with
  | by_ k => exact absurd rfl (hkw k)
  | _ => rfl

/-- an empty backward span (`start < end` with a negative step) is rejected (`min()` of nothing) -/
theorem cum_backward_empty_span_rejected (S : Sym α) (kind : CumKind) (k : Int) (initial : Init α) (f : Freq)
    (a b step : Int) (hstep : step < 0) (hab : a < b) (orig : Ser α) :
    cumulateBackward S kind (.by_ k) initial f a b step orig = .error .badInput := by
  unfold cumulateBackward
  rw [pyRange_eq_nil (Or.inr ⟨hstep, show a ≤ b - 1 by omega⟩)]
  rfl

/-- an empty forward span: a series as `initial` is rejected, a number gives the empty series -/
theorem cum_forward_empty_span (S : Sym α) (kind : CumKind) (by_ : ShiftBy) (f : Freq) (a b step : Int)
    (hstep : 0 < step) (hba : b < a) (change : Ser α) :
    (∀ s : Ser α, cumulateForward S kind by_ (.series s) f a b step change = .error .badInput) ∧
    (∀ x : α, ∃ o, cumulateForward S kind by_ (.scalar x) f a b step change = .ok o ∧ ∀ t, o.get t = none) := by
  unfold cumulateForward
  rw [pyRange_eq_nil (Or.inl ⟨hstep, by omega⟩)]
  exact ⟨fun s => if_pos hba, fun x => ⟨_, if_pos hba, Ser.get_of_isEmpty _ rfl⟩⟩

/-- mixing frequencies is rejected: a non-empty change series, or a non-empty `initial` series, of another frequency
than the span -/
theorem cum_forward_mixed_frequency_rejected (S : Sym α) (kind : CumKind) (k : Int) (initial : Init α) (f : Freq)
    (a b step : Int) (hab : a ≤ b) (change : Ser α)
    (hmix : (change.isEmpty = false ∧ change.freq ≠ f) ∨ initial.freqOk f = false) :
    cumulateForward S kind (.by_ k) initial f a b step change = .error .mixedFreq := by
  unfold cumulateForward
  rw [zipShift_int]
  exact (if_neg (Int.not_lt.mpr hab)).trans (if_pos (by simpa using hmix))

theorem cum_default_span_on_empty (S : Sym α) (kind : CumKind) (by_ : ShiftBy) (initial : Option (Init α))
    (self : Ser α) (he : self.isEmpty = true) :
    temporalCumulation S kind by_ initial none self = .error .badInput := by
  unfold temporalCumulation
  cases validShift by_
  · rfl
  · rw [he]
    -- both ends of the default `Span.make none none 1` are open, so `needsResolve` holds
    rfl

set_option linter.unusedVariables false in -- `hk` is not needed
/-- resolving an open span against a series without a start is rejected -/
theorem cum_open_span_on_empty_rejected (S : Sym α) (kind : CumKind) (k : Int) (hk : k < 0) (initial : Option (Init α))
    (self : Ser α) (he : self.isEmpty = true) :
    temporalCumulation S kind (.by_ k) initial none self = .error .badInput :=
  cum_default_span_on_empty S kind (.by_ k) initial self he

end rejections

section edges
variable {α : Type} [Add α] [Sub α] [Mul α] [Div α] [NatCast α] [IntCast α]

/-- **A reference period outside the rows of the series reads as missing — it never wraps.** For `soy`, `eopy` and
any negative shift: when the reference period lies before the first row (a series that starts in the middle of a year
and `soy`, say) the change in that period is missing. -/
theorem change_reference_before_start_missing (S : Sym α) (kind : ChangeKind) (hflex : kind.fixedShift = none)
    (s : Ser α) :
    (∀ k, k < 0 → ∃ o, change S kind (.by_ k) s = .ok o ∧ ∀ t, t + k < s.lo → o.get t = none) ∧
    (s.freq ≠ .I → ∃ o, change S kind .soy s = .ok o ∧
      ∀ t p, createSoy ⟨s.freq, t⟩ = .ok p → p.serial < s.lo → o.get t = none) ∧
    (s.freq ≠ .I → ∃ o, change S kind .eopy s = .ok o ∧
      ∀ t p, createEopy ⟨s.freq, t⟩ = .ok p → p.serial < s.lo → o.get t = none) := by
  have hout : ∀ u, u < s.lo → ∀ v, cellFn S kind s.freq v (s.get u) = none := fun u hu v => by
    rw [Ser.get_of_not_mem (by omega), cellFn_none_right]
  refine ⟨fun k hk => ?_, fun hf => ?_, fun hf => ?_⟩
  · obtain ⟨o, ho, _, hg⟩ := change_int S kind hflex s k hk
    exact ⟨o, ho, fun t ht => by rw [hg t, hout _ ht]⟩
  · obtain ⟨o, ho, _, hg⟩ := change_soy S kind hflex s hf
    exact ⟨o, ho, fun t p hp hlt => by rw [hg t p hp, hout _ hlt]⟩
  · obtain ⟨o, ho, _, hg⟩ := change_eopy S kind hflex s hf
    exact ⟨o, ho, fun t p hp hlt => by rw [hg t p hp, hout _ hlt]⟩

end edges

/-- **The annualisation factor of every frequency**, on any field: 1 (integer), 1, 2, 4, 12 and 365 (daily). The same
`factorOf s.freq` enters `adiff/adiff_log/apct/aroc` (`ChangeKind.fn`) and the de-annualising helpers
`pct_from_apct/roc_from_apct/roc_from_aroc` (`ConvKind.fn`), so `annualised_conversions` holds for every frequency,
daily and integer included. -/
theorem factorOf_values {K : Type} [Field K] :
    (factorOf .I : K) = 1 ∧ (factorOf .Y : K) = 1 ∧ (factorOf .H : K) = 2 ∧ (factorOf .Q : K) = 4 ∧
    (factorOf .M : K) = 12 ∧ (factorOf .D : K) = 365 := by
  simp only [factorOf, annualFactor_values, Int.cast_one, Int.cast_ofNat, and_self]

/-! Non-vacuity of section 8 and of the chain-wise inversion. -/

/-- a quarterly series that starts in the third quarter and has a hole on the odd chain: rows 8082..8091, period 8085
missing -/
def exHole : Ser ℚ := ⟨.Q, 8082, 8091, fun t => if t = 8085 then none else some (2 ^ (t - 8080).toNat)⟩

/-- lag −2, span 8084..8090: the even chain of `T = 8090` (8090, 8088, …, 8082) avoids the hole at 8085 -/
example : ∀ u, (8084 : Int) + (-2) ≤ u → u ≤ 8090 → OnChain (-2) 8090 u → ∃ x, exHole.get u = some x := by
  intro u h1 h2 ⟨n, hn⟩
  have hne : u ≠ 8085 := by omega
  exact ⟨_, (if_pos ⟨show (8082 : Int) ≤ u by omega, show u ≤ 8091 by omega⟩).trans (if_neg hne)⟩
example : createSoy ⟨exHole.freq, 8083⟩ = .ok ⟨.Q, 8080⟩ ∧ (8080 : Int) < exHole.lo := by decide
example : (cumulateBackward exSym .diff (.by_ (-1)) (.series exSer) .Q 8082 8085 (-1) exSer) = .error .badInput :=
  cum_backward_empty_span_rejected exSym .diff (-1) (.series exSer) .Q 8082 8085 (-1) (by omega) (by omega) exSer

end IrisVerif.C13
