/-
Property C15 -- model-implied autocovariances solve the solved model's Lyapunov equation.
First the matrix facts (Mathlib matrices, any sizes): fixed point of the second-moment propagation, zero padding, the lag
formula, the triangular→square similarity, uniqueness, the `s²` law, autocorrelations.  Then the executable model
`Model/Acov.lean` that the driver runs against irispie: NaN pattern, zero-shift selection, Lyapunov certificate, std rescaling.
`Props/BridgeC15.lean` derives the hypotheses of the fixed-point, padding, lag-formula, Kronecker and Lyapunov-scaling theorems
from the model; `lag_cross_moment`, `square_map`, `lyapunov_unique`, `scaling_gamma0`, `scaling_lags` and `acorr_spec` are about
matrices only (the bridge proves the `s²` law of the model entrywise, and has no counterpart of a family of moments, of `U` as a
similarity, of a norm, of the vector `r`).
-/
import Mathlib.Data.Matrix.Block
import Mathlib.Data.Matrix.ColumnRowPartitioned
import Mathlib.LinearAlgebra.Matrix.NonsingularInverse
import Mathlib.LinearAlgebra.Matrix.Notation
import Mathlib.Analysis.Matrix.Normed
import Mathlib.LinearAlgebra.Matrix.Vec
import Mathlib.Tactic.Ring
import Mathlib.Tactic.NormNum
import IrisVerif.Lemmas.Acov

open Matrix

namespace IrisVerif.C15
-- each section fixes its index types with their instances once; not every theorem needs all of them
set_option linter.unusedSectionVars false

section Propagation
variable {a y e w : Type} [Fintype a] [Fintype y] [Fintype e] [Fintype w]
variable {K : Type} [CommRing K]

/-- discrete Lyapunov equation of `α_t = T α_{t-1} + P u_t`, `cov u = Su` -/
def Lyap (T : Matrix a a K) (P : Matrix a e K) (Su : Matrix e e K) (Om : Matrix a a K) : Prop :=
  Om = T * Om * Tᵀ + P * Su * Pᵀ

/-- transition matrix of the joint vector `z = (α, y)`, `y_t = Z α_t + H w_t`: `z_t = 𝒜 z_{t-1} + ℬ (u_t, w_t)` -/
def calA (T : Matrix a a K) (Z : Matrix y a K) : Matrix (a ⊕ y) (a ⊕ y) K := fromBlocks T 0 (Z * T) 0
def calB (P : Matrix a e K) (Z : Matrix y a K) (H : Matrix y w K) : Matrix (a ⊕ y) (e ⊕ w) K :=
  fromBlocks P 0 (Z * P) H
def calS (Su : Matrix e e K) (Sw : Matrix w w K) : Matrix (e ⊕ w) (e ⊕ w) K := fromBlocks Su 0 0 Sw

/-- `get_cov_triangular_00`: `[[Ω, Ω Zᵀ], [(Ω Zᵀ)ᵀ, Z Ω Zᵀ + H Sw Hᵀ]]` -/
def Gamma0 (Z : Matrix y a K) (H : Matrix y w K) (Sw : Matrix w w K) (Om : Matrix a a K) :
    Matrix (a ⊕ y) (a ⊕ y) K :=
  fromBlocks Om (Om * Zᵀ) (Om * Zᵀ)ᵀ (Z * Om * Zᵀ + H * Sw * Hᵀ)

/-- **The assembled order-0 matrix is a fixed point of second-moment propagation of the joint system.** -/
theorem gamma0_fixed_point (T : Matrix a a K) (P : Matrix a e K) (Z : Matrix y a K) (H : Matrix y w K)
    (Su : Matrix e e K) (Sw : Matrix w w K) (Om : Matrix a a K)
    (h : Lyap T P Su Om) (hsym : Omᵀ = Om) :
    Gamma0 Z H Sw Om =
      calA T Z * Gamma0 Z H Sw Om * (calA T Z)ᵀ + calB P Z H * calS Su Sw * (calB P Z H)ᵀ := by
  have hz : (Om * Zᵀ)ᵀ = Z * Om := by rw [Matrix.transpose_mul, Matrix.transpose_transpose, hsym]
  unfold Gamma0 calA calB calS
  rw [hz]
  simp only [fromBlocks_transpose, fromBlocks_multiply, fromBlocks_add, Matrix.transpose_zero,
    Matrix.zero_mul, Matrix.mul_zero, add_zero, zero_add, Matrix.transpose_mul]
  -- block by block this is the Lyapunov equation multiplied by `Z` on the left and/or `Zᵀ` on the right
  conv_lhs => rw [show Om = T * Om * Tᵀ + P * Su * Pᵀ from h]
  simp only [Matrix.mul_add, Matrix.add_mul, Matrix.mul_assoc, add_assoc]

end Propagation

/-- the Lyapunov hypothesis is met by a concrete non-trivial system: AR(1) with coefficient 1/2, unit shock variance,
stationary variance 4/3 -/
example : Lyap (K := ℚ) (!![1/2] : Matrix (Fin 1) (Fin 1) ℚ) (!![1] : Matrix (Fin 1) (Fin 1) ℚ) !![1] !![4/3] := by
  unfold Lyap
  decide +kernel

section Padding
variable {u s e : Type} [Fintype u] [Fintype s] [Fintype e]
variable {K : Type} [CommRing K]

/-- **Stable block.** A solution of the Lyapunov equation of the stable block, padded with zeros, solves the
Lyapunov equation of the system whose unit-root rows and columns are set to zero (`cov_alpha_00`, `Ta_00`). -/
theorem padded_lyapunov (Ts : Matrix s s K) (Ps : Matrix s e K) (Su : Matrix e e K) (Oms : Matrix s s K)
    (h : Lyap Ts Ps Su Oms) :
    Lyap (fromBlocks (0 : Matrix u u K) 0 0 Ts) (fromRows (0 : Matrix u e K) Ps) Su
      (fromBlocks (0 : Matrix u u K) 0 0 Oms) := by
  unfold Lyap at h ⊢
  have hP : fromRows (0 : Matrix u e K) Ps * Su * (fromRows (0 : Matrix u e K) Ps)ᵀ
      = fromBlocks 0 0 0 (Ps * Su * Psᵀ) := by
    rw [fromRows_mul, transpose_fromRows, fromRows_mul_fromCols]
    simp only [Matrix.zero_mul, Matrix.mul_zero, Matrix.transpose_zero]
  rw [hP]
  simp only [fromBlocks_transpose, fromBlocks_multiply, Matrix.transpose_zero, Matrix.zero_mul, Matrix.mul_zero,
    add_zero, zero_add, fromBlocks_add]
  rw [← h]

end Padding

section Lags
variable {n : Type} [Fintype n] [DecidableEq n]
variable {K : Type} [CommRing K]

/-- the list the code builds (`Γ_{j+1} = 𝒜 Γ_j`) is `𝒜^j Γ_0` -/
theorem autocov_closed_form (A G0 : Matrix n n K) (G : ℕ → Matrix n n K)
    (h0 : G 0 = G0) (hs : ∀ j, G (j + 1) = A * G j) : ∀ j, G j = A ^ j * G0 := by
  intro j
  induction j with
  | zero => simp [h0]
  | succ j ih => rw [hs, ih, pow_succ', Matrix.mul_assoc]

/-- **`Γ_j` is the lag-`j` covariance under the propagation**: for any family of cross moments `M t s`
(`= E z_t z_sᵀ`) of the system `z_t = 𝒜 z_{t-1} + ℬ ε_t` with `ε_t` uncorrelated with the past
(`M (t+1) s = 𝒜 M t s` for `s ≤ t`) that is stationary at `Γ_0` (`M t t = Γ_0`), the lag-`j` moment is `𝒜^j Γ_0`
at every date, for every `j`. -/
theorem lag_cross_moment (A G0 : Matrix n n K) (M : ℕ → ℕ → Matrix n n K)
    (hdiag : ∀ t, M t t = G0) (hcross : ∀ t s, s ≤ t → M (t + 1) s = A * M t s) :
    ∀ j t, M (t + j) t = A ^ j * G0 := fun j t =>
  autocov_closed_form A G0 (fun j => M (t + j) t) (hdiag t) (fun j => hcross (t + j) t (Nat.le_add_right t j)) j

/-- **triangular → square**: `ξ = U α` is a similarity; fixed point and lag formula carry over -/
theorem square_map (U V A G0 : Matrix n n K) {m : Type} [Fintype m] (B : Matrix n m K) (S : Matrix m m K)
    (hVU : V * U = 1)
    (hfix : G0 = A * G0 * Aᵀ + B * S * Bᵀ) :
    (U * G0 * Uᵀ = (U * A * V) * (U * G0 * Uᵀ) * (U * A * V)ᵀ + (U * B) * S * (U * B)ᵀ) ∧
    ∀ j, U * (A ^ j * G0) * Uᵀ = (U * A * V) ^ j * (U * G0 * Uᵀ) := by
  have hstep : ∀ X : Matrix n n K, U * A * V * (U * X * Uᵀ) = U * (A * X) * Uᵀ := fun X => by
    simp only [Matrix.mul_assoc]
    rw [← Matrix.mul_assoc V U, hVU, Matrix.one_mul]
  constructor
  · have hVUt : Uᵀ * (U * A * V)ᵀ = Aᵀ * Uᵀ := by
      rw [← Matrix.transpose_mul, ← Matrix.transpose_mul, Matrix.mul_assoc, hVU, Matrix.mul_one]
    rw [hstep, Matrix.mul_assoc _ Uᵀ, hVUt, Matrix.transpose_mul]
    conv_lhs => rw [hfix]
    simp only [Matrix.mul_add, Matrix.add_mul, Matrix.mul_assoc]
  · intro j
    induction j with
    | zero => rw [pow_zero, pow_zero, Matrix.one_mul, Matrix.one_mul]
    | succ j ih => rw [pow_succ', pow_succ', Matrix.mul_assoc (U * A * V), ← ih, hstep, Matrix.mul_assoc A]

end Lags

/-- non-vacuity of `lag_cross_moment`: for every `𝒜`, `Γ₀` there IS a family of cross moments meeting its two hypotheses
(stationary on the diagonal, propagated by `𝒜` below it), namely `M t s = 𝒜^(t−s) Γ₀` -/
theorem stationary_family_exists {n : Type} [Fintype n] [DecidableEq n] {K : Type} [CommRing K] (A G0 : Matrix n n K) :
    ∃ M : ℕ → ℕ → Matrix n n K, (∀ t, M t t = G0) ∧ (∀ t s, s ≤ t → M (t + 1) s = A * M t s) := by
  refine ⟨fun t s => A ^ (t - s) * G0, fun t => by simp, fun t s hst => ?_⟩
  show A ^ (t + 1 - s) * G0 = A * (A ^ (t - s) * G0)
  rw [Nat.succ_sub hst, pow_succ', Matrix.mul_assoc]

section Unique
variable {n : Type} [Fintype n] [DecidableEq n]

open scoped Matrix.Norms.Operator

theorem homogeneous_iterate {K : Type} [CommRing K] (T D : Matrix n n K) (h : D = T * D * Tᵀ) (m : ℕ) :
    D = T ^ m * D * (Tᵀ) ^ m := by
  induction m with
  | zero => simp
  | succ m ih =>
    conv_lhs => rw [ih, h]
    rw [pow_succ, pow_succ']
    simp only [Matrix.mul_assoc]

/-- **Uniqueness of the stationary covariance under a contraction hypothesis** (real matrices, `L∞` operator
norm): if some power of `T` satisfies `‖T^m‖ · ‖(Tᵀ)^m‖ < 1` (true for every `T` with spectral radius `< 1` and
`m` large), the Lyapunov equation `Ω = T Ω Tᵀ + Σ` has at most one solution. -/
theorem lyapunov_unique (T Sig Om1 Om2 : Matrix n n ℝ) (m : ℕ)
    (hc : ‖T ^ m‖ * ‖(Tᵀ) ^ m‖ < 1)
    (h1 : Om1 = T * Om1 * Tᵀ + Sig) (h2 : Om2 = T * Om2 * Tᵀ + Sig) : Om1 = Om2 := by
  have hD : Om1 - Om2 = T * (Om1 - Om2) * Tᵀ := by
    conv_lhs => rw [h1, h2]
    rw [add_sub_add_right_eq_sub, Matrix.mul_sub, Matrix.sub_mul]
  have hm := homogeneous_iterate T (Om1 - Om2) hD m
  have hn : ‖Om1 - Om2‖ ≤ ‖T ^ m‖ * ‖(Tᵀ) ^ m‖ * ‖Om1 - Om2‖ :=
    calc ‖Om1 - Om2‖ = ‖T ^ m * (Om1 - Om2) * (Tᵀ) ^ m‖ := by rw [← hm]
      _ ≤ ‖T ^ m‖ * ‖Om1 - Om2‖ * ‖(Tᵀ) ^ m‖ := norm_mul₃_le
      _ = ‖T ^ m‖ * ‖(Tᵀ) ^ m‖ * ‖Om1 - Om2‖ := mul_right_comm _ _ _
  by_contra hne
  have hpos : 0 < ‖Om1 - Om2‖ := norm_pos_iff.2 (sub_ne_zero.2 hne)
  exact absurd hn (not_le.2 ((mul_lt_mul_of_pos_right hc hpos).trans_eq (one_mul _)))

end Unique

-- the contraction hypothesis of `lyapunov_unique` is met by a non-zero matrix
open scoped Matrix.Norms.Operator in
example : ∃ T : Matrix (Fin 2) (Fin 2) ℝ, T ≠ 0 ∧ ‖T ^ 1‖ * ‖(Tᵀ) ^ 1‖ < 1 := by
  refine ⟨(1/2 : ℝ) • (1 : Matrix (Fin 2) (Fin 2) ℝ), ?_, ?_⟩
  · intro h
    have := congrFun (congrFun h 0) 0
    simp at this
  · simp only [pow_one, Matrix.transpose_smul, Matrix.transpose_one]
    rw [norm_smul, norm_one]
    norm_num

section Kron
open Kronecker
variable {n : Type} [Fintype n] [DecidableEq n]
variable {K : Type} [CommRing K]

/-- **The Kronecker system the model solves is the Lyapunov equation**: `Ω = TΩTᵀ + Σ ↔ (I − T⊗T) vec Ω = vec Σ`. -/
theorem lyapunov_iff_kron (T Sig Om : Matrix n n K) :
    Om = T * Om * Tᵀ + Sig ↔ (1 - T ⊗ₖ T) *ᵥ vec Om = vec Sig := by
  rw [Matrix.sub_mulVec, Matrix.one_mulVec, kronecker_mulVec_vec, ← vec_sub, vec_inj]
  exact sub_eq_iff_eq_add'.symm

/-- **Uniqueness of the stationary covariance, algebraic form**: when `I − T⊗T` is non-singular (which is what the
model's checked solve finds; equivalent to no two eigenvalues of `T` with product 1, in particular `ρ(T) < 1`) the Lyapunov
equation has at most one solution, and `vec Ω = (I − T⊗T)⁻¹ vec Σ`. -/
theorem lyapunov_unique_kron (T Sig Om1 Om2 : Matrix n n K)
    (hdet : IsUnit (1 - T ⊗ₖ T).det)
    (h1 : Om1 = T * Om1 * Tᵀ + Sig) (h2 : Om2 = T * Om2 * Tᵀ + Sig) :
    Om1 = Om2 ∧ vec Om1 = (1 - T ⊗ₖ T)⁻¹ *ᵥ vec Sig := by
  have k1 := (lyapunov_iff_kron T Sig Om1).1 h1
  have k2 := (lyapunov_iff_kron T Sig Om2).1 h2
  have inv : ∀ Om : Matrix n n K, (1 - T ⊗ₖ T) *ᵥ vec Om = vec Sig → vec Om = (1 - T ⊗ₖ T)⁻¹ *ᵥ vec Sig := by
    intro Om h
    rw [← h, Matrix.mulVec_mulVec, Matrix.nonsing_inv_mul _ hdet, Matrix.one_mulVec]
  refine ⟨vec_inj.1 ((inv Om1 k1).trans (inv Om2 k2).symm), inv Om1 k1⟩

end Kron

section Scaling
variable {n e : Type} [Fintype n] [Fintype e] [DecidableEq n]
variable {K : Type} [CommRing K]

/-- **Scaling all std by `s` scales the Lyapunov solution by `s²`** (`c = s²`); `scaling_gamma0` and `scaling_lags` below
carry the factor to the assembled order-0 matrix (linear in `Ω` and `Σ_w`) and to every `𝒜^j Γ_0` -/
theorem scaling_lyapunov {T : Matrix n n K} {P : Matrix n e K} {Su : Matrix e e K} {Om : Matrix n n K} (c : K)
    (h : Om = T * Om * Tᵀ + P * Su * Pᵀ) :
    c • Om = T * (c • Om) * Tᵀ + P * (c • Su) * Pᵀ := by
  conv_lhs => rw [h]
  simp only [Matrix.mul_smul, Matrix.smul_mul, smul_add]

theorem scaling_lags (A G0 : Matrix n n K) (c : K) (j : ℕ) : A ^ j * (c • G0) = c • (A ^ j * G0) := by
  rw [Matrix.mul_smul]

/-- **Scaling kind by kind.** The assembled order-0 matrix is linear in the pair (transition part, measurement part):
scaling the transition stds by `√a` (so `Ω ↦ a·Ω`) and the measurement stds by `√b` gives `a·Γ₀[Σ_w = 0] + b·Γ₀[Ω = 0]`;
with `a = b = s²` this is the `s²` law, with `b = 1` (or an empty measurement block) only the transition part moves. -/
theorem scaling_gamma0_by_kind {y w : Type} [Fintype y] [Fintype w] (Z : Matrix y n K) (H : Matrix y w K)
    (Sw : Matrix w w K) (Om : Matrix n n K) (a b : K) :
    fromBlocks (a • Om) ((a • Om) * Zᵀ) ((a • Om) * Zᵀ)ᵀ (Z * (a • Om) * Zᵀ + H * (b • Sw) * Hᵀ)
      = a • fromBlocks Om (Om * Zᵀ) (Om * Zᵀ)ᵀ (Z * Om * Zᵀ)
        + b • fromBlocks (0 : Matrix n n K) 0 0 (H * Sw * Hᵀ) := by
  rw [fromBlocks_smul, fromBlocks_smul, fromBlocks_add]
  simp only [Matrix.mul_smul, Matrix.smul_mul, Matrix.transpose_smul, smul_zero, add_zero]

/-- the case `a = b`: all stds scaled together -/
theorem scaling_gamma0 {y w : Type} [Fintype y] [Fintype w] (Z : Matrix y n K) (H : Matrix y w K)
    (Sw : Matrix w w K) (Om : Matrix n n K) (c : K) :
    fromBlocks (c • Om) ((c • Om) * Zᵀ) ((c • Om) * Zᵀ)ᵀ (Z * (c • Om) * Zᵀ + H * (c • Sw) * Hᵀ)
      = c • fromBlocks Om (Om * Zᵀ) (Om * Zᵀ)ᵀ (Z * Om * Zᵀ + H * Sw * Hᵀ) := by
  rw [scaling_gamma0_by_kind Z H Sw Om c c, ← smul_add, fromBlocks_add]
  simp only [add_zero]

end Scaling

section Acorr
variable {n : Type}
variable {K : Type} [Field K] [LinearOrder K] [IsStrictOrderedRing K]

/-- `acorr_from_acov`: `acorr_j = Γ_j ∘ (r rᵀ)` with `r_i = 1/√d_i` where the order-0 variance `d_i` is positive and
`r_i = 0` otherwise (`r` is characterised by `r_i ≥ 0`, `r_i² d_i = 1`). Then the order-0 diagonal is 1, every
entry squares to `γ²/(d_i d_j)` with the sign of `γ`, and a non-positive variance gives 0 (no division). -/
theorem acorr_spec (G0 G : Matrix n n K) (r : n → K)
    (hr : ∀ i, if 0 < G0 i i then (0 ≤ r i ∧ r i * r i * G0 i i = 1) else r i = 0) :
    let acorr : Matrix n n K → Matrix n n K := fun g => Matrix.of (fun i j => g i j * (r i * r j))
    (∀ i, 0 < G0 i i → acorr G0 i i = 1) ∧
    (∀ i j, 0 < G0 i i → 0 < G0 j j → acorr G i j * acorr G i j * (G0 i i * G0 j j) = G i j * G i j) ∧
    (∀ i j, 0 < G0 i i → 0 < G0 j j → (0 ≤ acorr G i j ↔ 0 ≤ G i j)) ∧
    (∀ i j, (¬ 0 < G0 i i ∨ ¬ 0 < G0 j j) → acorr G i j = 0) := by
  intro acorr
  have hpos : ∀ i, 0 < G0 i i → 0 < r i ∧ r i * r i * G0 i i = 1 := fun i hi => by
    have h := hr i
    rw [if_pos hi] at h
    refine ⟨h.1.lt_of_ne' (fun h0 => ?_), h.2⟩
    rw [h0, zero_mul, zero_mul] at h
    exact zero_ne_one h.2
  have hzero : ∀ i, ¬ 0 < G0 i i → r i = 0 := fun i hi => by
    have h := hr i
    rwa [if_neg hi] at h
  refine ⟨fun i hi => ?_, fun i j hi hj => ?_, fun i j hi hj => ?_, fun i j h => ?_⟩
  · show G0 i i * (r i * r i) = 1
    rw [mul_comm, (hpos i hi).2]
  · show G i j * (r i * r j) * (G i j * (r i * r j)) * (G0 i i * G0 j j) = G i j * G i j
    calc _ = G i j * G i j * ((r i * r i * G0 i i) * (r j * r j * G0 j j)) := by ring
      _ = G i j * G i j := by rw [(hpos i hi).2, (hpos j hj).2, mul_one, mul_one]
  · exact mul_nonneg_iff_of_pos_right (mul_pos (hpos i hi).1 (hpos j hj).1)
  · show G i j * (r i * r j) = 0
    rcases h with h | h <;> rw [hzero _ h] <;> ring

end Acorr

-- non-vacuity of `acorr_spec`: variances 4 and 9 with r = (1/2, 1/3) meet its hypothesis `hr` (rational square roots)
example : ∀ i : Fin 2, if 0 < (!![4, 1; 1, 9] : Matrix (Fin 2) (Fin 2) ℚ) i i
    then (0 ≤ (![1/2, 1/3] : Fin 2 → ℚ) i ∧ (![1/2, 1/3] : Fin 2 → ℚ) i * (![1/2, 1/3] : Fin 2 → ℚ) i * (!![4, 1; 1, 9] : Matrix (Fin 2) (Fin 2) ℚ) i i = 1)
    else (![1/2, 1/3] : Fin 2 → ℚ) i = 0 := by
  decide +kernel

section Model
open IrisVerif IrisVerif.Acov
-- `calA` alone is the matrix of `section Propagation`; the model's joint transition matrix is written `Acov.calA`

/-- `_classify_solution_vector_stability`: an element is classified unit-root exactly when it has a loading above the
tolerance on one of the first `nu` (unit-root) columns -/
theorem loadsOnUnitRoot_iff (M : QMat) (nu : Nat) (tol : Rat) (i : Nat) :
    loadsOnUnitRoot M nu tol i = true ↔ ∃ j, j < nu ∧ tol < absQ (M.get i j) := by
  unfold loadsOnUnitRoot
  simp [List.any_eq_true, List.mem_range]

/-- **NaN pattern**: a cell of the reported matrix is NaN exactly when its row variable or its column variable
loads on a unit root; every other cell is the number computed from the stable block. -/
theorem nan_pattern (s : Sol) (g : QMat) (i j : Nat) (hi : i < g.rows) (hj : j < g.cols) :
    ((fillNaN s g).get i j = none ↔ (isStable s i = false ∨ isStable s j = false)) ∧
    (isStable s i = true → isStable s j = true → (fillNaN s g).get i j = some (g.get i j)) := by
  unfold fillNaN
  rw [cmat_get_ofFn _ hi hj]
  cases isStable s i <;> cases isStable s j <;> simp

theorem nan_row (s : Sol) (g : QMat) (i : Nat) (hi : i < g.rows) (hu : isStable s i = false) :
    ∀ j, j < g.cols → (fillNaN s g).get i j = none :=
  fun j hj => (nan_pattern s g i j hi hj).1.2 (Or.inl hu)

theorem isStable_transition (s : Sol) (i : Nat) (hna : i < s.na) :
    isStable s i = !loadsOnUnitRoot s.Ua s.nu s.tol i := by
  unfold isStable
  rw [if_pos hna]

theorem isStable_measurement (s : Sol) (i : Nat) :
    isStable s (s.na + i) = !loadsOnUnitRoot s.Za s.nu s.tol i := by
  unfold isStable
  rw [if_neg (by omega), Nat.add_sub_cancel_left]

/-- **One loading is enough, whatever the others are.** A transition variable with a loading above the tolerance on a
single unit-root column is NaN in every cell of its row — also when its loadings on several unit-root columns offset each
other (sum to zero), e.g. the spread of two independent random walks: the classification takes `|·|` column by column,
never of a sum. -/
theorem nan_of_single_loading (s : Sol) (g : QMat) (i j : Nat) (hi : i < g.rows) (hna : i < s.na)
    (hj : j < s.nu) (hl : s.tol < absQ (s.Ua.get i j)) :
    isStable s i = false ∧ ∀ c, c < g.cols → (fillNaN s g).get i c = none := by
  have hu : isStable s i = false := by
    rw [isStable_transition s i hna, (loadsOnUnitRoot_iff s.Ua s.nu s.tol i).2 ⟨j, hj, hl⟩, Bool.not_true]
  exact ⟨hu, nan_row s g i hi hu⟩

theorem nan_of_single_loading_measurement (s : Sol) (g : QMat) (i j : Nat) (hi : s.na + i < g.rows)
    (hj : j < s.nu) (hl : s.tol < absQ (s.Za.get i j)) :
    isStable s (s.na + i) = false ∧ ∀ c, c < g.cols → (fillNaN s g).get (s.na + i) c = none := by
  have hu : isStable s (s.na + i) = false := by
    rw [isStable_measurement, (loadsOnUnitRoot_iff s.Za s.nu s.tol i).2 ⟨j, hj, hl⟩, Bool.not_true]
  exact ⟨hu, nan_row s g (s.na + i) hi hu⟩

/-- **The NaN mask of a measurement variable is defined by its loadings on the unit-root STATES** (the first `nu` columns of
`Za`, triangular basis) and by nothing else: not by `Ua`, not by which transition variables are themselves non-stationary.
Two solutions with the same `Za`, `nu`, `na`, `tol` mask the same measurement variables. -/
theorem measurement_mask_by_states (s : Sol) (i : Nat) :
    isStable s (s.na + i) = true ↔ ∀ j, j < s.nu → absQ (s.Za.get i j) ≤ s.tol := by
  rw [isStable_measurement, Bool.not_eq_true', ← Bool.not_eq_true, loadsOnUnitRoot_iff]
  simp only [not_exists, not_and, Rat.not_lt]

/-- … hence a stationary combination of non-stationary variables is NOT masked: in the concrete system `ξ = (α₀, α₀ + α₁)`
with one unit root `α₀`, both transition variables load on the unit root (masked), while the observable `ξ₁ − ξ₀ = α₁` —
a combination that touches two non-stationary variables — has zero loading on it and is reported (not masked). -/
example :
    let s : Sol := ⟨2, 1, 1, QMat.ofRows [[1, 0], [0, 1/2]], QMat.ofRows [[1], [1]], QMat.ofRows [[0, 1]],
      QMat.ofRows [[1, 0], [1, 1]], QMat.zero 1 0, QMat.identity 1, QMat.zero 0 0, 0⟩
    isStable s 0 = false ∧ isStable s 1 = false ∧ isStable s 2 = true := by
  decide +kernel

/-- the zero-shift selection only picks cells: `select` never creates or removes a NaN -/
theorem select_get (g : CMat) (sel : List Nat) (i j : Nat) (hi : i < sel.length) (hj : j < sel.length) :
    (select g sel).get i j = g.get (sel.getD i 0) (sel.getD j 0) := by
  unfold select
  rw [cmat_get_ofFn _ hi hj]

/-- **The selected rows are exactly the zero-shift tokens, in vector order**: a position is selected iff it is a position
of the joint token vector whose shift is 0, and the selection is strictly increasing (no position twice, order kept) —
whatever the maximum lag is and whether or not there are measurement variables -/
theorem zeroShiftSel_spec (shifts : List Int) :
    (∀ i, i ∈ zeroShiftSel shifts ↔ (i < shifts.length ∧ shifts.getD i 1 = 0)) ∧
    (zeroShiftSel shifts).Pairwise (· < ·) := by
  unfold zeroShiftSel
  constructor
  · intro i
    simp [List.mem_filter, List.mem_range]
  · exact List.Pairwise.filter _ List.pairwise_lt_range

-- non-vacuity: shifts of [x, y, x{-1}, x{-2}, obs] select positions 0, 1, 4 (lag 2 with a measurement variable)
example : zeroShiftSel [0, 0, -1, -2, 0] = [0, 1, 4] := by decide

/-- **Certificate**: whatever the (unverified) elimination does, a covariance returned by the model's Lyapunov
solver satisfies the Lyapunov equation of the stable block exactly and is symmetric. -/
theorem lyapunov_sound (T Sig Om : QMat) (h : lyapunov T Sig = some Om) :
    isLyapunov T Sig Om = true ∧ Om.isSymmetric = true :=
  (lyapunov_eq_some T Sig Om h).2

theorem autocovTriangular_step (s : Sol) (OmS : QMat) (j : Nat) :
    autocovTriangular s OmS 0 = covTriangular00 s OmS ∧
    autocovTriangular s OmS (j + 1) = Acov.calA s * autocovTriangular s OmS j := ⟨rfl, rfl⟩

/-- the model's zero-variance guard: with a non-positive order-0 variance the reported (squared) correlation is 0,
and it is NaN exactly when one of the three cells it is computed from is NaN -/
theorem signedSquareCorr_spec (g0 g : CMat) (i j : Nat) :
    (signedSquareCorr g0 g i j = none ↔ (g.get i j = none ∨ g0.get i i = none ∨ g0.get j j = none)) ∧
    (∀ x di dj, g.get i j = some x → g0.get i i = some di → g0.get j j = some dj → ¬ (0 < di ∧ 0 < dj) →
      signedSquareCorr g0 g i j = some 0) := by
  unfold signedSquareCorr
  constructor
  · cases h1 : g.get i j <;> cases h2 : g0.get i i <;> cases h3 : g0.get j j <;> simp
    -- left: all three cells are numbers, and either branch of the zero-variance guard is a number
    split <;> simp
  · intro x di dj h1 h2 h3 hn
    rw [h1, h2, h3]
    simp only
    rw [if_neg hn]

/-- `rescale_stds(f)` is `rescale_stds(f, kind=…)` over both kinds -/
theorem rescale_eq_rescaleKinds (s : Sol) (f : Rat) : rescale s f = rescaleKinds s f f := rfl

/-- **Kind by kind = all at once**, in either order, for the cumulative factors of a call sequence; a call whose kind
selects nothing is modelled by the kind it names and changes only that (possibly empty) block -/
theorem applyKinds_kind_by_kind (f : Rat) :
    applyKinds [(.transition, f), (.measurement, f)] = (f, f) ∧
    applyKinds [(.measurement, f), (.transition, f)] = (f, f) ∧
    applyKinds [(.all, f)] = (f, f) := by
  simp [applyKinds, applyKind]

theorem applyKind_frame (fuw : Rat × Rat) (f : Rat) :
    (applyKind fuw .transition f).2 = fuw.2 ∧ (applyKind fuw .measurement f).1 = fuw.1 ∧
    (applyKind fuw .transition f).1 = fuw.1 * f ∧ (applyKind fuw .measurement f).2 = fuw.2 * f := by
  simp [applyKind]

/-- the invariant carried through a call history: same solution, std blocks scaled by the squares of the cumulative factors -/
def StdInv (s0 s : Sol) (acc : Rat × Rat) : Prop :=
  s.na = s0.na ∧ s.ny = s0.ny ∧ s.nu = s0.nu ∧ s.Ta = s0.Ta ∧ s.Pa = s0.Pa ∧ s.Za = s0.Za ∧ s.Ua = s0.Ua ∧ s.H = s0.H ∧
  s.tol = s0.tol ∧
  s.covU.rows = s0.covU.rows ∧ s.covU.cols = s0.covU.cols ∧ s.covW.rows = s0.covW.rows ∧ s.covW.cols = s0.covW.cols ∧
  (∀ i j, i < s0.covU.rows → j < s0.covU.cols → s.covU.get i j = acc.1 * acc.1 * s0.covU.get i j) ∧
  (∀ i j, i < s0.covW.rows → j < s0.covW.cols → s.covW.get i j = acc.2 * acc.2 * s0.covW.get i j)

theorem smul_block_inv (a0 a : QMat) (x f : Rat) (hr : a.rows = a0.rows) (hc : a.cols = a0.cols)
    (h : ∀ i j, i < a0.rows → j < a0.cols → a.get i j = x * x * a0.get i j) :
    ∀ i j, i < a0.rows → j < a0.cols → (QMat.smul (f * f) a).get i j = x * f * (x * f) * a0.get i j := by
  intro i j hi hj
  rw [QMat.get_smul, if_pos ⟨hr ▸ hi, hc ▸ hj⟩, h i j hi hj]
  ring

theorem stepStd_inv (s0 s : Sol) (acc : Rat × Rat) (c : StdKind × Rat) (h : StdInv s0 s acc) :
    StdInv s0 (stepStd s c) (applyKind acc c.1 c.2) := by
  obtain ⟨h1, h2, h3, h4, h5, h6, h7, h8, h9, r1, r2, r3, r4, hu, hw⟩ := h
  rcases c with ⟨k, f⟩
  have hu' := smul_block_inv s0.covU s.covU acc.1 f r1 r2 hu
  have hw' := smul_block_inv s0.covW s.covW acc.2 f r3 r4 hw
  -- whatever the kind, the solution fields and the dimensions stay; the kind decides which std block takes the factor
  cases k <;> refine ⟨h1, h2, h3, h4, h5, h6, h7, h8, h9, r1, r2, r3, r4, ?_, ?_⟩
  exacts [hu', hw', hu', hw, hu, hw']

/-- **The state machine refines the pure function.** After any history of `rescale_stds(f, kind)` calls — kinds with an
empty selection included — the solution matrices are those of the solve, and every std² in force is the original times
the square of the cumulative factor of its own kind; hence the observation `get_acov` (a function of this state only)
moves exactly with the stds of the kinds that were selected and with nothing else. -/
theorem runStd_spec (s : Sol) (calls : List (StdKind × Rat)) : StdInv s (runStd s calls) (applyKinds calls) := by
  unfold runStd applyKinds
  have h1 : ∀ x : Rat, x = 1 * 1 * x := fun x => by rw [one_mul, one_mul]
  exact List.foldl_rel (r := StdInv s)
    ⟨rfl, rfl, rfl, rfl, rfl, rfl, rfl, rfl, rfl, rfl, rfl, rfl, rfl, fun _ _ _ _ => h1 _, fun _ _ _ _ => h1 _⟩
    fun c _ s' acc h => stepStd_inv s s' acc c h

/-- frame of a single call: a measurement-kind call never touches the transition stds and vice versa (so with an empty
measurement block a measurement-kind call changes no cell at all) -/
theorem stepStd_frame (s : Sol) (f : Rat) :
    (stepStd s (.measurement, f)).covU = s.covU ∧ (stepStd s (.transition, f)).covW = s.covW := ⟨rfl, rfl⟩

/-- **The rejection branch**: the model answers `none` ("no unique stationary covariance") exactly when its checked Lyapunov
solve of the stable block does — never for any other reason, and every order is then refused together -/
theorem acov_none_iff (s : Sol) (sel : List Nat) (k : Nat) :
    acov s sel k = none ↔ lyapunov (TaStable s) (sigmaU s) = none := by
  rw [acov_eq_map, Option.map_eq_none_iff]

-- non-vacuity of `lyapunov_sound`, `acov_none_iff`: the model's solver answers on an AR(1) (1/2, unit variance → 4/3) and
-- refuses a unit root
example : (lyapunov (QMat.ofRows [[1/2]]) (QMat.ofRows [[1]])).isSome = true := by decide +kernel
example : (lyapunov (QMat.ofRows [[1]]) (QMat.ofRows [[1]])).isSome = false := by decide +kernel

end Model

end IrisVerif.C15
