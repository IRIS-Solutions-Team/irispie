/-
Tie T (DESIGN.md §3: the model equals definitions regenerated from the source)
for the matrix code of property C01 (first-order simulation): the state recursion inside the hand-written model
`Model/FirstOrder.lean` (`simulateFrame`: `ξ ← T ξ + K`, `+ (P u)[:, t]`, `+ anticipated impact of t`) EQUALS the
fragment that `tools/gens/npmat_c01.py` regenerates on every run from the loop body of
`/repo/src/irispie/fords/simulators.py::simulate_flat` (`Generated/SimulateFlatGen.lean`), for every solution, state,
period and impact list.

Instantiation: `Pu` is present (the model uses a zero matrix when there are no shocks), `all_v_impact` is the model's
list of optional impacts, `exogenous_impact` is `None` (it is only used by the reduced-form VAR simulator).
-/
import IrisVerif.Props.GenTieCore
import IrisVerif.Model.FirstOrder
import IrisVerif.Generated.SimulateFlatGen

namespace IrisVerif.GenTieC01

open IrisVerif IrisVerif.QMat IrisVerif.FirstOrder IrisVerif.GenTie IrisVerif.QMatNp

/-- `Pu[:, t]` for a column inside the array is the model's `colOf` -/
theorem colAt_eq_colOf (a : QMat) (t : Nat) (ht : t < a.cols) : QMatNp.colAt a (t : Int) = colOf a t := by
  unfold QMatNp.colAt colOf
  rw [index?_natCast, if_pos ht]

/-- the generated fragment is the model's three-line update as soon as `ξ' + Pu[:, t]` is the model's `ξ' + colOf Pu t` -/
theorem state_step_of_col (T K Pu xi : QMat) (imp : Array (Option QMat)) (t : Nat)
    (hcol : T * xi + K + QMatNp.colAt Pu (t : Int) = T * xi + K + colOf Pu t) :
    (match imp.getD t none with
      | some s => T * xi + K + colOf Pu t + s
      | none => T * xi + K + colOf Pu t)
      = Gen.SimulateFlat.state_step T K (some Pu) (some imp.toList) none xi (t : Int) := by
  unfold Gen.SimulateFlat.state_step
  simp only []
  rw [listGet_natCast, hcol]
  rw [List.getD_eq_getElem?_getD, Array.getElem?_toList, ← Array.getD_eq_getD_getElem?]
  cases imp.getD t none <;> rfl

/-- the state recursion of `simulate_flat`: the three updates of `ξ` in the model's frame loop are the generated
fragment, for every period `t` inside the shock array -/
theorem model_eq_generated_state_step (T K Pu xi : QMat) (imp : Array (Option QMat)) (t : Nat) (ht : t < Pu.cols) :
    (match imp.getD t none with
      | some s => T * xi + K + colOf Pu t + s
      | none => T * xi + K + colOf Pu t)
      = Gen.SimulateFlat.state_step T K (some Pu) (some imp.toList) none xi (t : Int) :=
  state_step_of_col T K Pu xi imp t (by rw [colAt_eq_colOf Pu t ht])

/-- `ξ + Pu[:, t]` agrees with the model's `ξ + colOf Pu t` for every `t` when `Pu` is well-shaped (outside the array,
where numpy raises, the model adds a column of zeros) -/
theorem add_colAt (a Pu : QMat) (hw : Pu.wellShaped = true) (t : Nat) :
    a + QMatNp.colAt Pu (t : Int) = a + colOf Pu t := by
  by_cases ht : t < Pu.cols
  · rw [colAt_eq_colOf Pu t ht]
  · show QMat.add _ _ = QMat.add _ _
    unfold QMat.add
    apply ofFn_congr
    intro i j _ _
    unfold QMatNp.colAt colOf
    rw [index?_natCast, if_neg ht, get_zero, get_block]
    split
    · rw [get_of_out Pu hw _ _ (Or.inr (by omega))]
    · rfl

/-- the state recursion, for every period (well-shaped shock array) -/
theorem model_eq_generated_state_step' (T K Pu xi : QMat) (hw : Pu.wellShaped = true) (imp : Array (Option QMat)) (t : Nat) :
    (match imp.getD t none with
      | some s => T * xi + K + colOf Pu t + s
      | none => T * xi + K + colOf Pu t)
      = Gen.SimulateFlat.state_step T K (some Pu) (some imp.toList) none xi (t : Int) :=
  state_step_of_col T K Pu xi imp t (add_colAt _ Pu hw t)

/-- the shock array of a frame, as `simulateFrame` builds it -/
def framePu (sol : Solution) (deviation : Bool) (d : Data) : QMat :=
  if d.u.rows == 0 then QMat.zero sol.T.rows d.x.cols
  else (if deviation then deviationSolution sol else sol).P * d.u

theorem framePu_ws (sol : Solution) (deviation : Bool) (d : Data) : (framePu sol deviation d).wellShaped = true := by
  unfold framePu
  split
  · exact wellShaped_zero _ _
  · exact wellShaped_mul _ _

/-- the model's frame loop with the state update as a parameter -/
def frameWith (step : QMat → Nat → QMat) (ms : MeasSol) (deviation : Bool) (solvec : List Token)
    (trueInit : List Bool) (d : Data) (first simLast : Nat) : Data :=
  let msT := if deviation then deviationMeas ms else ms
  let curr := currIndexes solvec
  let cols := (List.range (simLast + 1 - first)).map (· + first)
  let r := cols.foldl (fun (st : QMat × QMat × QMat) (t : Nat) =>
      let xi := step st.1 t
      let x := setCol st.2.1 curr t xi
      let yv := msT.Z * xi + (if d.w.rows == 0 then QMat.zero msT.Z.rows 1 else msT.H * colOf d.w t) + msT.D
      let y := setCol st.2.2 ((List.range st.2.2.rows).map (fun r => (r, r))) t yv
      (xi, x, y)) (initXi solvec trueInit d.x first, d.x, d.y)
  { d with x := r.2.1, y := r.2.2 }

/-- `simulateFrame` is `frameWith` its own three-line state update (by unfolding) -/
theorem simulateFrame_eq_frameWith (sol : Solution) (ms : MeasSol) (deviation : Bool) (solvec : List Token)
    (trueInit : List Bool) (d : Data) (first simLast : Nat) :
    simulateFrame sol ms deviation solvec trueInit d first simLast =
      frameWith (fun xi t =>
          match (antImpact sol d.v first simLast d.x.cols).getD t none with
          | some s => (if deviation then deviationSolution sol else sol).T * xi
              + (if deviation then deviationSolution sol else sol).K + colOf (framePu sol deviation d) t + s
          | none => (if deviation then deviationSolution sol else sol).T * xi
              + (if deviation then deviationSolution sol else sol).K + colOf (framePu sol deviation d) t)
        ms deviation solvec trueInit d first simLast := by
  rfl

/-- `simulateFrame` runs the regenerated recursion: the model's frame simulation is its frame loop with the state
update replaced by the generated `state_step` (from `simulate_flat`'s loop body), for every solution, data and frame -/
theorem simulateFrame_eq_generated (sol : Solution) (ms : MeasSol) (deviation : Bool) (solvec : List Token)
    (trueInit : List Bool) (d : Data) (first simLast : Nat) :
    simulateFrame sol ms deviation solvec trueInit d first simLast =
      frameWith (fun xi t => Gen.SimulateFlat.state_step (if deviation then deviationSolution sol else sol).T
          (if deviation then deviationSolution sol else sol).K (some (framePu sol deviation d))
          (some (antImpact sol d.v first simLast d.x.cols).toList) none xi (t : Int))
        ms deviation solvec trueInit d first simLast := by
  rw [simulateFrame_eq_frameWith]
  congr 1
  funext xi t
  exact model_eq_generated_state_step' _ _ _ xi (framePu_ws sol deviation d) _ t

end IrisVerif.GenTieC01
