/-
C02 — Jacobians from algorithmic differentiation equal the true derivatives: theorems about the model `IrisVerif.AD`
(`Model/Expr.lean`, `Model/ADSystem.lean`), whose arithmetic is the rules of `irispie.aldi.differentiators.Atom` as regenerated into
`Generated/AtomGen.lean` on every run.

* `adEval_sound`: for data `data u` in which every token has, at `u = 0`, the derivative that `Atom.diff` gives it (its seed, times
  its value for a log-variable), the walk returns value and derivative of `u ↦ eval (data u) e` at `0`.  `adEval_sound_perturb`,
  `adEval_sound_seeds`, `adEquation_sound` take `data u = perturb base logly seed u`, which moves every non-log token at the rate
  of its seed and the LOGARITHM of every log token at the rate of its seed (the system seed of direction `j` gives `∂/∂x_j`,
  `∂/∂log x_j` for a log-variable; the flat steady seed moves all shifts of a quantity together; the non-flat seed `(1, shift)`
  moves level and change).
* `adEval_sound` takes the correct formulas of `Atom.sqrt` and `Atom.maximum` with an Atom floor as hypotheses
  (`SqrtFormula`, `MaxFloorFormula`; by `*_sound_iff_formula` they are exactly soundness of those rules);
  `sqrtFormula_holds`, `maxFloorFormula_holds` prove them for the rules as generated: the `*_unconditional` theorems.
-/
import IrisVerif.Lemmas.ADRules
import IrisVerif.Lemmas.ADMaps
import IrisVerif.Lemmas.ADSystem
import IrisVerif.Lemmas.Monads
import IrisVerif.Lemmas.Machines
import IrisVerif.Lemmas.Lists
import Mathlib.Analysis.Calculus.FDeriv.Prod
import Mathlib.Analysis.Calculus.Deriv.Prod
import Mathlib.Analysis.Calculus.Deriv.Comp
import Mathlib.LinearAlgebra.Pi

namespace IrisVerif.C02
open IrisVerif.AD IrisVerif.Gen

/-! ### the dispatch tables, as generated -/

theorem has_add : hasMethod "__add__" = true := by decide +kernel
theorem has_sub : hasMethod "__sub__" = true := by decide +kernel
theorem has_mul : hasMethod "__mul__" = true := by decide +kernel
theorem has_truediv : hasMethod "__truediv__" = true := by decide +kernel
theorem has_pow : hasMethod "__pow__" = true := by decide +kernel
theorem has_radd : hasMethod "__radd__" = true := by decide +kernel
theorem has_rsub : hasMethod "__rsub__" = true := by decide +kernel
theorem has_rmul : hasMethod "__rmul__" = true := by decide +kernel
theorem has_rtruediv : hasMethod "__rtruediv__" = true := by decide +kernel
/-- there is no reflected power: `number ** Atom` raises -/
theorem no_rpow : hasMethod "__rpow__" = false := by decide +kernel
theorem has_neg : hasMethod "__neg__" = true := by decide +kernel
theorem has_pos : hasMethod "__pos__" = true := by decide +kernel
theorem has_log : hasMethod "log" = true := by decide +kernel
theorem has_exp : hasMethod "exp" = true := by decide +kernel
theorem has_sqrt : hasMethod "sqrt" = true := by decide +kernel
theorem has_logistic : hasMethod "logistic" = true := by decide +kernel
theorem has_maximum : hasMethod "maximum" = true := by decide +kernel
theorem no_abs : hasMethod "abs" = false := by decide +kernel
theorem no_normal_cdf : hasMethod "normal_cdf" = false := by decide +kernel
theorem no_normal_pdf : hasMethod "normal_pdf" = false := by decide +kernel
/-- the method is spelt `mininum` in the code: `minimum` does not reach it -/
theorem no_minimum : hasMethod "minimum" = false := by decide +kernel

theorem res_add : resolve "__add__" = "__add__" := by decide +kernel
theorem res_sub : resolve "__sub__" = "__sub__" := by decide +kernel
theorem res_mul : resolve "__mul__" = "__mul__" := by decide +kernel
theorem res_truediv : resolve "__truediv__" = "__truediv__" := by decide +kernel
theorem res_pow : resolve "__pow__" = "__pow__" := by decide +kernel
theorem res_radd : resolve "__radd__" = "__add__" := by decide +kernel
theorem res_rmul : resolve "__rmul__" = "__mul__" := by decide +kernel
theorem res_rsub : resolve "__rsub__" = "__rsub__" := by decide +kernel
theorem res_rtruediv : resolve "__rtruediv__" = "__rtruediv__" := by decide +kernel

/-- the functions offered to equations are exactly these nine -/
theorem offered_functions :
    Atom.offered = ["log", "exp", "sqrt", "abs", "logistic", "normal_cdf", "normal_pdf", "maximum", "minimum"] := rfl

/-! ### what one step of the walk computes, shape by shape

Python's operator protocol resolved once against the tables: which generated rule (or `TypeError`) each operator and
function reaches for each kind of operands, as one table per dispatcher and for any carrier.  Everything below reads
the rows of these tables (`binop_eq`, `call1_eq`, `call2_eq`), not `hasMethod`; `unop`, with two methods that both exist,
has `unop_neg_atom`, `unop_pos_atom` in place of a table. -/

section
variable {α : Type} [Add α] [Sub α] [Mul α] [Div α] [Neg α] [NatCast α] [ADFun α]

@[simp] def binTable : BinOp → Val α → Val α → Except Err (Val α)
  | op, .num a, .num b => .ok (.num (evalBin op a b))
  | .add, .atom sv sd, .atom ov od => .ok (.atom (Atom.add_aa_value sv sd ov od) (Atom.add_aa_diff sv sd ov od))
  | .sub, .atom sv sd, .atom ov od => .ok (.atom (Atom.sub_aa_value sv sd ov od) (Atom.sub_aa_diff sv sd ov od))
  | .mul, .atom sv sd, .atom ov od => .ok (.atom (Atom.mul_aa_value sv sd ov od) (Atom.mul_aa_diff sv sd ov od))
  | .div, .atom sv sd, .atom ov od => .ok (.atom (Atom.truediv_aa_value sv sd ov od) (Atom.truediv_aa_diff sv sd ov od))
  | .pow, .atom sv sd, .atom ov od => .ok (.atom (Atom.pow_aa_value sv sd ov od) (Atom.pow_aa_diff sv sd ov od))
  | .add, .atom sv sd, .num o => .ok (.atom (Atom.add_an_value sv sd o) (Atom.add_an_diff sv sd o))
  | .sub, .atom sv sd, .num o => .ok (.atom (Atom.sub_an_value sv sd o) (Atom.sub_an_diff sv sd o))
  | .mul, .atom sv sd, .num o => .ok (.atom (Atom.mul_an_value sv sd o) (Atom.mul_an_diff sv sd o))
  | .div, .atom sv sd, .num o => .ok (.atom (Atom.truediv_an_value sv sd o) (Atom.truediv_an_diff sv sd o))
  | .pow, .atom sv sd, .num o => .ok (.atom (Atom.pow_an_value sv sd o) (Atom.pow_an_diff sv sd o))
  | .add, .num o, .atom sv sd => .ok (.atom (Atom.add_an_value sv sd o) (Atom.add_an_diff sv sd o))
  | .sub, .num o, .atom sv sd => .ok (.atom (Atom.rsub_value sv sd o) (Atom.rsub_diff sv sd o))
  | .mul, .num o, .atom sv sd => .ok (.atom (Atom.mul_an_value sv sd o) (Atom.mul_an_diff sv sd o))
  | .div, .num o, .atom sv sd => .ok (.atom (Atom.rtruediv_value sv sd o) (Atom.rtruediv_diff sv sd o))
  | .pow, .num _, .atom _ _ => .error .typeError

@[simp] theorem binop_eq (op : BinOp) (x y : Val α) : binop op x y = binTable op x y := by
  cases op <;> cases x <;> cases y <;>
    simp only [binop, binTable, BinOp.dunder, BinOp.rdunder, has_add, has_sub, has_mul, has_truediv, has_pow, has_radd, has_rsub,
      has_rmul, has_rtruediv, no_rpow, res_add, res_sub, res_mul, res_truediv, res_pow, res_radd, res_rsub, res_rmul,
      res_rtruediv, applyAA, applyAN, if_true, reduceCtorEq, if_false, String.reduceEq]

@[simp] def call1Table (ext : Fn1 → α → α) : Fn1 → Val α → Except Err (Val α)
  | f, .num a => .ok (.num (evalFn1 ext f a))
  | .log, .atom sv sd => .ok (.atom (Atom.log_value sv sd) (Atom.log_diff sv sd))
  | .exp, .atom sv sd => .ok (.atom (Atom.exp_value sv sd) (Atom.exp_diff sv sd))
  | .sqrt, .atom sv sd => .ok (.atom (Atom.sqrt_value sv sd) (Atom.sqrt_diff sv sd))
  | .logistic, .atom sv sd => .ok (.atom (Atom.logistic_value sv sd) (Atom.logistic_diff sv sd))
  | _, .atom _ _ => .error .typeError

omit [Add α] [Neg α] in
@[simp] theorem call1_eq (ext : Fn1 → α → α) (f : Fn1) (x : Val α) : call1 ext f x = call1Table ext f x := by
  cases f <;> cases x <;>
    simp only [call1, call1Table, Fn1.name, has_log, has_exp, has_sqrt, has_logistic, no_abs, no_normal_cdf, no_normal_pdf,
      if_true, reduceCtorEq, if_false]

@[simp] def call2Table : Fn2 → Val α → Val α → Except Err (Val α)
  | f, .num a, .num b => .ok (.num (evalFn2 f a b))
  | .maximum, .atom sv sd, .atom ov od => .ok (.atom (Atom.maximum_aa_value sv sd ov od) (Atom.maximum_aa_diff sv sd ov od))
  | .maximum, .atom sv sd, .num o => .ok (.atom (Atom.maximum_an_value sv sd o) (Atom.maximum_an_diff sv sd o))
  | _, _, _ => .error .typeError

omit [Neg α] in
@[simp] theorem call2_eq (f : Fn2) (x y : Val α) : call2 f x y = call2Table f x y := by
  cases f <;> cases x <;> cases y <;>
    simp only [call2, call2Table, Fn2.name, has_maximum, no_minimum, if_true, reduceCtorEq, if_false]
end

section
variable {sv sd a : ℝ}

@[simp] theorem unop_num (isNeg : Bool) : unop isNeg (.num a) = .ok (.num (if isNeg then -a else a)) := rfl
@[simp] theorem unop_neg_atom : unop true (.atom sv sd) = .ok (.atom (Atom.neg_value sv sd) (Atom.neg_diff sv sd)) := by
  simp [unop, has_neg]
@[simp] theorem unop_pos_atom : unop false (.atom sv sd) = .ok (.atom (Atom.pos_value sv sd) (Atom.pos_diff sv sd)) := by
  simp [unop, has_pos]
end

/-- what an evaluation result claims about the function `F` of the perturbation (at `0`) -/
def Sound (r : Val ℝ) (F : ℝ → ℝ) : Prop :=
  match r with
  | .num v => ∀ u, F u = v
  | .atom v d => Rep v d F 0

/-- `SoundE.bind` is the shape of every inductive step of `adEval_sound` -/
def SoundE (res : Except Err (Val ℝ)) (F : ℝ → ℝ) : Prop := ∀ r, res = .ok r → Sound r F

theorem SoundE.bind {x : Except Err (Val ℝ)} {k : Val ℝ → Except Err (Val ℝ)} {F G : ℝ → ℝ} (hx : SoundE x F)
    (hk : ∀ v, x = .ok v → Sound v F → SoundE (k v) G) : SoundE (x >>= k) G := fun r h => by
  obtain ⟨v, hv, hr⟩ := Except.bind_eq_ok.1 h
  exact hk v hv (hx v hv) r hr

/-- domain guards of the binary steps, on the operands the walk has computed. Two kinds of conjunct: what the calculus needs (non-zero
    divisor, positive base of `atom ** atom`, `base ≠ 0 ∨ 1 ≤ exponent`) and what keeps the real-number meaning of the model equal to
    numpy's (`x / 0` is `0` in `ℝ` but `inf` in numpy; `Real.rpow` of a negative base with a non-integer exponent is a number, numpy's is
    NaN): without the second kind the theorems would hold at points where `eval` is not what the code computes -/
def binGuard : BinOp → Val ℝ → Val ℝ → Prop
  | .div, .atom _ _, .atom ov _ => ov ≠ 0
  | .div, .num _, .atom sv _ => sv ≠ 0
  | .div, .atom _ _, .num o => o ≠ 0
  | .div, .num _, .num o => o ≠ 0
  | .pow, .atom sv _, .atom _ _ => 0 < sv
  | .pow, .atom sv _, .num o => (0 < sv ∨ ∃ n : ℤ, o = n) ∧ (sv ≠ 0 ∨ 1 ≤ o)
  | .pow, .num a, .num o => 0 < a ∨ ((∃ n : ℤ, o = n) ∧ (a ≠ 0 ∨ 0 ≤ o))
  | _, _, _ => True

/-- positive argument of `log`, positive (non-negative for a plain number) argument of `sqrt`: numpy's domain, and differentiability -/
def fn1Guard : Fn1 → Val ℝ → Prop
  | .log, .atom sv _ => 0 < sv
  | .log, .num a => 0 < a
  | .sqrt, .atom sv _ => 0 < sv
  | .sqrt, .num a => 0 ≤ a
  | _, _ => True

/-- `maximum` has no derivative where its operands are equal -/
def fn2Guard : Fn2 → Val ℝ → Val ℝ → Prop
  | .maximum, .atom sv _, .atom ov _ => sv ≠ ov
  | .maximum, .atom sv _, .num o => sv ≠ o
  | _, _, _ => True

/-- the correct `sqrt` rule: `(sqrt v, d / (2 sqrt v))` (a rule that divides by `sqrt(self.diff)` instead fails it at value 4, seed 1) -/
def SqrtFormula : Prop :=
  ∀ sv sd : ℝ, 0 < sv → Atom.sqrt_value sv sd = Real.sqrt sv ∧ Atom.sqrt_diff sv sd = sd / (2 * Real.sqrt sv)

/-- the correct `maximum` rule for an Atom floor, away from the kink: the derivative of the larger operand
    (a rule that ignores the floor's derivative fails it below the floor) -/
def MaxFloorFormula : Prop :=
  ∀ sv sd ov od : ℝ, sv ≠ ov → Atom.maximum_aa_diff sv sd ov od = if sv < ov then od else sd

theorem binop_sound {op : BinOp} {x y r : Val ℝ} {F G : ℝ → ℝ}
    (h : binop op x y = .ok r) (hx : Sound x F) (hy : Sound y G) (hg : binGuard op x y) :
    Sound r (fun u => evalBin op (F u) (G u)) := by
  rw [binop_eq] at h
  cases x with
  | num a =>
    cases y with
    | num b =>
      cases h
      intro u
      simp only [hx u, hy u]
    | atom sv sd =>
      obtain rfl : F = fun _ => a := funext hx
      cases op with
      | add => cases h; exact radd_sound hy
      | sub => cases h; exact rsub_sound hy
      | mul => cases h; exact rmul_sound hy
      | div => cases h; exact rtruediv_sound hy hg
      | pow => cases h
  | atom sv sd =>
    cases y with
    | num o =>
      obtain rfl : G = fun _ => o := funext hy
      cases op with
      | add => cases h; exact add_an_sound hx
      | sub => cases h; exact sub_an_sound hx
      | mul => cases h; exact mul_an_sound hx
      | div => cases h; exact truediv_an_sound hx
      | pow => cases h; exact pow_an_sound hx hg.2
    | atom ov od =>
      cases op with
      | add => cases h; exact add_aa_sound hx hy
      | sub => cases h; exact sub_aa_sound hx hy
      | mul => cases h; exact mul_aa_sound hx hy
      | div => cases h; exact truediv_aa_sound hx hy hg
      | pow => cases h; exact pow_aa_sound hx hy hg

theorem unop_sound {b : Bool} {x r : Val ℝ} {F : ℝ → ℝ} (h : unop b x = .ok r) (hx : Sound x F) :
    Sound r (fun u => if b then -(F u) else F u) := by
  cases x with
  | num a =>
    cases h
    intro u
    simp only [hx u]
  | atom sv sd =>
    cases b
    · rw [unop_pos_atom] at h
      cases h
      exact pos_sound hx
    · rw [unop_neg_atom] at h
      cases h
      exact neg_sound hx

theorem sqrt_sound_of_formula (H : SqrtFormula) {f : ℝ → ℝ} {x sv sd : ℝ} (hf : Rep sv sd f x) (h0 : 0 < sv) :
    Rep (Atom.sqrt_value sv sd) (Atom.sqrt_diff sv sd) (fun y => Real.sqrt (f y)) x := by
  obtain ⟨hv, hd⟩ := H sv sd h0
  rw [hv, hd]
  exact ⟨by rw [hf.val], sqrt_hasDerivAt hf h0⟩

theorem maximum_aa_sound_of_formula (H : MaxFloorFormula) {f g : ℝ → ℝ} {x sv sd ov od : ℝ}
    (hf : Rep sv sd f x) (hg : Rep ov od g x) (hne : sv ≠ ov) :
    Rep (Atom.maximum_aa_value sv sd ov od) (Atom.maximum_aa_diff sv sd ov od) (fun y => max (f y) (g y)) x := by
  rw [H sv sd ov od hne, maximum_aa_value_eq]
  exact ⟨by rw [hf.val, hg.val], max_hasDerivAt hf hg hne⟩

theorem call1_sound {ext : Fn1 → ℝ → ℝ} {f : Fn1} {x r : Val ℝ} {F : ℝ → ℝ}
    (hS : f = .sqrt → SqrtFormula)
    (h : call1 ext f x = .ok r) (hx : Sound x F) (hg : fn1Guard f x) :
    Sound r (fun u => evalFn1 ext f (F u)) := by
  rw [call1_eq] at h
  cases x with
  | num a =>
    cases h
    intro u
    simp only [hx u]
  | atom sv sd =>
    cases f with
    | log => cases h; exact log_sound hx (ne_of_gt hg)
    | exp => cases h; exact exp_sound hx
    | sqrt => cases h; exact sqrt_sound_of_formula (hS rfl) hx hg
    | logistic => cases h; exact logistic_sound hx
    | _ => cases h

theorem evalFn2_max (a b : ℝ) : evalFn2 .maximum a b = max a b := by
  rw [evalFn2, ite_ltb_eq_max]

theorem call2_sound {f : Fn2} {x y r : Val ℝ} {F G : ℝ → ℝ}
    (hM : f = .maximum → MaxFloorFormula)
    (h : call2 f x y = .ok r) (hx : Sound x F) (hy : Sound y G) (hg : fn2Guard f x y) :
    Sound r (fun u => evalFn2 f (F u) (G u)) := by
  rw [call2_eq] at h
  cases x with
  | num a =>
    cases y <;> cases h
    intro u
    simp only [hx u, hy u]
  | atom sv sd =>
    cases f with
    | minimum => cases y <;> cases h
    | maximum =>
      simp only [evalFn2_max]
      cases y with
      | num o =>
        obtain rfl : G = fun _ => o := funext hy
        cases h
        exact maximum_an_sound hx hg
      | atom ov od => cases h; exact maximum_aa_sound_of_formula (hM rfl) hx hy hg

/-- the tree calls `sqrt`: `adEval_sound` asks for `SqrtFormula` only then, so that every other tree is differentiated
    correctly whatever `Atom.sqrt` does (likewise `UsesMaximum` and `MaxFloorFormula`) -/
def UsesSqrt : Expr ℝ → Prop
  | .const _ => False
  | .tok _ _ => False
  | .neg e => UsesSqrt e
  | .pos e => UsesSqrt e
  | .bin _ a b => UsesSqrt a ∨ UsesSqrt b
  | .call1 f a => f = .sqrt ∨ UsesSqrt a
  | .call2 _ a b => UsesSqrt a ∨ UsesSqrt b

def UsesMaximum : Expr ℝ → Prop
  | .const _ => False
  | .tok _ _ => False
  | .neg e => UsesMaximum e
  | .pos e => UsesMaximum e
  | .bin _ a b => UsesMaximum a ∨ UsesMaximum b
  | .call1 _ a => UsesMaximum a
  | .call2 f a b => f = .maximum ∨ UsesMaximum a ∨ UsesMaximum b

/-- admissible evaluation point: the guard of every rule the walk uses holds on the operands it computes
    (non-zero divisors, positive arguments of log/sqrt, positive base of `atom ** atom`, away from the kinks) -/
def Admissible (c : Ctx ℝ) : Expr ℝ → Prop
  | .const _ => True
  | .tok _ _ => True
  | .neg e => Admissible c e
  | .pos e => Admissible c e
  | .bin op a b => Admissible c a ∧ Admissible c b ∧
      ∀ x y, adEval c a = .ok x → adEval c b = .ok y → binGuard op x y
  | .call1 f a => Admissible c a ∧ ∀ x, adEval c a = .ok x → fn1Guard f x
  | .call2 f a b => Admissible c a ∧ Admissible c b ∧
      ∀ x y, adEval c a = .ok x → adEval c b = .ok y → fn2Guard f x y

/-- **Main theorem.** For every tree, log-status assignment, seed function and admissible point, the operator-overloading
walk returns the value of the expression and the derivative, at `u = 0`, of the expression evaluated on data in which
every token `(q, s)` is the function `u ↦ data u q s` — provided each token's own derivative at `0` is what
`Atom.diff` (the generated `diffProp`) says: the seed, times the value for a log-variable. -/
theorem adEval_sound (data : ℝ → Nat → Int → ℝ) (seed : Nat → Int → ℝ) (logly : Nat → Bool) (ext : Fn1 → ℝ → ℝ)
    (htok : ∀ q s, HasDerivAt (fun u => data u q s) (Atom.diffProp (seed q s) (data 0 q s) (logly q)) 0)
    (e : Expr ℝ) (hS : UsesSqrt e → SqrtFormula) (hM : UsesMaximum e → MaxFloorFormula)
    (hadm : Admissible ⟨data 0, seed, logly, ext⟩ e) (r : Val ℝ)
    (h : adEval ⟨data 0, seed, logly, ext⟩ e = .ok r) :
    Sound r (fun u => eval ⟨data u, seed, logly, ext⟩ e) := by
  revert r
  change SoundE _ _
  induction e with
  | const k => rintro r ⟨⟩; exact fun u => rfl
  | tok q s => rintro r ⟨⟩; exact ⟨rfl, htok q s⟩
  | neg e ih => exact (ih hS hM hadm).bind fun x _ sx r hr => unop_sound (b := true) hr sx
  | pos e ih => exact (ih hS hM hadm).bind fun x _ sx r hr => unop_sound (b := false) hr sx
  | bin op a b iha ihb =>
    exact (iha (hS ∘ .inl) (hM ∘ .inl) hadm.1).bind fun x hx sx => (ihb (hS ∘ .inr) (hM ∘ .inr) hadm.2.1).bind
      fun y hy sy r hr => binop_sound hr sx sy (hadm.2.2 x y hx hy)
  | call1 f a iha =>
    exact (iha (hS ∘ .inr) hM hadm.1).bind fun x hx sx r hr => call1_sound (hS ∘ .inl) hr sx (hadm.2 x hx)
  | call2 f a b iha ihb =>
    exact (iha (hS ∘ .inl) (hM ∘ .inr ∘ .inl) hadm.1).bind fun x hx sx =>
      (ihb (hS ∘ .inr) (hM ∘ .inr ∘ .inr) hadm.2.1).bind
        fun y hy sy r hr => call2_sound (hM ∘ .inl) hr sx sy (hadm.2.2 x y hx hy)

/-! ### the perturbation that the seeds of the three Jacobian builders differentiate along -/

/-- every non-log token moves at the rate of its seed, the logarithm of every log token moves at the rate of its seed -/
noncomputable def perturb (base : Nat → Int → ℝ) (logly : Nat → Bool) (seed : Nat → Int → ℝ) (u : ℝ) (q : Nat) (s : Int) : ℝ :=
  if logly q then base q s * Real.exp (u * seed q s) else base q s + u * seed q s

theorem perturb_zero (base : Nat → Int → ℝ) (logly : Nat → Bool) (seed : Nat → Int → ℝ) :
    perturb base logly seed 0 = base := by
  funext q s
  simp [perturb]

theorem perturb_hasDerivAt (base : Nat → Int → ℝ) (logly : Nat → Bool) (seed : Nat → Int → ℝ) (q : Nat) (s : Int) :
    HasDerivAt (fun u => perturb base logly seed u q s)
      (Atom.diffProp (seed q s) (perturb base logly seed 0 q s) (logly q)) 0 := by
  rw [perturb_zero]
  unfold perturb Atom.diffProp
  cases logly q
  · simpa using ((hasDerivAt_id (0 : ℝ)).mul_const (seed q s)).const_add (base q s)
  · simpa [mul_comm] using (((hasDerivAt_id (0 : ℝ)).mul_const (seed q s)).exp).const_mul (base q s)

theorem adEval_sound_perturb (base : Nat → Int → ℝ) (seed : Nat → Int → ℝ) (logly : Nat → Bool) (ext : Fn1 → ℝ → ℝ)
    (e : Expr ℝ) (hS : UsesSqrt e → SqrtFormula) (hM : UsesMaximum e → MaxFloorFormula)
    (hadm : Admissible ⟨base, seed, logly, ext⟩ e) (r : Val ℝ) (h : adEval ⟨base, seed, logly, ext⟩ e = .ok r) :
    Sound r (fun u => eval ⟨perturb base logly seed u, seed, logly, ext⟩ e) := by
  have h0 := perturb_zero base logly seed
  exact adEval_sound (perturb base logly seed) seed logly ext (perturb_hasDerivAt base logly seed) e hS hM
    (by rw [h0]; exact hadm) r (by rw [h0]; exact h)

/-- **The walk differentiates along the seeds** (any seed function: system, flat steady, non-flat steady, stacked time):
the Atom returned for the equation is `(eval e, d/du eval e on the perturbed data at u = 0)`. -/
theorem adEval_sound_seeds (base : Nat → Int → ℝ) (seed : Nat → Int → ℝ) (logly : Nat → Bool) (ext : Fn1 → ℝ → ℝ)
    (e : Expr ℝ) (hS : UsesSqrt e → SqrtFormula) (hM : UsesMaximum e → MaxFloorFormula)
    (hadm : Admissible ⟨base, seed, logly, ext⟩ e) (v d : ℝ)
    (h : adEval ⟨base, seed, logly, ext⟩ e = .ok (.atom v d)) :
    v = eval ⟨base, seed, logly, ext⟩ e ∧
      HasDerivAt (fun u => eval ⟨perturb base logly seed u, seed, logly, ext⟩ e) d 0 := by
  have hs := adEval_sound_perturb base seed logly ext e hS hM hadm _ h
  exact ⟨by simpa only [perturb_zero] using hs.val.symm, hs.der⟩

/-- the appended `+ Atom.zero(shape)` changes neither value nor derivative: the equation's Atom is sound too -/
theorem adEquation_sound (base : Nat → Int → ℝ) (seed : Nat → Int → ℝ) (logly : Nat → Bool) (ext : Fn1 → ℝ → ℝ)
    (e : Expr ℝ) (hS : UsesSqrt e → SqrtFormula) (hM : UsesMaximum e → MaxFloorFormula)
    (hadm : Admissible ⟨base, seed, logly, ext⟩ e) (r : Val ℝ)
    (h : adEquation ⟨base, seed, logly, ext⟩ e = .ok r) :
    ∃ v d, r = .atom v d ∧ v = eval ⟨base, seed, logly, ext⟩ e ∧
      HasDerivAt (fun u => eval ⟨perturb base logly seed u, seed, logly, ext⟩ e) d 0 := by
  obtain ⟨x, hx, hr⟩ := Except.bind_eq_ok.1 h
  have hz : Sound (.atom ((0 : ℕ) : ℝ) ((0 : ℕ) : ℝ)) (fun _ : ℝ => (0 : ℝ)) :=
    ⟨by simp, by simpa using hasDerivAt_const (0 : ℝ) (0 : ℝ)⟩
  -- `.add` has no guard
  have hs := binop_sound hr (adEval_sound_perturb base seed logly ext e hS hM hadm x hx) hz (by cases x <;> trivial)
  cases r with
  | num v =>
    -- a number or an Atom plus the Atom `zero` is an Atom
    rw [binop_eq] at hr
    cases x <;> cases hr
  | atom v d =>
    have hv := hs.val
    have hd := hs.der
    simp only [evalBin, add_zero, perturb_zero] at hv hd
    exact ⟨v, d, rfl, hv.symm, hd⟩

/-! ### the seeds single out the right occurrence -/

theorem idxOf_eq_iff_getElem {α : Type} [BEq α] [LawfulBEq α] {l : List α} (hnd : l.Nodup) {j : Nat} (hj : j < l.length) (a : α) :
    l.idxOf a = j ↔ l[j] = a := by
  constructor
  · intro h
    subst h
    exact List.getElem_idxOf hj
  · intro h
    rw [← h]
    exact hnd.idxOf_getElem j hj

/-- system seed of direction `j`: exactly the token at position `j` of the (duplicate-free) wrt-list moves -/
theorem seedSystem_eq (wrt : List Token) (hnd : wrt.Nodup) (j : Nat) (hj : j < wrt.length) (q : Nat) (s : Int) :
    (seedSystem wrt j q s : ℝ) = if wrt[j] = (q, s) then 1 else 0 := by
  simp only [seedSystem, idxOf_eq_iff_getElem hnd hj, Nat.cast_one, Nat.cast_zero]

/-- flat steady seed: every shift of the `j`-th wrt-quantity moves together (`Σ_s ∂/∂x_{q,s}`) -/
theorem seedFlat_eq (wrtQ : List Nat) (hnd : wrtQ.Nodup) (j : Nat) (hj : j < wrtQ.length) (q : Nat) (s : Int) :
    (seedFlat wrtQ j q s : ℝ) = if wrtQ[j] = q then 1 else 0 := by
  simp only [seedFlat, idxOf_eq_iff_getElem hnd hj, Nat.cast_one, Nat.cast_zero]

/-- non-flat steady seed `(1, shift)`: in the level column every shift moves at rate 1, in the change column the token at
    shift `s` moves at rate `s` — the derivative of `level + s·change` (of its logarithm for a log-variable) -/
theorem seedNonflat_eq (wrtQ : List Nat) (hnd : wrtQ.Nodup) (j : Nat) (hj : j < wrtQ.length) (col : Nat) (q : Nat) (s : Int) :
    (seedNonflat wrtQ col j q s : ℝ) = if wrtQ[j] = q then (if col = 0 then 1 else (s : ℝ)) else 0 := by
  simp only [seedNonflat, idxOf_eq_iff_getElem hnd hj, Nat.cast_one, Nat.cast_zero]

/-! ### the two rules, as generated, are the correct formulas

Proved by unfolding the generated definitions: a change of `Atom.sqrt` or `Atom.maximum` in `differentiators.py` that
leaves the correct formula breaks the build of this file (the tie), and the oracle of the harness supplies the failing
input. -/

theorem sqrtFormula_holds : SqrtFormula := by
  intro sv sd h0
  refine ⟨rfl, ?_⟩
  have : Real.sqrt sv ≠ 0 := (Real.sqrt_pos.mpr h0).ne'
  simp only [Atom.sqrt_diff, adfun_sqrt, Nat.cast_one, Nat.cast_ofNat]
  field_simp

theorem maxFloorFormula_holds : MaxFloorFormula := by
  intro sv sd ov od hne
  simp only [Atom.maximum_aa_diff, adfun_ltb, adfun_eqb, decide_eq_true_eq]
  -- the generated multiplier of `sd` is `0` below the floor and `1` above it, and `od` has one minus it
  rcases lt_or_gt_of_ne hne with h | h
  · simp [h]
  · simp [h, not_lt_of_gt h]

theorem adEval_sound_unconditional (data : ℝ → Nat → Int → ℝ) (seed : Nat → Int → ℝ) (logly : Nat → Bool)
    (ext : Fn1 → ℝ → ℝ)
    (htok : ∀ q s, HasDerivAt (fun u => data u q s) (Atom.diffProp (seed q s) (data 0 q s) (logly q)) 0)
    (e : Expr ℝ) (hadm : Admissible ⟨data 0, seed, logly, ext⟩ e) (r : Val ℝ)
    (h : adEval ⟨data 0, seed, logly, ext⟩ e = .ok r) :
    Sound r (fun u => eval ⟨data u, seed, logly, ext⟩ e) :=
  adEval_sound data seed logly ext htok e (fun _ => sqrtFormula_holds) (fun _ => maxFloorFormula_holds) hadm r h

/-- `adEquation_sound` with no hypothesis on any rule: for every tree, log-status assignment, seed function and
    admissible point the equation's Atom is `(eval e, d/du eval e on the perturbed data at u = 0)` -/
theorem adEquation_sound_unconditional (base : Nat → Int → ℝ) (seed : Nat → Int → ℝ) (logly : Nat → Bool)
    (ext : Fn1 → ℝ → ℝ) (e : Expr ℝ) (hadm : Admissible ⟨base, seed, logly, ext⟩ e) (r : Val ℝ)
    (h : adEquation ⟨base, seed, logly, ext⟩ e = .ok r) :
    ∃ v d, r = .atom v d ∧ v = eval ⟨base, seed, logly, ext⟩ e ∧
      HasDerivAt (fun u => eval ⟨perturb base logly seed u, seed, logly, ext⟩ e) d 0 :=
  adEquation_sound base seed logly ext e (fun _ => sqrtFormula_holds) (fun _ => maxFloorFormula_holds) hadm r h

/-! ### … and being that formula is exactly what soundness of the two rules means -/

theorem sqrt_four : Real.sqrt 4 = 2 := by
  rw [show (4 : ℝ) = 2 ^ 2 by norm_num]
  exact Real.sqrt_sq (by norm_num)

theorem sqrt_sound_iff_formula :
    (∀ (f : ℝ → ℝ) (x sv sd : ℝ), Rep sv sd f x → 0 < sv →
        Rep (Atom.sqrt_value sv sd) (Atom.sqrt_diff sv sd) (fun y => Real.sqrt (f y)) x) ↔ SqrtFormula := by
  constructor
  · intro H sv sd h0
    have hr := rep_affine sv sd 0
    have h1 := H _ 0 sv sd hr h0
    exact ⟨by simpa using h1.val.symm, h1.der.unique (sqrt_hasDerivAt hr h0)⟩
  · intro H f x sv sd hf h0
    exact sqrt_sound_of_formula H hf h0

/-- the generated `sqrt` rule is the correct formula; a false one would be refuted at value 4, seed 1
    (where the true derivative is 1/4) -/
theorem sqrt_formula_or_refuted : SqrtFormula ∨ Atom.sqrt_diff (4 : ℝ) 1 ≠ 1 / (2 * Real.sqrt 4) :=
  .inl sqrtFormula_holds

theorem maximum_aa_sound_iff_formula :
    (∀ (f g : ℝ → ℝ) (x sv sd ov od : ℝ), Rep sv sd f x → Rep ov od g x → sv ≠ ov →
        Rep (Atom.maximum_aa_value sv sd ov od) (Atom.maximum_aa_diff sv sd ov od) (fun y => max (f y) (g y)) x)
      ↔ MaxFloorFormula := by
  constructor
  · intro H sv sd ov od hne
    have h1 := H _ _ 0 sv sd ov od (rep_affine sv sd 0) (rep_affine ov od 0) hne
    exact h1.der.unique (max_hasDerivAt (rep_affine sv sd 0) (rep_affine ov od 0) hne)
  · intro H f g x sv sd ov od hf hg hne
    exact maximum_aa_sound_of_formula H hf hg hne

/-- the generated rule is the correct formula; a false one would be refuted below the floor
    (`self = 0`, floor `= 1` with derivative `1`: the true derivative is `1`) -/
theorem maximum_aa_formula_or_refuted : MaxFloorFormula ∨ Atom.maximum_aa_diff (0 : ℝ) 0 1 1 ≠ 1 :=
  .inl maxFloorFormula_holds

/-! ### rejected, never differentiated to a wrong value -/

/-- a rejected sub-expression rejects the whole equation: errors propagate to the root -/
theorem rejection_propagates (c : Ctx ℝ) (op : BinOp) (a b : Expr ℝ) (err : Err)
    (h : adEval c a = .error err) : adEval c (.bin op a b) = .error err := by
  simp [adEval, h, bind, Except.bind]

/-- whenever the walk succeeds on a tree, the result at an admissible point is the true value and derivative: there is no
    third outcome "succeeds with a wrong value" (restating `adEval_sound_seeds` as the dichotomy of the property) -/
theorem differentiated_correctly_or_rejected (base : Nat → Int → ℝ) (seed : Nat → Int → ℝ) (logly : Nat → Bool)
    (ext : Fn1 → ℝ → ℝ) (e : Expr ℝ) (hS : UsesSqrt e → SqrtFormula) (hM : UsesMaximum e → MaxFloorFormula)
    (hadm : Admissible ⟨base, seed, logly, ext⟩ e) :
    (∃ err, adEquation ⟨base, seed, logly, ext⟩ e = .error err) ∨
    (∃ v d, adEquation ⟨base, seed, logly, ext⟩ e = .ok (.atom v d) ∧ v = eval ⟨base, seed, logly, ext⟩ e ∧
      HasDerivAt (fun u => eval ⟨perturb base logly seed u, seed, logly, ext⟩ e) d 0) := by
  cases h : adEquation ⟨base, seed, logly, ext⟩ e with
  | error err => exact Or.inl ⟨err, rfl⟩
  | ok r =>
    obtain ⟨v, d, rfl, hv, hd⟩ := adEquation_sound base seed logly ext e hS hM hadm r h
    exact Or.inr ⟨v, d, rfl, hv, hd⟩

/-- the dichotomy of the property with no hypothesis on any rule: rejected, or the true value and derivative -/
theorem differentiated_correctly_or_rejected_unconditional (base : Nat → Int → ℝ) (seed : Nat → Int → ℝ)
    (logly : Nat → Bool) (ext : Fn1 → ℝ → ℝ) (e : Expr ℝ) (hadm : Admissible ⟨base, seed, logly, ext⟩ e) :
    (∃ err, adEquation ⟨base, seed, logly, ext⟩ e = .error err) ∨
    (∃ v d, adEquation ⟨base, seed, logly, ext⟩ e = .ok (.atom v d) ∧ v = eval ⟨base, seed, logly, ext⟩ e ∧
      HasDerivAt (fun u => eval ⟨perturb base logly seed u, seed, logly, ext⟩ e) d 0) :=
  differentiated_correctly_or_rejected base seed logly ext e (fun _ => sqrtFormula_holds)
    (fun _ => maxFloorFormula_holds) hadm

/-! ### the dispatch is total over the generated tables: a proved rule, or no method at all

Each theorem splits into the operator/function and operand shapes and reads the row of the table of the section
"what one step of the walk computes"; in the `*_never_unmodelled` theorems `simp` does so, by `binop_eq`, `call1_eq`, `call2_eq`. -/

@[simp] theorem rpow_rejected (o v d : ℝ) : binop .pow (.num o) (.atom v d) = .error .typeError := binop_eq ..

/-- **rejects exactly what the code rejects** (binary operators): of the 5 × 4 operator shapes the only one with no `Atom` method —
    hence `TypeError` — is `number ** Atom` (no `__rpow__`); every other shape reaches a generated rule -/
theorem binop_rejected_iff (op : BinOp) (x y : Val ℝ) :
    binop op x y = .error .typeError ↔ (op = .pow ∧ (∃ o, x = .num o) ∧ ∃ v d, y = .atom v d) := by
  constructor
  · intro h
    rw [binop_eq] at h
    cases op <;> cases x <;> cases y <;> cases h
    exact ⟨rfl, ⟨_, rfl⟩, _, _, rfl⟩
  · rintro ⟨rfl, ⟨o, rfl⟩, v, d, rfl⟩
    exact rpow_rejected o v d

/-- no operator shape ends in "a method exists but the model has no proved rule": with `binop_sound`, **every shape either reaches a rule
    whose derivative is proved or has no method at all** (an alias such as `__rpow__ = __pow__` added to `Atom` changes the generated
    tables and breaks `no_rpow` and the last row of `binTable` in `binop_eq`) -/
theorem binop_never_unmodelled (op : BinOp) (x y : Val ℝ) : binop op x y ≠ .error .unmodelled := by
  cases op <;> cases x <;> cases y <;> simp

theorem unop_never_fails (b : Bool) (x : Val ℝ) : ∃ r, unop b x = .ok r := by
  cases x with
  | num a => exact ⟨_, unop_num b⟩
  | atom v d =>
    cases b
    · exact ⟨_, unop_pos_atom⟩
    · exact ⟨_, unop_neg_atom⟩

theorem unop_never_unmodelled (b : Bool) (x : Val ℝ) : unop b x ≠ .error .unmodelled := fun h => by
  obtain ⟨r, hr⟩ := unop_never_fails b x
  rw [hr] at h
  cases h

@[simp] theorem abs_rejected (ext : Fn1 → ℝ → ℝ) (v d : ℝ) : call1 ext .abs (.atom v d) = .error .typeError := call1_eq ..

@[simp] theorem normal_cdf_rejected (ext : Fn1 → ℝ → ℝ) (v d : ℝ) : call1 ext .normal_cdf (.atom v d) = .error .typeError :=
  call1_eq ..

@[simp] theorem normal_pdf_rejected (ext : Fn1 → ℝ → ℝ) (v d : ℝ) : call1 ext .normal_pdf (.atom v d) = .error .typeError :=
  call1_eq ..

/-- one-argument functions: rejected iff the argument is an Atom and the function is `abs`, `normal_cdf` or `normal_pdf` -/
theorem call1_rejected_iff (ext : Fn1 → ℝ → ℝ) (f : Fn1) (x : Val ℝ) :
    call1 ext f x = .error .typeError ↔ ((∃ v d, x = .atom v d) ∧ (f = .abs ∨ f = .normal_cdf ∨ f = .normal_pdf)) := by
  constructor
  · intro h
    rw [call1_eq] at h
    cases x <;> cases f <;> cases h
    · exact ⟨⟨_, _, rfl⟩, .inl rfl⟩
    · exact ⟨⟨_, _, rfl⟩, .inr (.inl rfl)⟩
    · exact ⟨⟨_, _, rfl⟩, .inr (.inr rfl)⟩
  · rintro ⟨⟨v, d, rfl⟩, rfl | rfl | rfl⟩
    · exact abs_rejected ext v d
    · exact normal_cdf_rejected ext v d
    · exact normal_pdf_rejected ext v d

theorem call1_never_unmodelled (ext : Fn1 → ℝ → ℝ) (f : Fn1) (x : Val ℝ) : call1 ext f x ≠ .error .unmodelled := by
  cases x <;> cases f <;> simp

@[simp] theorem minimum_rejected (v d : ℝ) (y : Val ℝ) : call2 .minimum (.atom v d) y = .error .typeError := by
  cases y <;> exact call2_eq ..

/-- the method spelt `mininum` is not a minimum (it returns `max(-self, -ceiling)`); `no_minimum` shows it is never reached -/
theorem mininum_is_not_minimum : Atom.mininum_value (1 : ℝ) 0 2 ≠ min 1 2 := by
  norm_num [Atom.mininum_value]

/-- the dispatch looks at the first argument only: `maximum(number, Atom)` and `minimum(number, Atom)` fall through to numpy -/
@[simp] theorem number_first_rejected (f : Fn2) (a v d : ℝ) : call2 f (.num a) (.atom v d) = .error .typeError := by
  cases f <;> exact call2_eq ..

/-- two-argument functions: rejected iff (number, Atom) — the dispatch looks at the first argument only — or `minimum` of an Atom -/
theorem call2_rejected_iff (f : Fn2) (x y : Val ℝ) :
    call2 f x y = .error .typeError ↔
      (((∃ a, x = .num a) ∧ ∃ v d, y = .atom v d) ∨ ((∃ v d, x = .atom v d) ∧ f = .minimum)) := by
  constructor
  · intro h
    rw [call2_eq] at h
    cases x <;> cases y <;> cases f <;> cases h
    · exact .inl ⟨⟨_, rfl⟩, _, _, rfl⟩
    · exact .inl ⟨⟨_, rfl⟩, _, _, rfl⟩
    · exact .inr ⟨⟨_, _, rfl⟩, rfl⟩
    · exact .inr ⟨⟨_, _, rfl⟩, rfl⟩
  · rintro (⟨⟨a, rfl⟩, v, d, rfl⟩ | ⟨⟨v, d, rfl⟩, rfl⟩)
    · exact number_first_rejected f a v d
    · exact minimum_rejected v d y

theorem call2_never_unmodelled (f : Fn2) (x y : Val ℝ) : call2 f x y ≠ .error .unmodelled := by
  cases x <;> cases y <;> cases f <;> simp

/-- there is no tree on which a method is reached that the model (and hence the soundness proof) does not cover -/
theorem adEval_never_unmodelled (c : Ctx ℝ) (e : Expr ℝ) : adEval c e ≠ .error .unmodelled := by
  induction e with
  | const k => exact nofun
  | tok q s => exact nofun
  | neg e ih => exact Except.bind_ne_error ih fun x => unop_never_unmodelled true x
  | pos e ih => exact Except.bind_ne_error ih fun x => unop_never_unmodelled false x
  | bin op a b iha ihb => exact Except.bind_ne_error iha fun x => Except.bind_ne_error ihb fun y => binop_never_unmodelled op x y
  | call1 f a iha => exact Except.bind_ne_error iha fun x => call1_never_unmodelled c.ext f x
  | call2 f a b iha ihb => exact Except.bind_ne_error iha fun x => Except.bind_ne_error ihb fun y => call2_never_unmodelled f x y

/-- **the rejection clause for whole trees**: the walk never fails for any other reason than a `TypeError` of some step -/
theorem adEval_error_is_typeError (c : Ctx ℝ) (e : Expr ℝ) (err : Err) (h : adEval c e = .error err) : err = .typeError := by
  cases err with
  | typeError => rfl
  | unmodelled => exact absurd h (adEval_never_unmodelled c e)

/-! ### placement: which cell of which matrix receives which row of the stacked AD output -/

/-- `create_eid_to_rhs_offset`: the offset of the `i`-th equation is the number of wrt-tokens of the equations before it -/
theorem offsetsFrom_getElem (ls : List Nat) (acc i : Nat) (hi : i < ls.length) :
    (offsetsFrom acc ls)[i]? = some (acc + (ls.take i).sum) := by
  induction ls generalizing acc i with
  | nil => cases hi
  | cons l ls ih =>
    cases i with
    | zero => rfl
    | succ i =>
      rw [offsetsFrom, List.getElem?_cons_succ, ih (acc + l) i (Nat.lt_of_succ_lt_succ hi), List.take_succ_cons, List.sum_cons,
        Nat.add_assoc]

theorem offsetsFrom_length (ls : List Nat) (acc : Nat) : (offsetsFrom acc ls).length = ls.length := by
  induction ls generalizing acc with
  | nil => rfl
  | cons l ls ih => simp [offsetsFrom, ih]

/-- every entry of one equation's raw map: it is in the equation's row, reads derivative row `r + k` of the stacked AD
    output where `k` is the position of a token of the wrt-list, and writes the column that carries exactly that token -/
theorem rawMapAux_mem (cols : List (Option Token)) (row r : Nat) (wrt : List Token) (en : Entry)
    (h : en ∈ rawMapAux cols row r wrt) :
    en.lhsRow = row ∧ en.rhsCol = 0 ∧ ∃ k, ∃ hk : k < wrt.length, en.rhsRow = r + k ∧ cols[en.lhsCol]? = some (some wrt[k]) := by
  obtain ⟨k, hk, hc, rfl⟩ := (mem_rawMapAux cols row r wrt en).mp h
  exact ⟨rfl, rfl, k, hk, rfl, List.getElem?_idxOf hc⟩

/-- no derivative is dropped: every wrt-token that has a column gets an entry -/
theorem rawMapAux_complete (cols : List (Option Token)) (row r : Nat) (wrt : List Token) (k : Nat) (hk : k < wrt.length)
    (hc : some wrt[k] ∈ cols) :
    ⟨row, cols.idxOf (some wrt[k]), r + k, 0⟩ ∈ rawMapAux cols row r wrt :=
  (mem_rawMapAux cols row r wrt _).mpr ⟨k, hk, hc, rfl⟩

/-- a `B` column carries the token one period before the vector's token of that column -/
theorem lagged_column (tv : List Token) (i : Nat) (hi : i < tv.length) (t : Token)
    (h : (laggedVector tv)[i]? = some (some t)) : shifted t 1 = tv[i] ∧ t ∉ tv := by
  rw [laggedVector, List.getElem?_map, List.getElem?_eq_getElem hi, Option.map_some, Option.some.injEq] at h
  split at h
  · cases h
  · rename_i hn
    obtain rfl := Option.some.inj h
    -- `shifted (shifted tv[i] (-1)) 1 = tv[i]`
    exact ⟨Prod.ext rfl (Int.neg_add_cancel_right ..), by simpa using hn⟩

/-- the lagged-vector rule of `SystemMap`: a token of the transition vector never has a column in `B` — so an occurrence
    is placed in `A` (when it is in the vector) or in `B` (when only its one-period lead is), never in both -/
theorem lagged_excludes_vector (tv : List Token) (t : Token) (ht : t ∈ tv) : some t ∉ laggedVector tv := by
  intro h
  obtain ⟨i, hi⟩ := List.mem_iff_getElem?.mp h
  have hlt : i < tv.length := by simpa [laggedVector] using (List.getElem?_eq_some_iff.mp hi).1
  exact (lagged_column tv i hlt t hi).2 ht

/-! ### every map is characterised entry by entry, writes every cell at most once, and the
transition vector / dynamic identities / stacked-time rows are what the property says -/

/-- `ArrayMap.static`, entry by entry: the row is the position `i` of the equation, the column carries exactly the token `wrt_i[k]`,
    and the value read is row `offset_i + k` (column 0) of the stacked AD output -/
theorem staticMap_mem (cols : List (Option Token)) (eqs : List (List Token × Nat)) (en : Entry) :
    en ∈ staticMap cols eqs ↔
      ∃ i, ∃ hi : i < eqs.length, ∃ k, ∃ hk : k < eqs[i].1.length, some eqs[i].1[k] ∈ cols ∧
        en = ⟨i, cols.idxOf (some eqs[i].1[k]), eqs[i].2 + k, 0⟩ := by
  simp only [staticMap, mem_staticMapAux, mem_rawMapAux, Nat.zero_add]

/-- every wrt-token of every equation that has a column gets its entry (nothing is dropped) -/
theorem staticMap_complete (cols : List (Option Token)) (eqs : List (List Token × Nat)) (i : Nat) (hi : i < eqs.length)
    (k : Nat) (hk : k < eqs[i].1.length) (hc : some eqs[i].1[k] ∈ cols) :
    ⟨i, cols.idxOf (some eqs[i].1[k]), eqs[i].2 + k, 0⟩ ∈ staticMap cols eqs :=
  (staticMap_mem cols eqs _).mpr ⟨i, hi, k, hk, hc, rfl⟩

/-- **no two map entries address the same Jacobian cell** (wrt-lists without duplicates): the scatter `J[lhs] = diff[rhs]`
    never overwrites a derivative with another one -/
theorem staticMap_cell_inj (cols : List (Option Token)) (eqs : List (List Token × Nat)) (hnd : ∀ p ∈ eqs, p.1.Nodup)
    (en en' : Entry) (h : en ∈ staticMap cols eqs) (h' : en' ∈ staticMap cols eqs) (hc : en.cell = en'.cell) :
    en = en' := by
  obtain ⟨i, hi, k, hk, hm, rfl⟩ := (staticMap_mem cols eqs en).mp h
  obtain ⟨i', hi', k', hk', hm', rfl⟩ := (staticMap_mem cols eqs en').mp h'
  obtain ⟨rfl, hcol⟩ := Prod.mk.inj hc
  obtain rfl : k = k' :=
    (List.Nodup.getElem_inj_iff (hnd eqs[i] (List.getElem_mem hi))).mp (Option.some.inj ((List.idxOf_inj hm).mp hcol))
  rfl

theorem tokensForQid_mem (q : Nat) (mn mx : Int) (t : Token) :
    t ∈ tokensForQid q mn mx ↔ t.1 = q ∧ (if mn < -1 then mn else -1) < t.2 ∧ t.2 ≤ mx := by
  rw [tokensForQid, shiftRange_mem]
  generalize (if mn < -1 then mn else -1) = lo
  omega

/-- `_create_system_transition_vector` + `sort_tokens`: the vector holds exactly the runs of the quantities -/
theorem transitionVector_mem (ranges : List (Nat × Int × Int)) (t : Token) :
    t ∈ transitionVector ranges ↔ ∃ r ∈ ranges, t ∈ tokensForQid r.1 r.2.1 r.2.2 := by
  simp only [transitionVector, sortTokens_eq, List.mem_insertionSort, List.mem_flatMap]

/-- the vector is sorted by `sort_tokens`' key `(-shift, qid)`: leads first, then current dates, then lags; by quantity id within a date -/
theorem transitionVector_sorted (ranges : List (Nat × Int × Int)) :
    (transitionVector ranges).Pairwise (fun a b => b.2 < a.2 ∨ (a.2 = b.2 ∧ a.1 ≤ b.1)) := by
  rw [transitionVector, sortTokens_eq]
  exact (List.pairwise_insertionSort TokenLe _).imp (tokenLe_iff _ _).mp

theorem transitionVector_nodup (ranges : List (Nat × Int × Int)) (hq : (ranges.map (·.1)).Nodup) :
    (transitionVector ranges).Nodup := by
  simp only [transitionVector, sortTokens_eq]
  rw [(List.perm_insertionSort TokenLe _).nodup_iff, List.nodup_flatMap]
  refine ⟨fun r _ => shiftRange_nodup .., (List.pairwise_map.mp hq).imp fun {r r'} hne => ?_⟩
  exact List.disjoint_left.mpr fun a ha hb => hne (((tokensForQid_mem ..).mp ha).1.symm.trans ((tokensForQid_mem ..).mp hb).1)

/-- with one range per quantity **every shift `min+1 … max` of every transition variable is covered exactly once** -/
theorem transitionVector_covers_exactly_once (ranges : List (Nat × Int × Int)) (hq : (ranges.map (·.1)).Nodup)
    (r : Nat × Int × Int) (hr : r ∈ ranges) (s : Int) (h1 : (if r.2.1 < -1 then r.2.1 else -1) < s) (h2 : s ≤ r.2.2) :
    (transitionVector ranges).count (r.1, s) = 1 := by
  apply List.count_eq_one_of_mem (transitionVector_nodup ranges hq)
  rw [transitionVector_mem]
  exact ⟨r, hr, (tokensForQid_mem r.1 r.2.1 r.2.2 (r.1, s)).mpr ⟨rfl, h1, h2⟩⟩

/-- `_adjust_for_measurement_equations`: an occurrence `(q, s)` of a transition variable in a measurement equation makes the code pretend
    that `(q, s-1)` is needed; then — whatever the other occurrences are, as long as the quantity's minimum shift accounts for the pretended
    token (`minShift ≤ s - 1`) and its maximum for the occurrence — the occurrence itself is in the transition vector, so it has a column
    in `G` at ANY lag (`staticMap_complete` then gives it a map entry) -/
theorem measurement_occurrence_covered (q : Nat) (s minShift maxShift : Int) (hmin : minShift ≤ s - 1) (hmax : s ≤ maxShift) :
    (q, s) ∈ tokensForQid q minShift maxShift :=
  (tokensForQid_mem q minShift maxShift (q, s)).mpr ⟨rfl, by split <;> omega, hmax⟩

/-- … and with a weaker rule that pretends only `min(s, -1)` (one lag) the occurrence can fall out of the vector:
    `x{-1}` read by a measurement equation while the transition block uses `x{-1}` at most -/
theorem one_lag_is_not_enough : ((0 : Nat), (-1 : Int)) ∉ tokensForQid 0 (-1) 0 := by
  decide

/-- `_create_dynid_matrices`, every row `(row, i, j)` (`A[row, i] = 1`, `B[row, j] = -1`): column `j` carries the token of column `i`
    one period later, i.e. the row says `ξ_t[(q, s)] = ξ_{t-1}[(q, s+1)]` -/
theorem dynid_mem (tv : List Token) (e : Nat × Nat × Nat) (h : e ∈ dynid tv) :
    ∃ hi : e.2.1 < tv.length, tv[e.2.2]? = some (shifted tv[e.2.1] 1) := by
  obtain ⟨i, hi, hc, he⟩ := (mem_dynid_snd tv e.2).mp (List.mem_map_of_mem h)
  rw [he]
  exact ⟨hi, List.getElem?_idxOf hc⟩

/-- every vector token whose one-period lead is also in the vector gets an identity row (tokens with the largest shift get none) -/
theorem dynid_complete (tv : List Token) (i : Nat) (hi : i < tv.length) (hc : shifted tv[i] 1 ∈ tv) :
    ∃ r, (r, i, tv.idxOf (shifted tv[i] 1)) ∈ dynid tv := by
  have h : (i, tv.idxOf (shifted tv[i] 1)) ∈ (dynid tv).map (·.2) := (mem_dynid_snd tv _).mpr ⟨i, hi, hc, rfl⟩
  obtain ⟨⟨r, _⟩, hr, rfl⟩ := List.mem_map.mp h
  exact ⟨r, hr⟩

/-- the identity rows are numbered `0, 1, 2, …` without gaps (they are stacked below the equations' rows) -/
theorem dynid_rows (tv : List Token) : (dynid tv).map (·.1) = List.range (dynid tv).length := by
  rw [List.range_eq_range']
  exact dynidAux_rows tv 0 0 tv

/-- stacked-time map, entry by entry: for equation `i`, its `p`-th wrt-token and the `j`-th evaluated period, the entry sits in
    row `i + n·j` (`n` equations), in the column of the spot `(qid, shift + column_j)`, and reads row `offset_i + p`, column `j`
    of the stacked AD output -/
theorem stackedMap_mem (spots : List Token) (cols : List Int) (eqs : List (List Token)) (en : Entry) :
    en ∈ stackedMap spots cols eqs ↔
      ∃ i, ∃ hi : i < eqs.length, ∃ p, ∃ hp : p < eqs[i].length, ∃ j, ∃ hj : j < cols.length,
        shifted eqs[i][p] cols[j] ∈ spots ∧
        en = ⟨i + eqs.length * j, spots.idxOf (shifted eqs[i][p] cols[j]), ((eqs.take i).map List.length).sum + p, j⟩ := by
  simp only [stackedMap, mem_stackedAux, mem_stackedForEq, mem_stackedForToken, Nat.zero_add]

/-- every (equation, wrt-token, period) whose shifted token is a wrt-spot gets its entry -/
theorem stackedMap_complete (spots : List Token) (cols : List Int) (eqs : List (List Token)) (i : Nat) (hi : i < eqs.length)
    (p : Nat) (hp : p < eqs[i].length) (j : Nat) (hj : j < cols.length) (hc : shifted eqs[i][p] cols[j] ∈ spots) :
    ⟨i + eqs.length * j, spots.idxOf (shifted eqs[i][p] cols[j]), ((eqs.take i).map List.length).sum + p, j⟩
      ∈ stackedMap spots cols eqs :=
  (stackedMap_mem spots cols eqs _).mpr ⟨i, hi, p, hp, j, hj, hc, rfl⟩

/-- `lhs_row = eqn + n·column` is injective on (equation, period) … -/
theorem stacked_row_inj (n i j i' j' : Nat) (hi : i < n) (hi' : i' < n) (h : i + n * j = i' + n * j') : i = i' ∧ j = j' := by
  have hn : 0 < n := Nat.zero_lt_of_lt hi
  -- quotient and remainder of the row by `n` are the period and the equation
  have h1 := (Nat.div_mod_unique (a := i + n * j) (d := j) hn).mpr ⟨rfl, hi⟩
  have h2 := (Nat.div_mod_unique (a := i + n * j) (d := j') hn).mpr ⟨h.symm, hi'⟩
  exact ⟨h1.2.symm.trans h2.2, h1.1.symm.trans h2.1⟩

/-- … and onto the rows `0 … n·T - 1`: a bijection between (equation, period) and the rows of the stacked system -/
theorem stacked_row_surj (n T r : Nat) (hr : r < n * T) : ∃ i j, i < n ∧ j < T ∧ r = i + n * j := by
  have hn : 0 < n := Nat.pos_of_mul_pos_right (Nat.zero_lt_of_lt hr)
  refine ⟨r % n, r / n, Nat.mod_lt _ hn, ?_, (Nat.mod_add_div r n).symm⟩
  exact Nat.div_lt_of_lt_mul hr

/-- **no two entries of the stacked-time map address the same cell** (wrt-lists without duplicates) -/
theorem stackedMap_cell_inj (spots : List Token) (cols : List Int) (eqs : List (List Token)) (hnd : ∀ w ∈ eqs, w.Nodup)
    (en en' : Entry) (h : en ∈ stackedMap spots cols eqs) (h' : en' ∈ stackedMap spots cols eqs) (hc : en.cell = en'.cell) :
    en = en' := by
  obtain ⟨i, hi, p, hp, j, hj, hm, rfl⟩ := (stackedMap_mem spots cols eqs en).mp h
  obtain ⟨i', hi', p', hp', j', hj', hm', rfl⟩ := (stackedMap_mem spots cols eqs en').mp h'
  obtain ⟨hrow, hcol⟩ := Prod.mk.inj hc
  obtain ⟨rfl, rfl⟩ := stacked_row_inj eqs.length i j i' j' hi hi' hrow
  have ht : shifted eqs[i][p] cols[j] = shifted eqs[i][p'] cols[j] := (List.idxOf_inj hm).mp hcol
  -- `shifted · c` is injective
  have ht' : eqs[i][p] = eqs[i][p'] := Prod.ext (congrArg Prod.fst ht :) (add_right_cancel (congrArg Prod.snd ht :))
  obtain rfl : p = p' := (List.Nodup.getElem_inj_iff (hnd eqs[i] (List.getElem_mem hi))).mp ht'
  rfl

/-! ### assembly: what each cell of the scattered matrix holds -/

theorem scatterAssign_of_mem {α : Type} {entries : List Entry} (hinj : ∀ a b, a ∈ entries → b ∈ entries → a.cell = b.cell → a = b)
    (td : Nat → Nat → α) (z : α) {en : Entry} (hen : en ∈ entries) :
    scatterAssign entries td z en.lhsRow en.lhsCol = td en.rhsRow en.rhsCol := by
  rw [scatterAssign_eq_ite td _ _ (td en.rhsRow en.rhsCol), if_pos ⟨en, hen, rfl, rfl⟩]
  intro b hb hcell
  rw [hinj b en hb hen (Prod.ext hcell.1 hcell.2)]

/-- the cell of the `k`-th wrt-token of equation `i` receives exactly that token's row of the stacked AD output -/
theorem assembled_entry {α : Type} (cols : List (Option Token)) (t : List (List Token × Nat)) (hnd : ∀ p ∈ t, p.1.Nodup)
    (td : Nat → Nat → α) (z : α) (i : Nat) (hi : i < t.length) (k : Nat) (hk : k < t[i].1.length) (hc : some t[i].1[k] ∈ cols) :
    scatterAssign (staticMap cols t) td z i (cols.idxOf (some t[i].1[k])) = td (t[i].2 + k) 0 :=
  scatterAssign_of_mem (staticMap_cell_inj cols t hnd) td z (staticMap_complete cols t i hi k hk hc)

/-- **the set of cells a map can ever fill is structural**: whatever the evaluation point (whatever `td`), a cell whose assembled value
    differs from the initial one is addressed by an entry of the map — the pattern depends on the incidence, not on the values; a value that
    happens to be exactly 0 at one point does not remove the cell -/
theorem scatter_changed_addressed {α : Type} (entries : List Entry) (td : Nat → Nat → α) (z : α) (r c : Nat)
    (h : scatterAssign entries td z r c ≠ z) : ∃ en ∈ entries, en.lhsRow = r ∧ en.lhsCol = c := by
  by_contra hno
  refine h ?_
  rw [scatterAssign_eq_ite td r c z _ _ fun en hen hcell => absurd ⟨en, hen, hcell⟩ hno, if_neg hno]

/-- every other cell keeps the initial zero: a column that carries no token, or a token that is not in the equation's wrt-list -/
theorem assembled_zero {α : Type} (cols : List (Option Token)) (t : List (List Token × Nat)) (td : Nat → Nat → α) (z : α)
    (i c : Nat) (hi : i < t.length) (hc : ∀ τ, cols[c]? = some (some τ) → τ ∉ t[i].1) :
    scatterAssign (staticMap cols t) td z i c = z := by
  by_contra h
  obtain ⟨en, hen, rfl, rfl⟩ := scatter_changed_addressed _ td z i c h
  obtain ⟨i', hi', k, hk, hm, rfl⟩ := (staticMap_mem cols t en).mp hen
  exact hc t[i'].1[k] (List.getElem?_idxOf hm) (List.getElem_mem hk)

/-- triplet assembly (entries of one cell add up) is dense assignment for every entry list that lists no entry twice and
    addresses no cell by two different entries: the entries of a cell are then at most one -/
theorem scatterSum_eq_scatterAssign_of_cell_inj (entries : List Entry) (hnd : entries.Nodup)
    (hinj : ∀ a b, a ∈ entries → b ∈ entries → a.cell = b.cell → a = b) (td : Nat → Nat → ℝ) (r c : Nat) :
    scatterSum entries td 0 r c = scatterAssign entries td 0 r c := by
  rw [scatterSum_eq_add_sum, zero_add,
    scatterAssign_eq_ite td r c ((entries.filter fun en => decide (en.lhsRow = r ∧ en.lhsCol = c)).map fun en => td en.rhsRow en.rhsCol).sum]
  · split
    · rfl
    · rename_i hno
      rw [List.filter_eq_nil_iff.mpr fun en hen hcell => hno ⟨en, hen, of_decide_eq_true hcell⟩]
      rfl
  · intro en hen hcell
    have hmem : en ∈ entries.filter fun en => decide (en.lhsRow = r ∧ en.lhsCol = c) :=
      List.mem_filter.mpr ⟨hen, decide_eq_true hcell⟩
    rw [List.sum_map_eq_nsmul_single en, List.count_eq_one_of_mem (hnd.filter _) hmem, one_nsmul]
    intro b hb hbL
    obtain ⟨hb1, hb2⟩ := List.mem_filter.mp hbL
    obtain ⟨hbr, hbc⟩ := of_decide_eq_true hb2
    exact absurd (hinj b en hb1 hen (Prod.ext (hbr.trans hcell.1.symm) (hbc.trans hcell.2.symm))) hb

/-- **sparse (triplet) assembly = dense assembly** for the static maps: entries of one cell would add up, but no cell is addressed twice -/
theorem scatterSum_eq_scatterAssign (cols : List (Option Token)) (t : List (List Token × Nat)) (hnd : ∀ p ∈ t, p.1.Nodup)
    (td : Nat → Nat → ℝ) (r c : Nat) :
    scatterSum (staticMap cols t) td 0 r c = scatterAssign (staticMap cols t) td 0 r c :=
  scatterSum_eq_scatterAssign_of_cell_inj _ (staticMapAux_nodup cols 0 t) (staticMap_cell_inj cols t hnd) td r c

/-! ### end to end: the assembled entry is the partial derivative -/

/-- for a duplicate-free `wrt` the perturbation `perturb … (seedSystem wrt j)` moves the token `wrt[j]` alone (`seedSystem_eq`; its
    logarithm for a log-variable), so this is the partial derivative with respect to `wrt[j]` of the statements below -/
theorem adDiff_sound {base : Nat → Int → ℝ} {logly : Nat → Bool} {ext : Fn1 → ℝ → ℝ} {e : Expr ℝ} {wrt : List Token} {j : Nat}
    {d : ℝ} (h : adDiff base logly ext e wrt j = some d) (hadm : Admissible ⟨base, seedSystem wrt j, logly, ext⟩ e) :
    HasDerivAt (fun u => eval ⟨perturb base logly (seedSystem wrt j) u, seedSystem wrt j, logly, ext⟩ e) d 0 := by
  unfold adDiff at h
  split at h
  · rename_i hr
    obtain ⟨_, _, ⟨⟩, -, hd⟩ := adEquation_sound_unconditional base _ logly ext e hadm _ hr
    exact Option.some.inj h ▸ hd
  · cases h

/-- **End to end** (`systemize()` A, D, F, G, J — and B with the lagged columns): when `td` is the stacked output of the walk
    (`adDiff`, system seeds), the assembled matrix entry in the row of equation `i` and the column of its wrt-token `τ = wrt_i[k]` is the
    partial derivative of the equation's residual with respect to `τ` (with respect to `log τ` for a log-variable) at the evaluation point —
    hypotheses on inputs only: duplicate-free wrt-lists, an admissible point -/
theorem systemize_entry_sound (base : Nat → Int → ℝ) (logly : Nat → Bool) (ext : Fn1 → ℝ → ℝ)
    (cols : List (Option Token)) (t : List (List Token × Nat)) (es : Nat → Expr ℝ) (td : Nat → Nat → ℝ)
    (hnd : ∀ p ∈ t, p.1.Nodup)
    (htd : ∀ i (hi : i < t.length) k, k < t[i].1.length → adDiff base logly ext (es i) t[i].1 k = some (td (t[i].2 + k) 0))
    (i : Nat) (hi : i < t.length) (k : Nat) (hk : k < t[i].1.length) (hc : some t[i].1[k] ∈ cols)
    (hadm : Admissible ⟨base, seedSystem t[i].1 k, logly, ext⟩ (es i)) :
    HasDerivAt (fun u => eval ⟨perturb base logly (seedSystem t[i].1 k) u, seedSystem t[i].1 k, logly, ext⟩ (es i))
      (scatterAssign (staticMap cols t) td 0 i (cols.idxOf (some t[i].1[k]))) 0 := by
  rw [assembled_entry cols t hnd td 0 i hi k hk hc]
  exact adDiff_sound (htd i hi k hk) hadm

/-- the stacked AD output is indexed by `offset_i + k` with the offsets of `create_eid_to_rhs_offset`: row `Σ_{j<i} |wrt_j| + k` of
    `adColumn` is the walk's derivative of equation `i` in direction `k` -/
theorem adColumn_getElem (base : Nat → Int → ℝ) (logly : Nat → Bool) (ext : Fn1 → ℝ → ℝ) (eqs : List (Expr ℝ × List Token))
    (i : Nat) (hi : i < eqs.length) (k : Nat) (hk : k < eqs[i].2.length) :
    (adColumn base logly ext eqs)[((eqs.take i).map (fun p => p.2.length)).sum + k]?
      = some (adDiff base logly ext eqs[i].1 eqs[i].2 k) := by
  unfold adColumn
  have h := flatMap_getElem_offset
    (fun p : Expr ℝ × List Token => (List.range p.2.length).map (fun j => adDiff base logly ext p.1 p.2 j)) eqs i hi k (by simpa using hk)
  simp only [List.length_map, List.length_range] at h
  rw [h]
  simp [hk]

/-- `adColumn_getElem` read with `getD`, as `systemAB` reads the column -/
theorem adColumn_getD {base : Nat → Int → ℝ} {logly : Nat → Bool} {ext : Fn1 → ℝ → ℝ} {eqs : List (Expr ℝ × List Token)}
    {col : List ℝ} (hcol : (adColumn base logly ext eqs).mapM id = some col) (i : Nat) (hi : i < eqs.length) (k : Nat)
    (hk : k < eqs[i].2.length) :
    adDiff base logly ext eqs[i].1 eqs[i].2 k = some (col.getD (((eqs.take i).map (fun p => p.2.length)).sum + k) 0) := by
  have h := adColumn_getElem base logly ext eqs i hi k hk
  rw [(List.map_id _).symm.trans (mapM_eq_some_iff.1 hcol), List.getElem?_map] at h
  obtain ⟨d, hget, hd⟩ := Option.map_eq_some_iff.1 h
  rw [List.getD_eq_getElem?_getD, hget, ← hd, Option.getD_some]

theorem rhsOffsets_eq_some {lens offs : List Nat} (h : rhsOffsets lens = some offs) : offs = offsetsFrom 0 lens := by
  unfold rhsOffsets at h
  split at h
  · cases h
  · exact (Option.some.inj h).symm

/-- the entry of any matrix that `systemAB` scatters from the stacked AD column, whatever the list of column tokens (`tv.map some` for
    `A`, `laggedVector tv` for `B`): in the row of equation `i` and the column of its wrt-token `τ = wrt_i[k]` stands the partial derivative
    of the equation's residual with respect to `τ` (its logarithm for a log-variable) -/
theorem systemAB_entry_sound (base : Nat → Int → ℝ) (logly : Nat → Bool) (ext : Fn1 → ℝ → ℝ)
    (eqs : List (Expr ℝ × List Token)) (cols : List (Option Token)) (col : List ℝ) (offs : List Nat)
    (hcol : (adColumn base logly ext eqs).mapM id = some col) (hoffs : rhsOffsets (eqs.map (fun p => p.2.length)) = some offs)
    (hnd : ∀ p ∈ eqs, p.2.Nodup)
    (i : Nat) (hi : i < eqs.length) (k : Nat) (hk : k < eqs[i].2.length) (hc : some eqs[i].2[k] ∈ cols)
    (hadm : Admissible ⟨base, seedSystem eqs[i].2 k, logly, ext⟩ eqs[i].1) :
    HasDerivAt (fun u => eval ⟨perturb base logly (seedSystem eqs[i].2 k) u, seedSystem eqs[i].2 k, logly, ext⟩ eqs[i].1)
      (scatterAssign (staticMap cols ((eqs.map (·.2)).zip offs)) (fun r _ => col.getD r 0) 0 i (cols.idxOf (some eqs[i].2[k]))) 0 := by
  obtain rfl := rhsOffsets_eq_some hoffs
  -- row `i` of the zipped list is equation `i`'s wrt-list with its offset
  have hti : ((eqs.map (·.2)).zip (offsetsFrom 0 (eqs.map fun p => p.2.length)))[i]? =
      some (eqs[i].2, ((eqs.take i).map fun p => p.2.length).sum) :=
    List.getElem?_zip_eq_some.2 ⟨by rw [List.getElem?_map, List.getElem?_eq_getElem hi, Option.map_some],
      by rw [offsetsFrom_getElem _ 0 i (by rwa [List.length_map]), Nat.zero_add, List.map_take]⟩
  obtain ⟨hi', hti⟩ := List.getElem?_eq_some_iff.1 hti
  -- applied up to row `i` only: the bound of `k` mentions row `i` of the zipped list, which `hti` has to rewrite first
  have hent := assembled_entry cols _
    (fun p hp => by
      obtain ⟨q, hq, hqp⟩ := List.mem_map.mp (List.of_mem_zip hp).1
      exact hqp ▸ hnd q hq)
    (fun r _ => col.getD r 0) 0 i hi'
  rw [hti] at hent
  rw [hent k hk hc]
  exact adDiff_sound (adColumn_getD hcol i hi k hk) hadm

/-- **ONE end-to-end statement for the model's own `systemAB`** (rules → walk → seeds → stacked output → offsets → static map →
    assembly), hypotheses on the inputs only: duplicate-free wrt-lists and an admissible point. If the system is assembled at all (no equation
    rejected), then for every transition equation `i` and every wrt-token `τ = wrt_i[k]` that is in the transition vector, the entry of `A` in
    row `i` and in the column of `τ` is the partial derivative of equation `i`'s residual with respect to `τ` (its logarithm for a log-variable) -/
theorem systemAB_A_entry_sound (base : Nat → Int → ℝ) (logly : Nat → Bool) (ext : Fn1 → ℝ → ℝ)
    (eqs : List (Expr ℝ × List Token)) (tv : List Token) (A B : Nat → Nat → ℝ)
    (h : systemAB base logly ext eqs tv 0 = some (A, B)) (hnd : ∀ p ∈ eqs, p.2.Nodup)
    (i : Nat) (hi : i < eqs.length) (k : Nat) (hk : k < eqs[i].2.length) (hc : eqs[i].2[k] ∈ tv)
    (hadm : Admissible ⟨base, seedSystem eqs[i].2 k, logly, ext⟩ eqs[i].1) :
    HasDerivAt (fun u => eval ⟨perturb base logly (seedSystem eqs[i].2 k) u, seedSystem eqs[i].2 k, logly, ext⟩ eqs[i].1)
      (A i ((tv.map some).idxOf (some eqs[i].2[k]))) 0 := by
  simp only [systemAB, Option.bind_eq_bind, Option.bind_eq_some_iff, Option.pure_def, Option.some.injEq, Prod.mk.injEq] at h
  obtain ⟨col, hcol, offs, hoffs, rfl, -⟩ := h
  exact systemAB_entry_sound base logly ext eqs _ col offs hcol hoffs hnd i hi k hk (List.mem_map_of_mem hc) hadm

/-! ### the terminal condition: spots, row selection, cached rows and the chain rule -/

/-- `Terminator.__init__`: the running index stored with the terminal spot `(qid_p, terminal column_k)` is `k·nq + p`
    (column-major), and only spots within the quantity's longest lead are kept -/
theorem terminalSpots_mem (termCols : List Int) (qids : List Nat) (maxShift : Nat → Int) (last : Int) (e : Nat × Token)
    (h : e ∈ terminalSpots termCols qids maxShift last) :
    ∃ k, ∃ hk : k < termCols.length, ∃ p, ∃ hp : p < qids.length,
      termCols[k] ≤ last + maxShift qids[p] ∧ e = (k * qids.length + p, (qids[p], termCols[k])) := by
  obtain ⟨k, hk, p, hp, h1, h2⟩ := (mem_termSpotsAux qids _ 0 termCols e).mp h
  exact ⟨k, hk, p, hp, by simpa using h1, by simpa using h2⟩

/-- **`terminate_jacobian`'s row selection**: `_curr_TT` stacks, for each terminal column `k`, the current-dated rows of `T^(k+1)`
    (blocks of `nq` rows); indexing it with the stored running index of a terminal spot picks row `p` of block `k` — the row of the
    quantity of that spot in the power of `T` that belongs to that terminal column -/
theorem terminal_row_selection {ρ : Type} (termCols : List Int) (qids : List Nat) (maxShift : Nat → Int) (last : Int)
    (blocks : List (List ρ)) (hb : ∀ b ∈ blocks, b.length = qids.length) (hlen : blocks.length = termCols.length)
    (e : Nat × Token) (h : e ∈ terminalSpots termCols qids maxShift last) :
    ∃ k, ∃ hk : k < blocks.length, ∃ p, ∃ hp : p < qids.length,
      e.2 = (qids[p], termCols[k]'(hlen ▸ hk)) ∧ blocks.flatten[e.1]? = blocks[k][p]? := by
  obtain ⟨k, hk, p, hp, _, rfl⟩ := terminalSpots_mem termCols qids maxShift last e h
  exact ⟨k, hlen ▸ hk, p, hp, rfl, flatten_getElem_uniform blocks qids.length hb k p (hlen ▸ hk) hp⟩

/-- `create_terminal_jacobian_map`: a pair `(l, r)` sends column `r` of the chain-rule term to the Jacobian column `l` whose wrt-spot
    is exactly the `r`-th entry of the terminal-initial vector -/
theorem terminalJacMap_mem (wrtSpots terminit : List Token) (e : Nat × Nat) (h : e ∈ terminalJacMap wrtSpots terminit) :
    ∃ hr : e.2 < terminit.length, wrtSpots[e.1]? = some terminit[e.2] := by
  obtain ⟨k, hk, hm, rfl⟩ := (mem_terminalJacMapAux wrtSpots 0 terminit e).mp h
  exact ⟨by simpa using hk, by simpa using List.getElem?_idxOf hm⟩

/-- `terminate_jacobian`'s cached rows, read off the stored pattern: a row is cached iff SOME wrt-token of the equation, shifted to SOME
    evaluated period, is a terminal spot — a statement about tokens only; together with `scatter_changed_addressed`: every row that can
    receive a non-zero terminal derivative at ANY later evaluation point is in the cache built at the FIRST one -/
theorem terminalRows_mem (allSpots : List Token) (nreg : Nat) (cols : List Int) (eqs : List (List Token)) (r : Nat) :
    r ∈ terminalRows allSpots nreg cols eqs ↔
      ∃ en ∈ stackedMap allSpots cols eqs, nreg ≤ en.lhsCol ∧ en.lhsRow = r := by
  unfold terminalRows
  rw [mem_foldr_insert (ins := insertNat) (fun _ => rfl) (fun _ _ _ => rfl)]
  simp only [List.mem_map, List.mem_filter, decide_eq_true_eq, and_assoc]

/-- **`terminate_jacobian`**: when the periods after the last simulated one are a linear function `Φ` of the simulated unknowns
    (`x_{T+k} = T^k x_T`, the rows of `[T; T²; …]` picked by `terminal_row_selection`), the Jacobian of the stacked residuals
    `x ↦ G(x, Φ x)` is the plain Jacobian (derivative in the simulated unknowns) plus the terminal block (derivative in the terminal
    spots) composed with `Φ` — `regular + terminal @ curr_TT`, the chain rule over `terminalJacMap` -/
theorem terminal_chain_rule {E Z R : Type*} [NormedAddCommGroup E] [NormedSpace ℝ E] [NormedAddCommGroup Z] [NormedSpace ℝ Z]
    [NormedAddCommGroup R] [NormedSpace ℝ R] (G : E × Z → R) (G' : E × Z →L[ℝ] R) (Φ : E →L[ℝ] Z) (x : E)
    (hG : HasFDerivAt G G' (x, Φ x)) :
    HasFDerivAt (fun y => G (y, Φ y))
      (G'.comp (ContinuousLinearMap.inl ℝ E Z) + (G'.comp (ContinuousLinearMap.inr ℝ E Z)).comp Φ) x := by
  have h := hG.comp x ((hasFDerivAt_id x).prodMk Φ.hasFDerivAt)
  refine h.congr_fderiv (ContinuousLinearMap.ext fun v => ?_)
  -- `G' (v, Φ v) = G' (v, 0) + G' (0, Φ v)`
  exact (congrArg G' (by simp)).trans (map_add G' (v, 0) (0, Φ v))

/-! ### the loop over parameter variants -/

/-- `systemize()` of a model with several variants: output `k` is the single-variant computation applied to input variant `k` -/
theorem systemizeVariants_getElem {V S : Type} (one : V → S) (vs : List V) (k : Nat) :
    (systemizeVariants one vs)[k]? = vs[k]?.map one :=
  List.getElem?_map ..

/-- **variant locality**: changing any OTHER variant (its parameters, its steady state) does not change output `k` — in particular no
    variant is evaluated at variant 0's values -/
theorem variant_locality {V S : Type} (one : V → S) (vs vs' : List V) (k : Nat) (h : vs[k]? = vs'[k]?) :
    (systemizeVariants one vs)[k]? = (systemizeVariants one vs')[k]? := by
  rw [systemizeVariants_getElem, systemizeVariants_getElem, h]

theorem systemizeVariants_length {V S : Type} (one : V → S) (vs : List V) : (systemizeVariants one vs).length = vs.length :=
  List.length_map ..

/-! ### the evaluator object: every observation is the pure function of the point actually passed -/

/-- **refinement to the stateless spec**: whatever the history of calls on one evaluator object (and whatever point it held before),
    each `eval_func / eval_jacob / eval` returns the residual / Jacobian AT THE GUESS PASSED WITH THAT CALL -/
theorem evRun_eq_pure {P F J : Type} (fn : P → F) (jac : P → J) (s : P) (ops : List (EvOp P)) :
    evRun fn jac s ops = ops.map (fun op => observe fn jac op.guess op) := by
  have hrun : Machine.IsRun (evStep fn jac) (evRun fn jac) := ⟨fun _ => rfl, fun _ _ _ => rfl⟩
  -- `evStep` answers from the guess passed and never reads its state: the invariant is `True`
  exact hrun.eq_map (fun _ => True) _ (fun _ _ _ => ⟨rfl, trivial⟩) ops s trivial

/-- the invariant a memo of the last guess must keep: the remembered guess IS the point the steady array holds -/
def MemoInv {P : Type} (s : MemoState P) : Prop := ∀ g, s.last = some g → s.point = g

theorem memoStep_inv {P F J : Type} [DecidableEq P] (fn : P → F) (jac : P → J) (s : MemoState P) (op : EvOp P)
    (h : MemoInv s) : MemoInv (memoStep fn jac s op).1 := by
  unfold memoStep
  simp only
  split
  · exact h
  · exact fun g hg => Option.some.inj hg

/-- a memo kept BY VALUE is safe: under the invariant an evaluator that skips the update for an unchanged guess is observationally
    the stateless spec for every history (a memo kept by reference breaks the invariant as soon as the caller updates the array in place) -/
theorem memoRun_eq_pure {P F J : Type} [DecidableEq P] (fn : P → F) (jac : P → J) (s : MemoState P) (hs : MemoInv s)
    (ops : List (EvOp P)) :
    memoRun fn jac s ops = ops.map (fun op => observe fn jac op.guess op) := by
  have hrun : Machine.IsRun (memoStep fn jac) (memoRun fn jac) := ⟨fun _ => rfl, fun _ _ _ => rfl⟩
  refine hrun.eq_map MemoInv _ (fun s op hs => ⟨?_, memoStep_inv fn jac s op hs⟩) ops s hs
  -- a skipped update leaves the point at the remembered guess, which is the guess passed
  unfold memoStep
  simp only
  split
  · rename_i hl
    rw [hs _ hl]
  · rfl

/-! ### user context functions: the two-sided difference quotient (partial: only this much is proved) -/

/-- the difference quotient of `finite_differentiators.py` is the exact derivative of every polynomial of degree ≤ 2, for any step -/
theorem centralDiff_exact_quadratic {f : ℝ → ℝ} (a b c x eps : ℝ) (hf : ∀ y, f y = a * y ^ 2 + b * y + c) (h : eps ≠ 0) :
    centralDiff f x eps = 2 * a * x + b := by
  rw [centralDiff, hf, hf, Nat.cast_ofNat, div_eq_iff (mul_ne_zero two_ne_zero h)]
  ring

/-- the quotient is NOT exact beyond degree 2: for `y³` it is off by `eps²` (so for general user functions the property can only hold
    up to the step size; that part is covered by the tolerance comparison of the harness, not by a theorem) -/
theorem centralDiff_cubic (x eps : ℝ) (h : eps ≠ 0) :
    centralDiff (fun y => y ^ 3) x eps = 3 * x ^ 2 + eps ^ 2 := by
  rw [centralDiff, Nat.cast_ofNat, div_eq_iff (mul_ne_zero two_ne_zero h)]
  ring

/-- **the finite-difference rule composed with the chain rule**: for `f(g(x))` with a user function `f`, the walk
    (`_calculate_finite_derivatives`) returns `(f v, centralDiff f v eps · d)`; this is sound exactly as far as the difference quotient
    of `f` at `v` is the derivative of `f` there -/
theorem userCall1_sound_of_exact {f g : ℝ → ℝ} {x v d eps : ℝ} (hg : Rep v d g x)
    (hf : HasDerivAt f (centralDiff f v eps) v) :
    Rep (userCall1Value f v d eps) (userCall1Diff f v d eps) (fun y => f (g y)) x := by
  obtain ⟨rfl, hg⟩ := hg
  exact ⟨rfl, hf.comp x hg⟩

/-- exact for every user function that is a polynomial of degree ≤ 2, for any non-zero step (in particular `getEpsilon v`) -/
theorem userCall1_quadratic_sound (a b c : ℝ) {g : ℝ → ℝ} {x v d eps : ℝ} (hg : Rep v d g x) (he : eps ≠ 0) :
    Rep (userCall1Value (fun y => a * y ^ 2 + b * y + c) v d eps) (userCall1Diff (fun y => a * y ^ 2 + b * y + c) v d eps)
      (fun y => a * (g y) ^ 2 + b * (g y) + c) x := by
  apply userCall1_sound_of_exact (f := fun y => a * y ^ 2 + b * y + c) hg
  rw [centralDiff_exact_quadratic a b c v eps (fun _ => rfl) he]
  exact ((((hasDerivAt_pow 2 v).const_mul a).add ((hasDerivAt_id v).const_mul b)).add_const c).congr_deriv (by ring)

/-- for the cubic the walk is off by exactly `eps² · d`: the true derivative of `g(x)³` is `3 v² d`, the walk returns `(3 v² + eps²) d` -/
theorem userCall1_cubic_error {g : ℝ → ℝ} {x v d eps : ℝ} (hg : Rep v d g x) (he : eps ≠ 0) :
    HasDerivAt (fun y => (g y) ^ 3) (3 * v ^ 2 * d) x ∧
      userCall1Diff (fun y => y ^ 3) v d eps - 3 * v ^ 2 * d = eps ^ 2 * d := by
  obtain ⟨rfl, hg⟩ := hg
  constructor
  · exact (hg.pow 3).congr_deriv (by norm_num)
  · rw [userCall1Diff, centralDiff_cubic _ eps he]
    ring

/-- with the code's step `eps = max(|v|, 1) · 1e-6` the error for the cubic is `max(|v|, 1)² · 1e-12 · |d|` -/
theorem userCall1_cubic_error_bound (v d : ℝ) :
    |userCall1Diff (fun y => y ^ 3) v d (getEpsilon v) - 3 * v ^ 2 * d| = (max |v| 1) ^ 2 * (1 / 1000000) ^ 2 * |d| := by
  rw [(userCall1_cubic_error (rep_affine v d 0) (getEpsilon_pos v).ne').2, abs_mul, abs_of_nonneg (sq_nonneg _),
    getEpsilon, mul_pow]

/-- two arguments: the total derivative `Σ_k ∂_k f · d_k` with each partial by its own difference quotient is exact for
    every bilinear-quadratic `f(u, w) = a·u·w + b·u + c·w + e·u²` -/
theorem userCall2_bilinear_sound (a b c e : ℝ) {g1 g2 : ℝ → ℝ} {x v1 d1 v2 d2 eps1 eps2 : ℝ}
    (h1 : Rep v1 d1 g1 x) (h2 : Rep v2 d2 g2 x) (he1 : eps1 ≠ 0) (he2 : eps2 ≠ 0) :
    HasDerivAt (fun y => a * g1 y * g2 y + b * g1 y + c * g2 y + e * (g1 y) ^ 2)
      (userCall2Diff (fun u w => a * u * w + b * u + c * w + e * u ^ 2) v1 d1 eps1 v2 d2 eps2) x := by
  obtain ⟨rfl, h1⟩ := h1
  obtain ⟨rfl, h2⟩ := h2
  have h := ((((h1.const_mul a).mul h2).add (h1.const_mul b)).add (h2.const_mul c)).add ((h1.pow 2).const_mul e)
  refine h.congr_deriv ?_
  -- in each argument alone `f` is a polynomial of degree ≤ 2
  rw [userCall2Diff, centralDiff_exact_quadratic e (a * g2 x + b) (c * g2 x) _ _ (fun y => by ring) he1,
    centralDiff_exact_quadratic 0 (a * g1 x + c) (b * g1 x + e * g1 x ^ 2) _ _ (fun y => by ring) he2]
  ring

/-- **the n-ary finite-difference rule, by induction over the argument list**: for a user function that is a separable quadratic in
    any number of arguments (plus a constant), `Σ_k quotient_k · d_k` is exactly the gradient contracted with the inner derivatives,
    for any non-zero steps -/
theorem userCallN_sepQuad_exact (cs : List (ℝ × ℝ)) (c0 : ℝ) (args : List (ℝ × ℝ × ℝ)) (hlen : args.length = cs.length)
    (heps : ∀ p ∈ args, p.2.2 ≠ 0) :
    userCallNDiff (fun xs => c0 + sepQuad cs xs) args 0 = sepQuadDiff cs args := by
  induction cs generalizing c0 args with
  | nil =>
    cases args with
    | nil => simp [userCallNDiff, sepQuadDiff]
    | cons p rest => simp at hlen
  | cons ab cs ih =>
    obtain ⟨a, b⟩ := ab
    cases args with
    | nil => simp at hlen
    | cons p rest =>
      obtain ⟨v, d, eps⟩ := p
      have he : eps ≠ 0 := heps (v, d, eps) (by simp)
      have e2 : (fun tail => c0 + sepQuad ((a, b) :: cs) (v :: tail))
          = fun tail => (c0 + (a * v ^ 2 + b * v)) + sepQuad cs tail := by
        funext tail; simp only [sepQuad]; ring
      rw [userCallNDiff, sepQuadDiff, e2, ih _ rest (by simpa using hlen) (fun p hp => heps p (List.mem_cons_of_mem _ hp)),
        centralDiff_exact_quadratic a b (c0 + sepQuad cs (rest.map (·.1))) v eps (fun y => by rw [sepQuad]; ring) he]

/-- … and that contraction is the true derivative of the composed function (chain rule, by induction over the argument list):
    so the walk is exact for `f(g_1(x), …, g_n(x))` with such an `f`, for every `n` -/
theorem sepQuad_hasDerivAt (cs : List (ℝ × ℝ)) (gs : List (ℝ → ℝ)) (args : List (ℝ × ℝ × ℝ)) (x : ℝ)
    (hlen : gs.length = args.length) (hlen' : args.length = cs.length)
    (hrep : ∀ k (hk : k < gs.length), Rep (args[k]'(hlen ▸ hk)).1 (args[k]'(hlen ▸ hk)).2.1 gs[k] x) :
    HasDerivAt (fun y => sepQuad cs (gs.map (fun g => g y))) (sepQuadDiff cs args) x := by
  induction cs generalizing gs args with
  | nil => exact hasDerivAt_const x (0 : ℝ)
  | cons ab cs ih =>
    obtain ⟨a, b⟩ := ab
    cases args with
    | nil => simp at hlen'
    | cons p rest =>
      cases gs with
      | nil => simp at hlen
      | cons g gs =>
        obtain ⟨v, d, eps⟩ := p
        obtain ⟨rfl, h0⟩ : Rep v d g x := hrep 0 (Nat.zero_lt_succ _)
        have htail := ih gs rest (Nat.succ.inj hlen) (Nat.succ.inj hlen')
          (fun k hk => hrep (k + 1) (Nat.succ_lt_succ hk))
        refine ((((h0.pow 2).const_mul a).add (h0.const_mul b)).add htail).congr_deriv ?_
        rw [sepQuadDiff]
        ring

/-- **the n-ary rule for an ARBITRARY differentiable user function** (exactness class): for `f : ℝⁿ → ℝ` with Fréchet derivative `f'` at the
    argument values, the walk's `Σ_k quotient_k · d_k` is the derivative of `x ↦ f(g_1 x, …, g_n x)` as soon as every two-sided quotient
    equals the corresponding partial derivative `f'(e_k)` — e.g. whenever `f` is a polynomial of degree ≤ 2 in each argument separately
    (`centralDiff_exact_quadratic`); in general quotient `k` differs from `f'(e_k)` by the third-order term of `f` in argument `k` times
    `eps_k²/6` (`centralDiff_cubic` is the extremal case), so the walk is off by `Σ_k (that term) · d_k` -/
theorem userCallFin_sound_of_exact {n : ℕ} (f : (Fin n → ℝ) → ℝ) (f' : (Fin n → ℝ) →L[ℝ] ℝ) (g : Fin n → ℝ → ℝ)
    (v d eps : Fin n → ℝ) (x : ℝ) (hg : ∀ k, Rep (v k) (d k) (g k) x) (hf : HasFDerivAt f f' v)
    (hq : ∀ k, centralDiff (fun y => f (Function.update v k y)) (v k) (eps k) = f' (fun j => if k = j then 1 else 0)) :
    HasDerivAt (fun y => f (fun k => g k y))
      (∑ k, centralDiff (fun y => f (Function.update v k y)) (v k) (eps k) * d k) x := by
  obtain rfl : (fun k => g k x) = v := funext fun k => (hg k).val
  have hG : HasDerivAt (fun y k => g k y) d x := hasDerivAt_pi.mpr fun k => (hg k).der
  -- `f' d = Σ_k d_k · f' e_k`
  refine (hf.comp_hasDerivAt x hG).congr_deriv ((LinearMap.pi_apply_eq_sum_univ f'.toLinearMap d).trans ?_)
  refine Finset.sum_congr rfl fun k _ => ?_
  rw [hq k, smul_eq_mul, mul_comm, ContinuousLinearMap.coe_coe]

/-! ### non-vacuity: the hypotheses are met by concrete non-trivial values -/

/-- `x * y + log x` at `x = 2` (a log-variable), `y = 3`, system seed in the direction of `x`:
    the walk succeeds, the point is admissible, and the tree calls neither `sqrt` nor `maximum` -/
example :
    let e : Expr ℝ := .bin .add (.bin .mul (.tok 0 0) (.tok 1 0)) (.call1 .log (.tok 0 0))
    let c : Ctx ℝ := ⟨fun q _ => if q = 0 then 2 else 3, seedSystem [(0, 0), (1, 0)] 0, fun q => q = 0, fun _ x => x⟩
    (∃ v d, adEval c e = .ok (.atom v d)) ∧ Admissible c e ∧ ¬ UsesSqrt e ∧ ¬ UsesMaximum e := by
  refine ⟨⟨_, _, rfl⟩, ?_, ?_, ?_⟩
  · simp [Admissible, adEval, binGuard, fn1Guard]
  · simp [UsesSqrt]
  · simp [UsesMaximum]

/-- … and the conclusion is reached on that instance: the walk succeeds and what it returns is the derivative along the seed
    (`∂/∂ log x` of `x·y + log x` at `x = 2`, `y = 3`) -/
example :
    let e : Expr ℝ := .bin .add (.bin .mul (.tok 0 0) (.tok 1 0)) (.call1 .log (.tok 0 0))
    let base : Nat → Int → ℝ := fun q _ => if q = 0 then 2 else 3
    let seed : Nat → Int → ℝ := seedSystem [(0, 0), (1, 0)] 0
    let logly : Nat → Bool := fun q => q = 0
    ∃ v d, adEquation ⟨base, seed, logly, fun _ x => x⟩ e = .ok (.atom v d) ∧
      HasDerivAt (fun u => eval ⟨perturb base logly seed u, seed, logly, fun _ x => x⟩ e) d 0 := by
  intro e base seed logly
  have hadm : Admissible ⟨base, seed, logly, fun _ x => x⟩ e := by
    simp [e, base, Admissible, adEval, binGuard, fn1Guard]
  obtain ⟨v, d, hr, -, hd⟩ := adEquation_sound_unconditional base seed logly (fun _ x => x) e hadm _ rfl
  exact ⟨v, d, congrArg Except.ok hr, hd⟩

/-- `userCallFin_sound_of_exact` is not vacuous: every LINEAR user function of two arguments meets its hypotheses (its quotients are exact) -/
example (f' : (Fin 2 → ℝ) →L[ℝ] ℝ) (v d : Fin 2 → ℝ) (x : ℝ) :
    HasDerivAt (fun y => f' (fun k => v k + d k * (y - x)))
      (∑ k, centralDiff (fun y => f' (Function.update v k y)) (v k) 1 * d k) x := by
  refine userCallFin_sound_of_exact (fun w => f' w) f' (fun k y => v k + d k * (y - x)) v d (fun _ => 1) x
    (fun k => rep_affine (v k) (d k) x) f'.hasFDerivAt ?_
  intro k
  have key : ∀ y, Function.update v k y = v + (y - v k) • (fun j => if k = j then (1 : ℝ) else 0) := by
    intro y
    funext j
    by_cases h : j = k
    · subst h; simp
    · simp [Function.update, h, Ne.symm h]
  simp only [centralDiff, key, map_add, map_smul, smul_eq_mul]
  push_cast
  ring

/-- a rejected tree: `2 ** x` ends in `TypeError`, and `adEval_error_is_typeError` says no tree ends in anything else -/
example : adEval (⟨fun _ _ => 1, fun _ _ => 0, fun _ => false, fun _ x => x⟩ : Ctx ℝ) (.bin .pow (.const 2) (.tok 0 0))
    = .error .typeError := by
  simp [adEval, bind, Except.bind]

example : Rep 3 1 (fun y => 3 + 1 * (y - 7)) 7 := rep_affine 3 1 7

/-- the map theorems are not vacuous: `x{+1}, x, x{-1}` of one variable (range `-2 … 1`) and `y` (range `0 … 0`) -/
example : transitionVector [(0, -2, 1), (1, 0, 0)] = [(0, 1), (0, 0), (1, 0), (0, -1)] := by decide

example : dynid [(0, 1), (0, 0), (1, 0), (0, -1)] = [(0, 1, 0), (1, 3, 1)] := by decide

example : staticMap (laggedVector [(0, 1), (0, 0), (1, 0), (0, -1)]) [([(0, 0), (0, -2), (1, -1)], 0)]
    = [⟨0, 3, 1, 0⟩, ⟨0, 2, 2, 0⟩] := by decide

example : stackedMap [(0, 1), (1, 1), (0, 2), (1, 2)] [1, 2] [[(0, 0), (0, -1)], [(1, 0), (0, 0)]]
    = [⟨0, 0, 0, 0⟩, ⟨2, 2, 0, 1⟩, ⟨2, 0, 1, 1⟩, ⟨1, 1, 2, 0⟩, ⟨3, 3, 2, 1⟩, ⟨1, 0, 3, 0⟩, ⟨3, 2, 3, 1⟩] := by decide

example : scatterAssign (staticMap [some (0, 0), some (1, 0)] [([(1, 0), (0, 0)], 0)]) (fun r _ => (10 + r : Nat)) 0 0 0 = 11 := by decide

example : systemizeVariants (fun p : Nat => p * p) [2, 3, 5] = [4, 9, 25] := by decide

/-- two equations, two periods, the second equation reads `x0{+1}`: only its last-period row reaches the terminal spot `(0, 3)` -/
example : terminalRows [(0, 1), (1, 1), (0, 2), (1, 2), (0, 3)] 4 [1, 2] [[(0, 0)], [(1, 0), (0, 1)]] = [3] := by decide

example : evRun (fun p : Nat => p) (fun p : Nat => 10 * p) 0 [.evalJacob 1, .evalFunc 2, .evalJacob 2, .evalBoth 3]
    = [.jacob 10, .func 2, .jacob 20, .both 3 30] := by decide

example : userCallNDiff (fun xs : List ℝ => 1 + sepQuad [(1, 0), (0, 2), (3, 1)] xs) [(1, 1, 1), (2, 1, 1), (0, 5, 1)] 0
    = sepQuadDiff [(1, 0), (0, 2), (3, 1)] [(1, 1, 1), (2, 1, 1), (0, 5, 1)] := by
  refine userCallN_sepQuad_exact _ _ _ rfl fun p hp => ?_
  simp only [List.mem_cons, List.not_mem_nil, or_false] at hp
  rcases hp with rfl | rfl | rfl <;> exact one_ne_zero

example : MemoInv (⟨7, some 7⟩ : MemoState Nat) := fun _ h => Option.some.inj h

example : terminalSpots [5, 6] [0, 2] (fun q => if q = 0 then 2 else 1) 4 = [(0, (0, 5)), (1, (2, 5)), (2, (0, 6))] := by decide

end IrisVerif.C02
