/-
Tie T (DESIGN.md §3: the model equals definitions regenerated from the source)
for the matrix code of property C05 (steady state of linear models): the linear algorithm of the hand-written
model `Model/Steady.lean` (namespace `Linear`) is tied to the definitions that `tools/gens/npmat_c05.py` regenerates on
every run from `/repo/src/irispie/fords/steadiers.py` (`Generated/SteadyLinearGen.lean`), where the least-squares solve
`_solutions.left_div` is an explicit parameter.

The model calls `QMat.solveChecked` (exact elimination + exact re-check) where the code calls `left_div`.  The tie is
stated with the external solver *instantiated by the model's checked solver* (`modelLeftDiv`): whenever the model's
algorithm succeeds, the generated function evaluated with that solver returns the model's answer.  The systems handed to
the solver are equal as `QMat` values (`stackedAB_eq`), under the shape conditions written out in the theorems.
Of `solve_steady_linear_nonflat` only the transition half is tied (results 1 and 3, `ξ` and `Δξ`); the measurement half
(results 2 and 4) is not.
-/
import IrisVerif.Props.GenTieCore
import IrisVerif.Model.Steady
import IrisVerif.Generated.SteadyLinearGen

namespace IrisVerif.GenTieC05

open IrisVerif IrisVerif.QMat IrisVerif.Steady.Linear IrisVerif.GenTie IrisVerif.QMatNp

/-- the external `left_div` instantiated by the model's checked exact solver (0 × 0 when it fails) -/
def modelLeftDiv (a b : QMat) : QMat := (QMat.solveChecked a b).getD (QMat.zero 0 0)

theorem modelLeftDiv_of_some (a b x : QMat) (h : QMat.solveChecked a b = some x) : modelLeftDiv a b = x := by
  unfold modelLeftDiv; rw [h]; rfl

/-- `solve_steady_linear_flat`, for every value of the external solver: the four results are
`ξ = left_div(-(A+B), C)`, `y = left_div(-F, G ξ + H)` and zero changes -/
theorem generated_flat (ld : QMat → QMat → QMat) (sys : Gen.SteadyLinear.System) :
    Gen.SteadyLinear.solve_steady_linear_flat ld sys =
      (ld (-(sys.A + sys.B)) sys.C, ld (-sys.F) (sys.G * ld (-(sys.A + sys.B)) sys.C + sys.H),
        QMat.zero (ld (-(sys.A + sys.B)) sys.C).rows (ld (-(sys.A + sys.B)) sys.C).cols,
        QMat.zero (ld (-sys.F) (sys.G * ld (-(sys.A + sys.B)) sys.C + sys.H)).rows
          (ld (-sys.F) (sys.G * ld (-(sys.A + sys.B)) sys.C + sys.H)).cols) := by
  unfold Gen.SteadyLinear.solve_steady_linear_flat
  simp only [zeros_shape]

/-- the model's flat algorithm is the generated function run with the model's checked solver -/
theorem model_eq_generated_flat (A B C F G H xi y : QMat) (h1 : solveFlat A B C = some xi)
    (h2 : solveMeasurement F G H xi = some y) :
    Gen.SteadyLinear.solve_steady_linear_flat modelLeftDiv ⟨A, B, C, F, G, H⟩
      = (xi, y, QMat.zero xi.rows xi.cols, QMat.zero y.rows y.cols) := by
  rw [generated_flat]
  unfold solveFlat at h1
  unfold solveMeasurement at h2
  simp only [modelLeftDiv_of_some _ _ _ h1, modelLeftDiv_of_some _ _ _ h2]

/-- the stacked matrix the code assembles, `[[A+B, 0·A + (0-1)·B], [A+B, k·A + (k-1)·B]]` with `k = 1`, is the model's
`stackedAB A B 1` when `A` and `B` have the same shape -/
theorem stackedAB_eq (A B : QMat) (hr : B.rows = A.rows) (hc : B.cols = A.cols) :
    stackedAB A B 1 =
      QMat.vstack (QMat.hstack (A + B) (QMat.smul (0 : Rat) A + QMat.smul ((((0 : Int) - (1 : Int)) : Int) : Rat) B))
        (QMat.hstack (A + B) (QMat.smul (((1 : Int) : Int) : Rat) A + QMat.smul ((((1 : Int) - (1 : Int)) : Int) : Rat) B)) := by
  unfold stackedAB
  have e1 : QMat.smul (-1) B = QMat.smul (0 : Rat) A + QMat.smul ((((0 : Int) - (1 : Int)) : Int) : Rat) B :=
    ofFn_congr' _ _ hr hc fun i j hi' hj' => by
      rw [get_smul, get_smul, if_pos ⟨hr ▸ hi', hc ▸ hj'⟩, if_pos ⟨hi', hj'⟩]
      norm_num
  rw [e1, Int.cast_sub 1 1, Int.cast_one]

/-- the transition block of `solve_steady_linear_nonflat`: when the model's `solveNonflat` succeeds with `(ξ, Δξ)`,
the generated function run with the model's checked solver returns the same `ξ` (1st result) and `Δξ` (3rd result) -/
theorem model_eq_generated_nonflat_transition (A B C F G H xi dxi : QMat) (hr : B.rows = A.rows) (hc : B.cols = A.cols)
    (hC : C.cols = 1) (h : solveNonflat A B C = some (xi, dxi)) :
    (Gen.SteadyLinear.solve_steady_linear_nonflat modelLeftDiv ⟨A, B, C, F, G, H⟩).1 = xi ∧
    (Gen.SteadyLinear.solve_steady_linear_nonflat modelLeftDiv ⟨A, B, C, F, G, H⟩).2.2.1 = dxi := by
  unfold solveNonflat at h
  split at h
  · rename_i x hx
    obtain ⟨rfl, rfl⟩ := Prod.mk.inj (Option.some.inj h)
    obtain ⟨hsq, _, hxr, hxc, _, _⟩ := solveChecked_sound _ _ x hx
    have hcols : (-(stackedAB A B 1)).cols = A.cols + A.cols := by
      show (A + B).cols + (QMat.smul (-1) B).cols = _
      rw [add_cols, smul_cols, hc]
    have hxr' : x.rows = A.cols + A.cols := by rw [hxr, ← hsq, hcols]
    have hxc' : x.cols = 1 := by rw [hxc]; exact hC
    have hmin : min A.cols (A.cols + A.cols) = A.cols := Nat.min_eq_left (Nat.le_add_right _ _)
    unfold Gen.SteadyLinear.solve_steady_linear_nonflat
    simp only []
    rw [← stackedAB_eq A B hr hc, modelLeftDiv_of_some _ _ _ hx]
    -- `x[0:n]` and `x[n:2n]` are the model's `block`s once the bounds are computed; `h0` lets `lo_some_nat` read the
    -- literal `0` of the generated text
    have h0 : ((0 : Int)) = ((0 : Nat) : Int) := rfl
    constructor
    · unfold QMatNp.slice
      simp only [shape_snd, h0, lo_some_nat, hi_some_nat, lo_none, hi_none, hxr', hxc', hmin, Nat.zero_min]
    · unfold QMatNp.slice
      simp only [shape_snd, lo_some_nat, lo_none, hi_none, hxr', hxc', hmin, Nat.two_mul]
  · cases h

end IrisVerif.GenTieC05
