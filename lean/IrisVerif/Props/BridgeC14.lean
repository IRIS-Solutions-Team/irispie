/-
Bridge for property C14 (Hodrick-Prescott filter): `C14.model_trend_is_the_minimiser` is stated for an arbitrary
call of `HP.filterData` under side conditions on its arguments (matching lengths, constraint positions `< n`, change
positions `≥ 1`, data length `n`).  Here these side conditions are *derived* for the arguments that `HP.dataHpf`
actually passes -- they are facts about `HP.setup r`, for every request `r` (`setup` is total, nothing is assumed) --
so the theorem applies to every variant of every successful `dataHpf` run.

The file ends with `QMatSolveBridge.filterData_isSome_iff` (`filterData` answers iff its system matrix is non-singular):
it joins the model lemmas of `Lemmas/HPModel.lean` to the completeness of the solver in `Lemmas/QMatSolve.lean`, which
none of the C14 files before this one imports.
-/
import IrisVerif.Props.C14
import IrisVerif.Lemmas.Monads
import IrisVerif.Lemmas.QMatSolve

namespace IrisVerif.BridgeC14

open IrisVerif IrisVerif.HP IrisVerif.HPModel IrisVerif.HPMatrix

theorem getD_filter_range_lt (m : Nat) (p : Nat → Bool) (a : Nat) (ha : a < ((List.range m).filter p).length) :
    ((List.range m).filter p).getD a 0 < m ∧ p (((List.range m).filter p).getD a 0) = true := by
  have hmem := List.getElem_mem ha
  rwa [List.getElem_eq_getD 0, List.mem_filter, List.mem_range] at hmem

theorem fromUntil_size (s : Ser) (lo hi : Int) : (s.fromUntil lo hi).size = (hi - lo + 1).toNat := by
  simp [Ser.fromUntil]

theorem prepareConstraints_len (c : Option Ser) (lo hi : Int) :
    (prepareConstraints c lo hi).1.length = (prepareConstraints c lo hi).2.length := by
  cases c with
  | none => rfl
  | some s => exact List.length_map _

theorem prepareConstraints_lt (c : Option Ser) (lo hi : Int) (a : Nat)
    (ha : a < (prepareConstraints c lo hi).2.length) :
    (prepareConstraints c lo hi).2.getD a 0 < (hi - lo + 1).toNat := by
  cases c with
  | none => exact absurd ha (Nat.not_lt_zero a)
  | some s =>
    exact Nat.lt_of_lt_of_eq (getD_filter_range_lt _ _ a ha).1 (by rw [Array.length_toList, fromUntil_size])

theorem removeFirstDateChange_len (cd : List Rat) (cw : List Nat) :
    (removeFirstDateChange cd cw).1.length = (removeFirstDateChange cd cw).2.length :=
  (List.length_map _).trans (List.length_map _).symm

theorem removeFirstDateChange_getD (cd : List Rat) (cw : List Nat) (a : Nat)
    (ha : a < (removeFirstDateChange cd cw).2.length) :
    ∃ i, i < cw.length ∧ (removeFirstDateChange cd cw).2.getD a 0 = cw.getD i 0 ∧ cw.getD i 0 ≠ 0 := by
  simp only [removeFirstDateChange, List.length_map] at ha ⊢
  obtain ⟨h1, h2⟩ := getD_filter_range_lt cw.length (fun i => decide (cw.getD i 0 ≠ 0)) a ha
  refine ⟨_, h1, ?_, of_decide_eq_true h2⟩
  rw [← List.getElem_eq_getD (h := by rwa [List.length_map]) 0, List.getElem_map, List.getElem_eq_getD 0]

/-! ## the side conditions hold for what `dataHpf` passes to `filterData` -/

/-- **every side condition of `C14.model_trend_is_the_minimiser`, for every request** -/
theorem setup_side_conditions (r : Request) :
    (setup r).ld.length = (setup r).lw.length ∧
    (setup r).cd.length = (setup r).cw.length ∧
    (∀ a, a < (setup r).lw.length → (setup r).lw.getD a 0 < (setup r).n) ∧
    (∀ a, a < (setup r).cw.length → (setup r).cw.getD a 0 < (setup r).n) ∧
    (∀ a, a < (setup r).cw.length → 0 < (setup r).cw.getD a 0) ∧
    (∀ col, ((Ser.mk r.dstart col).fromUntil (setup r).lo (setup r).hi).size = (setup r).n) := by
  unfold setup
  simp only
  refine ⟨prepareConstraints_len _ _ _, removeFirstDateChange_len _ _, prepareConstraints_lt _ _ _, ?_, ?_,
    fun col => fromUntil_size _ _ _⟩
  · intro a ha
    obtain ⟨i, hi, he, _⟩ := removeFirstDateChange_getD _ _ a ha
    rw [he]
    exact prepareConstraints_lt _ _ _ i hi
  · intro a ha
    obtain ⟨i, _, he, hne⟩ := removeFirstDateChange_getD _ _ a ha
    rw [he]
    exact Nat.pos_of_ne_zero hne

/-- every variant of a successful `dataHpf` run went through a successful `filterData` -/
theorem dataHpf_variants (lg ex : Rat → Rat) (r : Request) (res : Result) (h : dataHpf lg ex r = some res)
    (col : Array (Option Rat)) (hcol : col ∈ r.dcols) :
    ∃ f, filterData lg ex (setup r).n r.lam (setup r).lw (setup r).cw (setup r).ld (setup r).cd
      ((Ser.mk r.dstart col).fromUntil (setup r).lo (setup r).hi) = some f := by
  rw [C14.model_span_only_clips] at h
  obtain ⟨fs, hfs, _⟩ := Option.map_eq_some_iff.1 h
  have hmem : _ ∈ fs.map some := mapM_eq_some_iff.1 hfs ▸ List.mem_map_of_mem hcol
  obtain ⟨f, _, hf⟩ := List.mem_map.1 hmem
  exact ⟨f, hf.symm⟩

/-- **`model_trend_is_the_minimiser` with its side conditions discharged**: for every request with `λ > 0`, the
(unclipped) trend the model computes for a variant meets every level and change constraint of the request exactly and
minimises the Hodrick-Prescott objective among all sequences meeting them (uniquely, given two observations). -/
theorem dataHpf_trend_is_the_minimiser (r : Request) (hlam : 0 < r.lam) (col : Array (Option Rat)) (f : Filtered)
    (h : filterData id id (setup r).n r.lam (setup r).lw (setup r).cw (setup r).ld (setup r).cd
      ((Ser.mk r.dstart col).fromUntil (setup r).lo (setup r).hi) = some f) :
    let s := setup r
    let y := (Ser.mk r.dstart col).fromUntil s.lo s.hi
    let hl := (setup_side_conditions r).2.2.1
    let hc := (setup_side_conditions r).2.2.2.1
    let τ : Fin s.n → ℚ := fun t => f.trend.getD t.val 0
    let obs := obsOf s.n y
    let yv : Fin s.n → ℚ := fun t => (y.getD t.val none).getD 0
    let feasible : (Fin s.n → ℚ) → Prop := fun σ =>
      (∀ a : Fin s.lw.length, σ (posF s.n s.lw hl a) = s.ld.getD a.val 0) ∧
      (∀ a : Fin s.cw.length, σ (posF s.n s.cw hc a) - σ (pred (posF s.n s.cw hc a)) = s.cd.getD a.val 0)
    feasible τ ∧ (∀ σ, feasible σ → C14.hpObj obs yv r.lam τ ≤ C14.hpObj obs yv r.lam σ) ∧
      (∀ s' t : Fin s.n, s' ≠ t → obs s' = true → obs t = true →
        ∀ σ, feasible σ → C14.hpObj obs yv r.lam σ ≤ C14.hpObj obs yv r.lam τ → σ = τ) := by
  obtain ⟨h1, h2, h3, h4, h5, h6⟩ := setup_side_conditions r
  exact C14.model_trend_is_the_minimiser (setup r).n r.lam hlam (setup r).lw (setup r).cw (setup r).ld (setup r).cd
    _ (h6 col) h1 h2 h3 h4 h5 f h

/-- … for every variant of every successful run of `dataHpf` (the function the driver runs against irispie) -/
theorem dataHpf_every_variant (r : Request) (res : Result) (h : dataHpf id id r = some res)
    (col : Array (Option Rat)) (hcol : col ∈ r.dcols) :
    ∃ f, filterData id id (setup r).n r.lam (setup r).lw (setup r).cw (setup r).ld (setup r).cd
      ((Ser.mk r.dstart col).fromUntil (setup r).lo (setup r).hi) = some f :=
  dataHpf_variants id id r res h col hcol

/-- non-vacuity: a request with a missing observation, a level and a change constraint runs through `dataHpf`
(kernel evaluation), so `dataHpf_every_variant` and `dataHpf_trend_is_the_minimiser` apply to it -/
example : (dataHpf id id ⟨1, 0, 4, [#[some 0, some 1, none, some 9]], some ⟨3, #[some 7]⟩, some ⟨1, #[some 2]⟩,
    none⟩).isSome = true := by decide +kernel

end IrisVerif.BridgeC14

/-! ## With the correctness of the executable solver (`Lemmas/QMatSolve.lean`) -/

namespace IrisVerif.QMatSolveBridge

open Matrix IrisVerif IrisVerif.QMat IrisVerif.HP IrisVerif.HPModel

/-- the constrained Hodrick-Prescott filter answers iff its bordered system matrix is non-singular -/
theorem filterData_isSome_iff (lg ex : Rat → Rat) (n : Nat) (lam : Rat) (lw cw : List Nat) (ld cd : List Rat)
    (y : Array (Option Rat)) (hy : y.size = n) (hld : ld.length = lw.length) (hcd : cd.length = cw.length) :
    (filterData lg ex n lam lw cw ld cd y).isSome = true ↔
      IsUnit ((sysMatrix n lam lw cw y).toMat (n + lw.length + cw.length) (n + lw.length + cw.length)).det := by
  rw [← solveChecked_isSome_iff_of (sysMatrix n lam lw cw y) (QMat.col (rhs lg y ld cd)) (sysMatrix_rows n lam lw cw y)
    (sysMatrix_cols n lam lw cw y) (by rw [QMat.col_rows, rhs_size, hy, hld, hcd])]
  unfold filterData
  simp only
  cases QMat.solveChecked (sysMatrix n lam lw cw y) (QMat.col (rhs lg y ld cd)) <;> rfl

end IrisVerif.QMatSolveBridge
