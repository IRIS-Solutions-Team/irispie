/-
Bridge for property C15 (model-implied autocovariances): the hypotheses of the matrix-level theorems of `Props/C15.lean`
are *derived* from the executable model `Model/Acov.lean` through the `QMat → Matrix` views of `Lemmas/QMatRefines.lean`,
`Lemmas/QMatViews.lean` (solver certificate, stable block, lag recursion, `s²` law, zero padding of the unit-root block).
-/
import IrisVerif.Lemmas.QMatViews
import IrisVerif.Lemmas.QMatSolve
import IrisVerif.Props.C15

open Matrix

namespace IrisVerif.BridgeC15

open IrisVerif IrisVerif.QMat IrisVerif.Acov
open Kronecker

/-- `a' = c · a`, entrywise at every index (for the `s²` law) -/
structure Scaled (c : Rat) (a a' : QMat) : Prop where
  rows : a'.rows = a.rows
  cols : a'.cols = a.cols
  get : ∀ i j, a'.get i j = c * a.get i j

theorem Scaled.rfl_one (a : QMat) : Scaled 1 a a := ⟨rfl, rfl, fun _ _ => (one_mul _).symm⟩

theorem scaled_smul (c : Rat) (a : QMat) (hw : a.wellShaped = true) : Scaled c a (QMat.smul c a) := by
  refine ⟨smul_rows c a, smul_cols c a, fun i j => ?_⟩
  rw [get_smul]
  split
  · rfl
  · rename_i h
    rw [get_of_out a hw i j (by omega), mul_zero]

/- The dimension fields below are given by the dimension lemmas, not by `rfl`: `rfl` would first try to unify the two
matrices themselves, which fails only after unfolding both down to their arrays. -/

theorem Scaled.mul_left {c : Rat} {b b' : QMat} (h : Scaled c b b') (a : QMat) : Scaled c (a * b) (a * b') := by
  refine ⟨(mul_rows a b').trans (mul_rows a b).symm, h.cols, fun i j => ?_⟩
  rw [get_mul, get_mul, h.cols, mul_ite, mul_zero, Finset.mul_sum]
  simp only [h.get, mul_left_comm]

theorem Scaled.mul_right {c : Rat} {a a' : QMat} (h : Scaled c a a') (b : QMat) : Scaled c (a * b) (a' * b) := by
  refine ⟨h.rows, (mul_cols a' b).trans (mul_cols a b).symm, fun i j => ?_⟩
  rw [get_mul, get_mul, h.rows, h.cols, mul_ite, mul_zero, Finset.mul_sum]
  simp only [h.get, mul_assoc]

theorem Scaled.add {c : Rat} {a a' b b' : QMat} (ha : Scaled c a a') (hb : Scaled c b b') :
    Scaled c (a + b) (a' + b') := by
  refine ⟨ha.rows, ha.cols, fun i j => ?_⟩
  rw [get_add, get_add, ha.rows, ha.cols, ha.get, hb.get, mul_ite, mul_zero, mul_add]

theorem Scaled.transpose {c : Rat} {a a' : QMat} (h : Scaled c a a') : Scaled c a.transpose a'.transpose := by
  refine ⟨h.cols, h.rows, fun i j => ?_⟩
  rw [get_transpose, get_transpose, h.rows, h.cols, h.get, mul_ite, mul_zero]

theorem Scaled.hstack {c : Rat} {a a' b b' : QMat} (ha : Scaled c a a') (hb : Scaled c b b') :
    Scaled c (QMat.hstack a b) (QMat.hstack a' b') := by
  refine ⟨ha.rows, by rw [hstack_cols, hstack_cols, ha.cols, hb.cols], fun i j => ?_⟩
  rw [get_hstack, get_hstack, ha.rows, ha.cols, hb.cols, ha.get, hb.get, mul_ite, mul_ite, mul_zero]

theorem Scaled.vstack {c : Rat} {a a' b b' : QMat} (ha : Scaled c a a') (hb : Scaled c b b') :
    Scaled c (QMat.vstack a b) (QMat.vstack a' b') := by
  refine ⟨by rw [vstack_rows, vstack_rows, ha.rows, hb.rows], ha.cols, fun i j => ?_⟩
  rw [get_vstack, get_vstack, ha.rows, ha.cols, hb.rows, ha.get, hb.get, mul_ite, mul_ite, mul_zero]

theorem Scaled.toMat {c : Rat} {a a' : QMat} (h : Scaled c a a') (r k : Nat) : a'.toMat r k = c • a.toMat r k := by
  ext i j
  simp [h.get]

/-- the shape of `cov_alpha_00`, `Ta_00` (`fords/covariances.py`) -/
theorem toMat_padded (n u : Nat) (f : Nat → Nat → Rat) :
    (QMat.ofFn n n (fun i j => if u ≤ i ∧ u ≤ j then f i j else 0)).toMat (u + (n - u)) (u + (n - u)) =
      (fromBlocks (0 : Matrix (Fin u) (Fin u) ℚ) 0 0 (Matrix.of fun i j : Fin (n - u) => f (u + i) (u + j))).submatrix
        finSumFinEquiv.symm finSumFinEquiv.symm := by
  ext i j
  refine Fin.addCases (fun i => ?_) (fun i => ?_) i <;> refine Fin.addCases (fun j => ?_) (fun j => ?_) j <;>
    simp [get_ofFn, finSumFinEquiv_symm_apply_castAdd, finSumFinEquiv_symm_apply_natAdd]
  -- left: the lower right block, where the out-of-range branch of `get_ofFn` is impossible (`u + i`, `u + j` are below `n`)
  omega

/-- **what `Acov.lyapunov` returns**, seen as Mathlib matrices: an `n × n` well-shaped symmetric solution of the
Lyapunov equation -/
theorem lyapunov_view (T Sig Om : QMat) (n : Nat) (hr : T.rows = n) (hc : T.cols = n)
    (h : lyapunov T Sig = some Om) :
    Om.rows = n ∧ Om.cols = n ∧ Om.wellShaped = true ∧
    Om.toMat n n = T.toMat n n * Om.toMat n n * (T.toMat n n)ᵀ + Sig.toMat n n ∧
    (Om.toMat n n)ᵀ = Om.toMat n n := by
  obtain ⟨⟨x, _, rfl⟩, hl, hs⟩ := lyapunov_eq_some T Sig _ h
  have h2 : (QMat.unvec T.rows T.rows x.toVec).cols = n := hr
  refine ⟨hr, h2, wellShaped_unvec _ _ _, ?_, ((isSymmetric_iff (QMat.unvec T.rows T.rows x.toVec) n hr).1 hs).2⟩
  have hT : T.Views (T.toMat n n) := .of hr hc
  exact ((toMat_eq_of_eqv _ _ hl n n hr h2).1).trans (((hT.mul_of h2).mul hT.transpose).add_of Sig).toMat

/-- … hence its `vec` solves the Kronecker system the model hands to the checked solver, at the Mathlib level -/
theorem lyapunov_kron (T Sig Om : QMat) (n : Nat) (hr : T.rows = n) (hc : T.cols = n)
    (h : lyapunov T Sig = some Om) :
    (1 - T.toMat n n ⊗ₖ T.toMat n n) *ᵥ vec (Om.toMat n n) = vec (Sig.toMat n n) :=
  have ⟨_, _, _, hLy, _⟩ := lyapunov_view T Sig Om n hr hc h
  (C15.lyapunov_iff_kron _ _ _).1 hLy

/-- dimension side conditions on the inputs of the model (the harness passes the implementation's matrices) -/
structure Dims (s : Sol) : Prop where
  covU_cols : s.covU.cols = s.Pa.cols
  covW_cols : s.covW.cols = s.H.cols
  H_rows : s.H.rows = s.ny
  Za_rows : s.Za.rows = s.ny
  covU_ws : s.covU.wellShaped = true
  covW_ws : s.covW.wellShaped = true

/-- `Model/Acov.lean` performs no shape checks of its own (its inputs are the implementation's matrices, cut to
shape by the driver's parser).  `Dims` holds for every input of the shape the driver constructs: the shock covariances
are `QMat.diag` of vectors of the right length, `H` and `Za` have `ny` rows. -/
theorem dims_of_driver_shape (s : Sol) (du dw : QVec) (hU : s.covU = QMat.diag du) (hW : s.covW = QMat.diag dw)
    (h1 : du.size = s.Pa.cols) (h2 : dw.size = s.H.cols) (h3 : s.H.rows = s.ny) (h4 : s.Za.rows = s.ny) : Dims s :=
  ⟨by rw [hU]; exact h1, by rw [hW]; exact h2, h3, h4, by rw [hU]; exact wellShaped_diag _,
    by rw [hW]; exact wellShaped_diag _⟩

section model
variable (s : Sol)

/- Sizes and views used in the statements below: `nS` stable states, `nE` transition shocks, `nW` measurement shocks,
`N0 = nu + nS` (= `na`, written so that it splits into the unit-root and the stable part); `Ts`, `Ps`, `Zs` the stable
blocks of `Ta`, `Pa`, `Za`; `Su`, `Sw` the shock covariances; `Hm` = `H`; further down `Zf` the whole `Za`, and `eS`, `eJ` the
reindexings `Fin (a + b) ≃ Fin a ⊕ Fin b` under which `vstack`/`hstack` are `fromBlocks`.  They mention the section variable
`s`, which the notation pre-check cannot resolve: hence `quotPrecheck false`. -/
local notation "nS" => s.na - s.nu
local notation "nE" => s.Pa.cols
local notation "nW" => s.H.cols
set_option quotPrecheck false
local notation "Ts" => (TaStable s).toMat nS nS
local notation "Ps" => (PaStable s).toMat nS nE
local notation "Zs" => (ZaStable s).toMat s.ny nS
local notation "Su" => s.covU.toMat nE nE
local notation "Sw" => s.covW.toMat nW nW
local notation "Hm" => s.H.toMat s.ny nW
local notation "N0" => s.nu + (s.na - s.nu)

theorem PaStable_views : (PaStable s).Views Ps := .of rfl rfl
theorem ZaStable_views : (ZaStable s).Views Zs := .of rfl rfl

theorem sigmaU_views (hU : s.covU.cols = s.Pa.cols) : (sigmaU s).Views (Ps * Su * Psᵀ) :=
  ((PaStable_views s).mul_of hU).mul (PaStable_views s).transpose

/-- **the hypothesis of `C15.gamma0_fixed_point`, derived from the model**: the stable-block covariance the model
computes satisfies the Lyapunov equation `Ω = T Ω Tᵀ + P Σ_u Pᵀ` and is symmetric -/
theorem stable_Lyap (hU : s.covU.cols = s.Pa.cols) (OmS : QMat)
    (h : lyapunov (TaStable s) (sigmaU s) = some OmS) :
    C15.Lyap Ts Ps Su (OmS.toMat nS nS) ∧ (OmS.toMat nS nS)ᵀ = OmS.toMat nS nS := by
  obtain ⟨_, _, _, hLy, hsym⟩ := lyapunov_view (TaStable s) (sigmaU s) OmS nS rfl rfl h
  refine ⟨?_, hsym⟩
  unfold C15.Lyap
  rw [← (sigmaU_views s hU).toMat]
  exact hLy

theorem covY00_views (hd : Dims s) (OmS : QMat) (hOc : OmS.cols = nS) :
    (covY00 s OmS).Views (Zs * OmS.toMat nS nS * Zsᵀ + Hm * Sw * Hmᵀ) :=
  have hH : s.H.Views Hm := .of hd.H_rows rfl
  (((ZaStable_views s).mul_of hOc).mul (ZaStable_views s).transpose).add ((hH.mul_of hd.covW_cols).mul hH.transpose)

/-- **`gamma0_fixed_point` carried down to the model**: the order-0 matrix assembled from the model's stable-block
covariance (its (2,2) block *is* the model's `covY00`) is a fixed point of second-moment propagation of the joint
`(α, y)` system of the stable block -/
theorem gamma0_fixed_point_model (hd : Dims s) (OmS : QMat)
    (h : lyapunov (TaStable s) (sigmaU s) = some OmS) :
    C15.Gamma0 Zs Hm Sw (OmS.toMat nS nS) =
        C15.calA Ts Zs * C15.Gamma0 Zs Hm Sw (OmS.toMat nS nS) * (C15.calA Ts Zs)ᵀ
          + C15.calB Ps Zs Hm * C15.calS Su Sw * (C15.calB Ps Zs Hm)ᵀ ∧
    C15.Gamma0 Zs Hm Sw (OmS.toMat nS nS) =
      fromBlocks (OmS.toMat nS nS) (OmS.toMat nS nS * Zsᵀ) (OmS.toMat nS nS * Zsᵀ)ᵀ
        ((covY00 s OmS).toMat s.ny s.ny) := by
  obtain ⟨hL, hsym⟩ := stable_Lyap s hd.covU_cols OmS h
  have hOc : OmS.cols = nS := (lyapunov_view (TaStable s) (sigmaU s) OmS nS rfl rfl h).2.1
  refine ⟨C15.gamma0_fixed_point _ _ _ _ _ _ _ hL hsym, ?_⟩
  rw [(covY00_views s hd OmS hOc).toMat]
  rfl

/-- **`autocov_closed_form` carried down to the model**: the `j`-th matrix of the model's list is `𝒜^j Γ_0` -/
theorem autocovTriangular_view (hd : Dims s) (OmS : QMat) (j : Nat) :
    (autocovTriangular s OmS j).toMat (s.na + s.ny) (s.na + s.ny) =
      ((Acov.calA s).toMat (s.na + s.ny) (s.na + s.ny)) ^ j
        * (covTriangular00 s OmS).toMat (s.na + s.ny) (s.na + s.ny) := by
  refine C15.autocov_closed_form _ _ (fun j => (autocovTriangular s OmS j).toMat (s.na + s.ny) (s.na + s.ny))
    rfl (fun j => ?_) j
  show (Acov.calA s * autocovTriangular s OmS j).toMat _ _ = _
  rw [toMat_mul _ _ (s.na + s.ny) (s.na + s.ny) (s.na + s.ny) (calA_rows s hd.Za_rows) rfl
    (autocovTriangular_dims s hd.Za_rows OmS j).2]

theorem TaStable_rescale (f : Rat) : TaStable (rescale s f) = TaStable s := rfl
theorem PaStable_rescale (f : Rat) : PaStable (rescale s f) = PaStable s := rfl

/-- **the `s²`-scaled solution solves the rescaled model's Lyapunov equation** (`C15.scaling_lyapunov` on the model) -/
theorem rescale_Lyap (hd : Dims s) (OmS : QMat) (h : lyapunov (TaStable s) (sigmaU s) = some OmS) (f : Rat) :
    C15.Lyap Ts Ps ((rescale s f).covU.toMat nE nE) ((f * f) • OmS.toMat nS nS) := by
  have hS : (rescale s f).covU.toMat nE nE = (f * f) • Su := (scaled_smul (f * f) s.covU hd.covU_ws).toMat _ _
  unfold C15.Lyap
  rw [hS]
  exact C15.scaling_lyapunov _ (stable_Lyap s hd.covU_cols OmS h).1

/-- **the scaling law on the model's solver output**: when `I − T⊗T` is non-singular, the covariance the model
computes for the model with all std multiplied by `f` *is* `f²` times the original one (equality of `QMat` values) -/
theorem rescale_solution (hd : Dims s) (OmS OmS' : QMat) (f : Rat)
    (hdet : IsUnit (1 - Ts ⊗ₖ Ts).det)
    (h : lyapunov (TaStable s) (sigmaU s) = some OmS)
    (h' : lyapunov (TaStable (rescale s f)) (sigmaU (rescale s f)) = some OmS') :
    OmS' = QMat.smul (f * f) OmS := by
  obtain ⟨hr, hc, _⟩ := lyapunov_view (TaStable s) (sigmaU s) OmS nS rfl rfl h
  obtain ⟨hr', hc', hws', _⟩ := lyapunov_view (TaStable (rescale s f)) (sigmaU (rescale s f)) OmS' nS rfl rfl h'
  -- both `OmS'` and `f² OmS` solve the Lyapunov equation of the rescaled model (whose `Ts`, `Ps` are those of `s`:
  -- `TaStable_rescale`, `PaStable_rescale`), which has one solution
  have heq : OmS'.toMat nS nS = (f * f) • OmS.toMat nS nS :=
    (C15.lyapunov_unique_kron _ _ _ _ hdet (stable_Lyap (rescale s f) hd.covU_cols OmS' h').1
      (rescale_Lyap s hd OmS h f)).1
  refine eq_of_toMat_eq _ _ hws' (wellShaped_smul _ _) (hr'.trans hr.symm) (hc'.trans hc.symm) ?_
  rw [toMatrix_eq, hr', hc', heq, toMat_smul _ _ _ _ hr hc]

theorem covAlpha00_scaled {c : Rat} {Om Om' : QMat} (h : Scaled c Om Om') :
    Scaled c (covAlpha00 s Om) (covAlpha00 s Om') := by
  refine ⟨Eq.refl s.na, Eq.refl s.na, fun i j => ?_⟩
  unfold covAlpha00
  rw [get_ofFn, get_ofFn, h.get, mul_ite, mul_ite, mul_zero]

theorem covTriangular00_scaled (hw : s.covW.wellShaped = true) (f : Rat) {Om Om' : QMat} (h : Scaled (f * f) Om Om') :
    Scaled (f * f) (covTriangular00 s Om) (covTriangular00 (rescale s f) Om') := by
  have hca := covAlpha00_scaled s h
  have hcay : Scaled (f * f) (covAlpha00 s Om * s.Za.transpose) (covAlpha00 s Om' * s.Za.transpose) :=
    hca.mul_right _
  have hy : Scaled (f * f) (covY00 s Om) (covY00 (rescale s f) Om') :=
    Scaled.add ((h.mul_left (ZaStable s)).mul_right (ZaStable s).transpose)
      (((scaled_smul (f * f) s.covW hw).mul_left s.H).mul_right s.H.transpose)
  exact Scaled.vstack (Scaled.hstack hca hcay) (Scaled.hstack hcay.transpose hy)

/-- **the `s²` law for every autocovariance of the model** (entrywise, hence for every reported cell):
`Γ_j` of the rescaled model computed from the scaled stable-block covariance is `f²` times `Γ_j` -/
theorem autocovTriangular_scaled (hw : s.covW.wellShaped = true) (f : Rat) {Om Om' : QMat}
    (h : Scaled (f * f) Om Om') (j : Nat) :
    Scaled (f * f) (autocovTriangular s Om j) (autocovTriangular (rescale s f) Om' j) := by
  induction j with
  | zero => exact covTriangular00_scaled s hw f h
  | succ j ih => exact ih.mul_left (Acov.calA s)

theorem toSquare_scaled (f : Rat) {g g' : QMat} (h : Scaled (f * f) g g') :
    Scaled (f * f) (toSquare s g) (toSquare (rescale s f) g') :=
  (h.mul_left (bigU s)).mul_right (bigU s).transpose

/-- **the scaling law end to end**: under non-singularity of `I − T⊗T`, every autocovariance matrix the model reports
for the rescaled model (before the NaN mask and the selection, which only copy cells) is `f²` times the original -/
theorem acov_rescale (hd : Dims s) (OmS OmS' : QMat) (f : Rat)
    (hdet : IsUnit (1 - Ts ⊗ₖ Ts).det)
    (h : lyapunov (TaStable s) (sigmaU s) = some OmS)
    (h' : lyapunov (TaStable (rescale s f)) (sigmaU (rescale s f)) = some OmS') (j : Nat) :
    Scaled (f * f) (toSquare s (autocovTriangular s OmS j))
      (toSquare (rescale s f) (autocovTriangular (rescale s f) OmS' j)) := by
  rw [rescale_solution s hd OmS OmS' f hdet h h']
  have hO : OmS.wellShaped = true := (lyapunov_view (TaStable s) (sigmaU s) OmS nS rfl rfl h).2.2.1
  exact toSquare_scaled s f (autocovTriangular_scaled s hd.covW_ws f (scaled_smul (f * f) OmS hO) j)

local notation "eS" => (finSumFinEquiv (m := s.nu) (n := s.na - s.nu)).symm

theorem covAlpha00_view (OmS : QMat) :
    (covAlpha00 s OmS).toMat N0 N0 =
      (fromBlocks (0 : Matrix (Fin s.nu) (Fin s.nu) ℚ) 0 0 (OmS.toMat nS nS)).submatrix eS eS := by
  unfold covAlpha00
  rw [toMat_padded]
  simp only [Nat.add_sub_cancel_left]
  rfl

theorem Ta00_view :
    (Ta00 s).toMat N0 N0 = (fromBlocks (0 : Matrix (Fin s.nu) (Fin s.nu) ℚ) 0 0 Ts).submatrix eS eS := by
  have hT : Ts = Matrix.of fun i j : Fin nS => s.Ta.get (s.nu + i) (s.nu + j) := toMat_ofFn _ _ _
  unfold Ta00
  rw [toMat_padded, hT]

/-- `Pa` with its unit-root rows set to zero -/
def Ppad : Matrix (Fin N0) (Fin nE) ℚ := (fromRows (0 : Matrix (Fin s.nu) (Fin nE) ℚ) Ps).submatrix eS id

theorem Ppad_apply (i : Fin N0) (j : Fin nE) :
    Ppad s i j = if s.nu ≤ (i : Nat) then s.Pa.get i j else 0 := by
  unfold Ppad PaStable
  refine Fin.addCases (fun i => ?_) (fun i => ?_) i
  · have := i.isLt
    simp [finSumFinEquiv_symm_apply_castAdd]
  · simp [finSumFinEquiv_symm_apply_natAdd, get_block]

/-- **`C15.padded_lyapunov` on the model**: the zero-padded covariance `cov_alpha_00` solves the Lyapunov equation of
the system whose unit-root rows and columns are set to zero (`Ta_00`, padded `Pa`) -/
theorem padded_Lyap (hU : s.covU.cols = s.Pa.cols) (OmS : QMat)
    (h : lyapunov (TaStable s) (sigmaU s) = some OmS) :
    C15.Lyap ((Ta00 s).toMat N0 N0) (Ppad s) Su ((covAlpha00 s OmS).toMat N0 N0) ∧
    ((covAlpha00 s OmS).toMat N0 N0)ᵀ = (covAlpha00 s OmS).toMat N0 N0 := by
  obtain ⟨hL, hsym⟩ := stable_Lyap s hU OmS h
  have hp := C15.padded_lyapunov (u := Fin s.nu) Ts Ps Su (OmS.toMat nS nS) hL
  unfold C15.Lyap at hp ⊢
  rw [covAlpha00_view, Ta00_view]
  constructor
  · unfold Ppad
    conv_lhs => rw [hp]
    simp only [Matrix.submatrix_add, Matrix.transpose_submatrix, Matrix.submatrix_mul_equiv, Pi.add_apply]
    -- the shock terms: `(P Σ Pᵀ).submatrix eS eS` and `P.submatrix eS id * Σ * Pᵀ.submatrix id eS` have the same entries by `rfl`
    congr 1
  · rw [Matrix.transpose_submatrix, Matrix.fromBlocks_transpose, hsym]
    simp only [Matrix.transpose_zero]

local notation "Zf" => s.Za.toMat s.ny N0
local notation "eJ" => (finSumFinEquiv (m := s.nu + (s.na - s.nu)) (n := s.ny)).symm

theorem Za_split : Zf = (fromCols (s.Za.toMat s.ny s.nu) Zs).submatrix id eS := by
  ext i j
  unfold ZaStable
  refine Fin.addCases (fun j => ?_) (fun j => ?_) j
  · simp [finSumFinEquiv_symm_apply_castAdd]
  · simp [finSumFinEquiv_symm_apply_natAdd, get_block]

/-- the zero block of the padded covariance removes the unit-root columns of `Za` (`Za_split`) from `Z Ω Zᵀ` -/
theorem Z_padded (OmS : QMat) :
    Zf * (covAlpha00 s OmS).toMat N0 N0 * Zfᵀ = Zs * OmS.toMat nS nS * Zsᵀ := by
  rw [covAlpha00_view, Za_split, Matrix.transpose_submatrix, Matrix.submatrix_mul_equiv,
    Matrix.submatrix_mul_equiv, fromCols_mul_fromBlocks, transpose_fromCols, fromCols_mul_fromRows]
  simp

/-- **the model's assembled `Γ_0` is `C15.Gamma0` of the padded system** (`get_cov_triangular_00`) -/
theorem covTriangular00_views (hd : Dims s) (hle : s.nu ≤ s.na) (hZc : s.Za.cols = s.na) (OmS : QMat)
    (hOc : OmS.cols = nS) :
    (covTriangular00 s OmS).Views ((C15.Gamma0 Zf Hm Sw ((covAlpha00 s OmS).toMat N0 N0)).submatrix eJ eJ) := by
  have hN : s.na = N0 := by omega
  have ca : (covAlpha00 s OmS).Views ((covAlpha00 s OmS).toMat N0 N0) := .of hN hN
  have cay := ca.mul (Views.of (a := s.Za) hd.Za_rows (hZc.trans hN)).transpose
  have := Views.fromBlocks ca cay cay.transpose (covY00_views s hd OmS hOc)
  rwa [← Z_padded] at this

theorem calA_views (hd : Dims s) (hle : s.nu ≤ s.na) (hZc : s.Za.cols = s.na) :
    (Acov.calA s).Views ((C15.calA ((Ta00 s).toMat N0 N0) Zf).submatrix eJ eJ) := by
  have hN : s.na = N0 := by omega
  have t : (Ta00 s).Views ((Ta00 s).toMat N0 N0) := .of hN hN
  exact Views.fromBlocks t (hN ▸ Views.zero s.na s.ny) ((Views.of (a := s.Za) hd.Za_rows (hZc.trans hN)).mul t)
    (Views.zero s.ny s.ny)

/-- **`C15.gamma0_fixed_point` for the matrix the model actually assembles**: `Γ_0 = get_cov_triangular_00`
(zero-padded unit-root block included) is a fixed point of second-moment propagation of the model's joint transition
matrix `𝒜 = calA s`, with the shock loading of the padded system -/
theorem covTriangular00_fixed_point (hd : Dims s) (hle : s.nu ≤ s.na) (hZc : s.Za.cols = s.na) (OmS : QMat)
    (h : lyapunov (TaStable s) (sigmaU s) = some OmS) :
    (covTriangular00 s OmS).toMat (N0 + s.ny) (N0 + s.ny) =
      (Acov.calA s).toMat (N0 + s.ny) (N0 + s.ny) * (covTriangular00 s OmS).toMat (N0 + s.ny) (N0 + s.ny)
          * ((Acov.calA s).toMat (N0 + s.ny) (N0 + s.ny))ᵀ
        + (C15.calB (Ppad s) Zf Hm * C15.calS Su Sw * (C15.calB (Ppad s) Zf Hm)ᵀ).submatrix eJ eJ := by
  obtain ⟨hL, hsym⟩ := padded_Lyap s hd.covU_cols OmS h
  have hOc : OmS.cols = nS := (lyapunov_view (TaStable s) (sigmaU s) OmS nS rfl rfl h).2.1
  have hfix := C15.gamma0_fixed_point _ (Ppad s) Zf Hm Su Sw _ hL hsym
  rw [(covTriangular00_views s hd hle hZc OmS hOc).toMat, (calA_views s hd hle hZc).toMat]
  conv_lhs => rw [hfix]
  simp only [Matrix.submatrix_add, Matrix.transpose_submatrix, Matrix.submatrix_mul_equiv, Pi.add_apply]

end model

namespace Examples

/-- AR(1) with coefficient 1/2 and a measurement `y = α + w`, unit variances: stationary variance 4/3 -/
def exSol : Sol :=
  ⟨1, 1, 0, QMat.ofRows [[1/2]], QMat.ofRows [[1]], QMat.ofRows [[1]], QMat.ofRows [[1]], QMat.ofRows [[1]],
    QMat.ofRows [[1]], QMat.ofRows [[1]], 0⟩

theorem ex_lyapunov :
    (lyapunov (TaStable exSol) (sigmaU exSol)).map (fun o => decide (3 * o.get 0 0 = 4)) = some true := by
  decide +kernel

theorem ex_rescaled :
    (lyapunov (TaStable (rescale exSol 3)) (sigmaU (rescale exSol 3))).map (fun o => decide (o.get 0 0 = 12))
      = some true := by
  decide +kernel

/-- the hypotheses `h` and `Dims` of the bridge theorems are met -/
example : (∃ OmS, lyapunov (TaStable exSol) (sigmaU exSol) = some OmS) ∧ Dims exSol := by
  constructor
  · obtain ⟨o, ho, _⟩ := Option.map_eq_some_iff.1 ex_lyapunov
    exact ⟨o, ho⟩
  · exact ⟨rfl, rfl, rfl, rfl, by decide +kernel, by decide +kernel⟩

end Examples

end IrisVerif.BridgeC15

/-! ## With the correctness of the executable solver (`Lemmas/QMatSolve.lean`): an answer of the model's Lyapunov solver
certifies `det (I − T⊗T) ≠ 0`, the hypothesis `hdet` of the rescaling theorems -/

namespace IrisVerif.QMatSolveBridge

open IrisVerif IrisVerif.QMat IrisVerif.Acov IrisVerif.BridgeC15
open Kronecker

theorem lyapunov_isUnit_det {T Sig Om : QMat} {n : Nat} (hr : T.rows = n) (hc : T.cols = n)
    (h : lyapunov T Sig = some Om) : IsUnit (1 - T.toMat n n ⊗ₖ T.toMat n n).det := by
  subst hr
  obtain ⟨⟨x, hs, _⟩, _⟩ := lyapunov_eq_some T Sig Om h
  have hT : T.Views (T.toMat T.rows T.rows) := .of rfl hc
  have hu : IsUnit ((QMat.identity (T.rows * T.rows) - QMat.kron T T).toMat (T.rows * T.rows) (T.rows * T.rows)).det :=
    solveChecked_isUnit_det _ _ x hs
  rw [((Views.identity _).sub (hT.kron hT)).toMat, ← Matrix.submatrix_one_equiv finProdFinEquiv.symm] at hu
  rw [← Matrix.det_submatrix_equiv_self finProdFinEquiv.symm]
  exact hu

/-- the scaling law on the model's solver output, for any two answers of the solver -/
theorem rescale_solution' (s : Sol) (hd : Dims s) (OmS OmS' : QMat) (f : Rat)
    (h : lyapunov (TaStable s) (sigmaU s) = some OmS)
    (h' : lyapunov (TaStable (rescale s f)) (sigmaU (rescale s f)) = some OmS') :
    OmS' = QMat.smul (f * f) OmS :=
  rescale_solution s hd OmS OmS' f (lyapunov_isUnit_det rfl rfl h) h h'

/-- … and for every autocovariance matrix the model reports -/
theorem acov_rescale' (s : Sol) (hd : Dims s) (OmS OmS' : QMat) (f : Rat)
    (h : lyapunov (TaStable s) (sigmaU s) = some OmS)
    (h' : lyapunov (TaStable (rescale s f)) (sigmaU (rescale s f)) = some OmS') (j : Nat) :
    Scaled (f * f) (toSquare s (autocovTriangular s OmS j))
      (toSquare (rescale s f) (autocovTriangular (rescale s f) OmS' j)) :=
  acov_rescale s hd OmS OmS' f (lyapunov_isUnit_det rfl rfl h) h h' j

end IrisVerif.QMatSolveBridge
