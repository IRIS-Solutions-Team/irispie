/-
C07 -- Simulation plans hit exogenized points exactly; swaps invert a simulation.  The clauses the docstrings refer to:
(1) every exogenized point of the output equals its input value; (2) only endogenized shocks move; (3) the output states are the
plain simulation of the output shocks from the same initial condition; (4) the shocks that do this are unique, so a swap inverts a
simulation (round trip); (5) under stacked time the unknown cells are (default unknowns ∖ exogenized) ∪ endogenized.

(1)–(3) are proved for the conditioning step of `fords/simulators.py: _simulate_conditional`, i.e. `kalmans.predict` /
`kalmans.one_step_back` with `H = 0`, `D = 0` (exogenized points are noiseless observations of current-dated states), over any
commutative ring and any dimensions; vectors are `· × k` matrices, and the definitions are the formulas of the code, line by line.
(4) is about the solution recursion and its impact matrix `M`; (5) and the plan registers about `IrisVerif.Model.Plans`.
-/
import Mathlib.Data.Matrix.Mul
import Mathlib.Data.Matrix.Block
import Mathlib.Data.Matrix.Diagonal
import Mathlib.LinearAlgebra.Matrix.NonsingularInverse
import Mathlib.Tactic.Abel
import IrisVerif.Lemmas.Kalman
import IrisVerif.Props.C07Frames

open Matrix

set_option linter.unusedSectionVars false

namespace IrisVerif.C07

section Smoother

variable {n p m q k : Type} [Fintype n] [Fintype p] [Fintype m] [Fintype q]
  [DecidableEq n] [DecidableEq p] [DecidableEq m] [DecidableEq q]
variable {K : Type} [CommRing K]

/-- `G = Q0 @ Z.T @ Fi` -/
def gain (Q0 : Matrix n n K) (Z : Matrix p n K) (Fi : Matrix p p K) : Matrix n p K := Q0 * Zᵀ * Fi

/-- `all_L[t] = T_next - T_next @ G @ Z` (filled in by the following period of `predict`) -/
def Lmat (Tn : Matrix n n K) (Q0 : Matrix n n K) (Z : Matrix p n K) (Fi : Matrix p p K) : Matrix n n K :=
  Tn - Tn * gain Q0 Z Fi * Z

/-- `pe = y1 - y0` with `y0 = Z @ a0` (`H = 0`, `D = 0`) -/
def predErr (Z : Matrix p n K) (a0 : Matrix n k K) (y : Matrix p k K) : Matrix p k K := y - Z * a0

/-- `r = Zt_Fi_pe + L.T @ r` -/
def rStep (Z : Matrix p n K) (Fi : Matrix p p K) (pe : Matrix p k K) (L : Matrix n n K) (rn : Matrix n k K) :
    Matrix n k K := Zᵀ * Fi * pe + Lᵀ * rn

/-- `r = Zt_Fi_pe` (the branch `r is None`: last period with observations) -/
def rLast (Z : Matrix p n K) (Fi : Matrix p p K) (pe : Matrix p k K) : Matrix n k K := Zᵀ * Fi * pe

/-- `ak = a0 + Q0 @ r` -/
def smoothState (a0 : Matrix n k K) (Q0 : Matrix n n K) (r : Matrix n k K) : Matrix n k K := a0 + Q0 * r

/-- `uk = uk + P_cov_u.T @ r` with `P_cov_u = P @ cov_u` -/
def smoothShock (u0 : Matrix m k K) (P : Matrix n m K) (S : Matrix m m K) (r : Matrix n k K) : Matrix m k K :=
  u0 + (P * S)ᵀ * r

/-- `a1 = a0 + G @ pe` -/
def filtState (a0 : Matrix n k K) (Q0 : Matrix n n K) (Z : Matrix p n K) (Fi : Matrix p p K) (pe : Matrix p k K) :
    Matrix n k K := a0 + gain Q0 Z Fi * pe

/-- `Q1 = Q0 - G @ Z @ Q0` -/
def filtMse (Q0 : Matrix n n K) (Z : Matrix p n K) (Fi : Matrix p p K) : Matrix n n K := Q0 - gain Q0 Z Fi * Z * Q0

/-- `Q0 = T @ Q1_prev @ T.T + P @ cov_u @ P.T` -/
def predMse (T : Matrix n n K) (Q1 : Matrix n n K) (P : Matrix n m K) (S : Matrix m m K) : Matrix n n K :=
  T * Q1 * Tᵀ + P * S * Pᵀ

theorem gain_transpose (Q0 : Matrix n n K) (Z : Matrix p n K) (Fi : Matrix p p K) (hQ : Q0ᵀ = Q0) (hFi : Fiᵀ = Fi) :
    (gain Q0 Z Fi)ᵀ = Fi * Z * Q0 := by
  rw [gain, Matrix.mul_assoc]
  exact KalmanAbs.gain_transpose Q0 Z Fi hQ hFi

/-- (1) Exogenized points are hit exactly, interior period: whatever the smoother has accumulated from
the later periods (`rn` arbitrary), the smoothed state reproduces the observation `y` in the observed rows. -/
theorem exogenized_hit
    (Tn : Matrix n n K) (Z : Matrix p n K) (Q0 : Matrix n n K) (Fi : Matrix p p K)
    (a0 rn : Matrix n k K) (y : Matrix p k K)
    (hQ : Q0ᵀ = Q0) (hFi : Fiᵀ = Fi) (hF : Z * Q0 * Zᵀ * Fi = 1) :
    Z * smoothState a0 Q0 (rStep Z Fi (predErr Z a0 y) (Lmat Tn Q0 Z Fi) rn) = y := by
  -- the measurement identity of one backward step without measurement noise (`H = 0`, `D = 0`: `F = Z Q0 Zᵀ`)
  have h := KalmanAbs.backward_step_measurement (H := (0 : Matrix p p K)) (Sw := 0) (w0 := 0) (D := 0) (F := Z * Q0 * Zᵀ)
    (G := gain Q0 Z Fi) (pe := predErr Z a0 y) Tn Z Q0 Fi a0 rn y
    (hS := transpose_zero) (hF := by rw [Matrix.zero_mul, Matrix.zero_mul, add_zero]) (hFi := hF)
    (hGT := gain_transpose Q0 Z Fi hQ hFi) (hpe := by rw [predErr, Matrix.zero_mul, add_zero, add_zero])
  rwa [Matrix.zero_mul, add_zero, add_zero] at h

/-- the observation matrix of `_generate_Z` is a row selection: `Z a` reads the rows `sel` of `a`.  Together with
`exogenized_hit` this says: the simulated variable in row `sel i` equals its input value `y i`. -/
theorem selection_reads (sel : p → n) (a : Matrix n k K) (i : p) (l : k) :
    ((Matrix.of fun (i : p) (j : n) => if sel i = j then (1 : K) else 0) * a) i l = a (sel i) l := by
  simp only [Matrix.mul_apply, Matrix.of_apply, ite_mul, one_mul, zero_mul, Finset.sum_ite_eq, Finset.mem_univ, if_true]

/-- (2) A shock with zero variance is returned unchanged: `cov_u = diag(std_u_endogenized²)` and
`uk = u0 + (P cov_u)ᵀ r`; a zero diagonal entry gives a zero row. -/
theorem zero_variance_shock_unchanged
    (u0 : Matrix m k K) (P : Matrix n m K) (d : m → K) (r : Matrix n k K) (j : m) (l : k) (hd : d j = 0) :
    smoothShock u0 P (Matrix.diagonal d) r j l = u0 j l := by
  rw [smoothShock, Matrix.add_apply, Matrix.mul_apply, Finset.sum_eq_zero, add_zero]
  intro i _
  rw [Matrix.transpose_apply, Matrix.mul_diagonal, hd, mul_zero, zero_mul]

/-- `_insert_std_endogenized_unanticipated`: the std is kept for endogenized cells and is 0 elsewhere -/
def endogenizedVar (std : m → K) (endo : m → Bool) : m → K := fun j => if endo j then std j * std j else 0

/-- (2) in the terms of the plan: only endogenized shocks move -/
theorem only_endogenized_shocks_move
    (u0 : Matrix m k K) (P : Matrix n m K) (std : m → K) (endo : m → Bool) (r : Matrix n k K) (j : m) (l : k)
    (hj : endo j = false) :
    smoothShock u0 P (Matrix.diagonal (endogenizedVar std endo)) r j l = u0 j l :=
  zero_variance_shock_unchanged u0 P _ r j l (by simp [endogenizedVar, hj])

/-- (3) in the first period.  `(aInit, QInit)` may be any filtered pair `(a1, Q1)` of a previous period, which makes this
the prediction half of (3) in every period. -/
theorem smoothed_transition_first
    {T : Matrix n n K} {P : Matrix n m K} {S : Matrix m m K} {c : Matrix n k K} {u0 : Matrix m k K}
    {aInit : Matrix n k K} {QInit : Matrix n n K} {r : Matrix n k K} (hS : Sᵀ = S) :
    smoothState (T * aInit + c + P * u0) (predMse T QInit P S) r
      = T * (aInit + QInit * Tᵀ * r) + c + P * smoothShock u0 P S r :=
  KalmanAbs.predicted_step_transition T P S c aInit u0 QInit r hS

/-- (3) Transition identity: the smoothed state of a period is the solution recursion applied to the smoothed
state of the previous period and the smoothed shocks of this one.  `c` collects `K` and the impact of the
(non-endogenized) anticipated shocks; primes mark the previous period.  Pure algebra: no inverse is used. -/
theorem smoothed_transition
    (T : Matrix n n K) (P : Matrix n m K) (S : Matrix m m K) (c : Matrix n k K) (u0 : Matrix m k K)
    (Z' : Matrix p n K) (Q0' : Matrix n n K) (Fi' : Matrix p p K) (a0' : Matrix n k K) (pe' : Matrix p k K)
    (r : Matrix n k K)
    (hQ : Q0'ᵀ = Q0') (hFi : Fi'ᵀ = Fi') (hS : Sᵀ = S) :
    let a0 := T * filtState a0' Q0' Z' Fi' pe' + c + P * u0
    let Q0 := predMse T (filtMse Q0' Z' Fi') P S
    let r' := rStep Z' Fi' pe' (Lmat T Q0' Z' Fi') r
    smoothState a0 Q0 r = T * smoothState a0' Q0' r' + c + P * smoothShock u0 P S r := by
  intro a0 Q0 r'
  -- `smoothState`, `rStep`, `Lmat`, `smoothShock` are the formulas of the conclusion of `backward_step_transition`;
  -- `filtMse`, `predMse`, `filtState` those of its hypotheses `hQ1`, `hQ0'`, `ha0'`
  exact KalmanAbs.backward_step_transition T P c a0' a0 Q0' Q0 (Q1 := filtMse Q0' Z' Fi') Z' Fi' (G := gain Q0' Z' Fi') S pe' u0 r
    (hG := Matrix.mul_assoc _ _ _) (hGT := gain_transpose Q0' Z' Fi' hQ hFi) (hQ1 := rfl) (hQ0' := rfl) (ha0' := rfl) (hSu := hS)

/-- the initial MSE of `_simulate_conditional` / `_adjust_initials` is zero in the rows of the model's own state
(`init_mse = 0`, block-diagonal extension for the endogenized anticipated shocks): the initial condition is kept -/
theorem initial_condition_kept
    (aInit : Matrix (n ⊕ q) k K) (QInit T : Matrix (n ⊕ q) (n ⊕ q) K) (r : Matrix (n ⊕ q) k K)
    (hQ : ∀ i j, QInit (Sum.inl i) j = 0) (i : n) (l : k) :
    (aInit + QInit * Tᵀ * r) (Sum.inl i) l = aInit (Sum.inl i) l := by
  rw [Matrix.add_apply, Matrix.mul_assoc, Matrix.mul_apply, Finset.sum_eq_zero (fun j _ => by rw [hQ, zero_mul]), add_zero]

/-- at the last period with observations the smoothed state is the filtered one, so the periods after it
(where `one_step_back` returns the prediction `a0 = T a1_prev + …` and `u0`) continue the same recursion -/
theorem smoothed_eq_filtered_at_last
    (Z : Matrix p n K) (Q0 : Matrix n n K) (Fi : Matrix p p K) (a0 : Matrix n k K) (pe : Matrix p k K) :
    smoothState a0 Q0 (rLast Z Fi pe) = filtState a0 Q0 Z Fi pe := by
  simp only [smoothState, rLast, filtState, gain, Matrix.mul_assoc]

theorem no_observation_no_update [IsEmpty p]
    (Z : Matrix p n K) (Q0 : Matrix n n K) (Fi : Matrix p p K) (a0 : Matrix n k K) (pe : Matrix p k K) :
    filtState a0 Q0 Z Fi pe = a0 := by
  ext i l; simp [filtState, Matrix.mul_apply]

/-- `top`, `bot`: the model's own block of an augmented vector and the appended one (endogenized anticipated shocks) -/
def top (a : Matrix (n ⊕ q) k K) : Matrix n k K := fun i l => a (Sum.inl i) l
def bot (a : Matrix (n ⊕ q) k K) : Matrix q k K := fun j l => a (Sum.inr j) l
/-- `np.pad` / `np.concatenate` of a block below -/
def stackRows (x : Matrix n k K) (y : Matrix q k K) : Matrix (n ⊕ q) k K :=
  fun i l => match i with | .inl i => x i l | .inr j => y j l

theorem top_stackRows (x : Matrix n k K) (y : Matrix q k K) : top (stackRows x y) = x := rfl
theorem bot_stackRows (x : Matrix n k K) (y : Matrix q k K) : bot (stackRows x y) = y := rfl

theorem stackRows_add (x x' : Matrix n k K) (y y' : Matrix q k K) :
    stackRows x y + stackRows x' y' = stackRows (x + x') (y + y') := by
  ext (i | j) l <;> rfl

theorem stackRows_mul (x : Matrix n m K) (y : Matrix q m K) (u : Matrix m k K) :
    stackRows x y * u = stackRows (x * u) (y * u) := by
  ext (i | j) l <;> rfl

theorem fromBlocks_mul_eq_stackRows (A : Matrix n n K) (B : Matrix n q K) (C : Matrix q n K) (D : Matrix q q K)
    (a : Matrix (n ⊕ q) k K) :
    Matrix.fromBlocks A B C D * a = stackRows (A * top a + B * bot a) (C * top a + D * bot a) := by
  ext (i | j) l <;>
    simp only [stackRows, top, bot, Matrix.add_apply, Matrix.mul_apply, Fintype.sum_sum_type, Matrix.fromBlocks_apply₁₁,
      Matrix.fromBlocks_apply₁₂, Matrix.fromBlocks_apply₂₁, Matrix.fromBlocks_apply₂₂]

/-- state augmentation (`_generate_period_system` with endogenized anticipated shocks):
`T_aug = [[T, R],[0, I]]`, `K_aug = [K; 0]`, `P_aug = [P; 0]`.  If the augmented smoothed states satisfy the
augmented recursion then the model's own block satisfies `xi_t = T xi_{t-1} + R v + c + P u` and the
appended block (the endogenized anticipated shocks) is constant over time -- which is why `_store_smooth`
may read it off the last period. -/
theorem augmented_transition_blocks
    (T : Matrix n n K) (R : Matrix n q K) (P : Matrix n m K) (c : Matrix n k K) (u : Matrix m k K)
    (a a' : Matrix (n ⊕ q) k K)
    (h : a = Matrix.fromBlocks T R 0 1 * a' + stackRows c 0 + stackRows P 0 * u) :
    top a = T * top a' + R * bot a' + c + P * u ∧ bot a = bot a' := by
  subst h
  rw [fromBlocks_mul_eq_stackRows, stackRows_mul, stackRows_add, stackRows_add, top_stackRows, bot_stackRows,
    Matrix.zero_mul, Matrix.one_mul, Matrix.zero_mul, zero_add, add_zero, add_zero]
  exact ⟨rfl, rfl⟩

/-- symmetry is an invariant of the MSE recursion, so the hypotheses `Q0ᵀ = Q0`, `Fiᵀ = Fi` of (1) and (3) hold in
every period: prediction and update -/
theorem predMse_symm {T : Matrix n n K} {Q1 : Matrix n n K} {P : Matrix n m K} {S : Matrix m m K}
    (hQ : Q1ᵀ = Q1) (hS : Sᵀ = S) : (predMse T Q1 P S)ᵀ = predMse T Q1 P S :=
  KalmanAbs.transpose_pushforward T Q1 P S hQ hS

theorem filtMse_symm (Q0 : Matrix n n K) (Z : Matrix p n K) (Fi : Matrix p p K)
    (hQ : Q0ᵀ = Q0) (hFi : Fiᵀ = Fi) : (filtMse Q0 Z Fi)ᵀ = filtMse Q0 Z Fi := by
  rw [filtMse, gain, Matrix.mul_assoc Q0]
  exact KalmanAbs.updated_mse_symm Q0 Z Fi hQ hFi

/-- the inverse of a symmetric `F` is symmetric (`Fi = inv(F)`; the code symmetrizes it again) -/
theorem inverse_symm (F Fi : Matrix p p K) (hF : Fᵀ = F) (h1 : F * Fi = 1) : Fiᵀ = Fi :=
  KalmanAbs.inverse_symm F Fi hF h1

/-- `symmetrize` of `fords/covariances.py` is the identity on symmetric matrices -/
theorem symmetrize_of_symm [Invertible (2 : K)] (X : Matrix n n K) (hX : Xᵀ = X) : ⅟(2 : K) • (X + Xᵀ) = X :=
  KalmanAbs.symm_of_symmetric X hX

end Smoother

section WholeSample

variable {n m k : Type} [Fintype n] [Fintype m] [DecidableEq n] [DecidableEq m]
variable {K : Type} [CommRing K]
variable {p : ℕ → Type} [∀ t, Fintype (p t)] [∀ t, DecidableEq (p t)]

/-- what `_generate_period_system` / `_generate_period_data` hand to `kalmans.predict`, period by period (the number of
observed rows `p t` varies with `t`), the inverses `Fi t` that `predict` computes, and the initials.  Not an instance of
`KalmanAbs.Inputs` (`Lemmas/Kalman.lean`, the filter of C03/C08): there `T`, `P` are constant and the `symmetrize` calls need `2`
invertible; here `T t`, `P t` vary with the period (state augmentation), `H = 0`, `D = 0`, and any commutative ring will do. -/
structure CondSystem (n m k : Type) (K : Type) (p : ℕ → Type) where
  T : ℕ → Matrix n n K
  P : ℕ → Matrix n m K
  S : ℕ → Matrix m m K
  c : ℕ → Matrix n k K
  u0 : ℕ → Matrix m k K
  Z : (t : ℕ) → Matrix (p t) n K
  Fi : (t : ℕ) → Matrix (p t) (p t) K
  y : (t : ℕ) → Matrix (p t) k K
  aInit : Matrix n k K
  QInit : Matrix n n K

/-- the loop of `predict`: `(a1_prev, Q1_prev)` on entry to period `t` -/
def CondSystem.filt (s : CondSystem n m k K p) : ℕ → Matrix n k K × Matrix n n K
  | 0 => (s.aInit, s.QInit)
  | t + 1 =>
    let Q0 := predMse (s.T t) (s.filt t).2 (s.P t) (s.S t)
    let a0 := s.T t * (s.filt t).1 + s.c t + s.P t * s.u0 t
    (filtState a0 Q0 (s.Z t) (s.Fi t) (predErr (s.Z t) a0 (s.y t)), filtMse Q0 (s.Z t) (s.Fi t))

def CondSystem.Q0 (s : CondSystem n m k K p) (t : ℕ) : Matrix n n K := predMse (s.T t) (s.filt t).2 (s.P t) (s.S t)
def CondSystem.a0 (s : CondSystem n m k K p) (t : ℕ) : Matrix n k K := s.T t * (s.filt t).1 + s.c t + s.P t * s.u0 t
def CondSystem.pe (s : CondSystem n m k K p) (t : ℕ) : Matrix (p t) k K := predErr (s.Z t) (s.a0 t) (s.y t)

/-- `filt` repeats the bodies of `Q0`, `a0`, `pe` (which are defined from it): the filtered pair of period `t` in their terms -/
theorem CondSystem.filt_succ (s : CondSystem n m k K p) (t : ℕ) :
    s.filt (t + 1) = (filtState (s.a0 t) (s.Q0 t) (s.Z t) (s.Fi t) (s.pe t), filtMse (s.Q0 t) (s.Z t) (s.Fi t)) := rfl

theorem CondSystem.Q0_symm (s : CondSystem n m k K p) (hQ : s.QInitᵀ = s.QInit) (hS : ∀ t, (s.S t)ᵀ = s.S t)
    (hFi : ∀ t, (s.Fi t)ᵀ = s.Fi t) : ∀ t, (s.Q0 t)ᵀ = s.Q0 t := by
  have h1 : ∀ t, ((s.filt t).2)ᵀ = (s.filt t).2 := by
    intro t
    induction t with
    | zero => exact hQ
    | succ t ih =>
      rw [s.filt_succ]
      exact filtMse_symm (s.Q0 t) (s.Z t) (s.Fi t) (predMse_symm ih (hS t)) (hFi t)
  intro t
  exact predMse_symm (h1 t) (hS t)

/-- The conditional simulation over the whole frame.  `last` is the last period with exogenized points
(`cache.last_period_of_observations`); `r` is any sequence satisfying the two branches of `one_step_back`.
Hypotheses: the initial MSE and the shock covariances are symmetric (they are diagonal in the code), each `Fi t` is a
symmetric inverse of `F_t = Z_t Q0_t Z_tᵀ` (`H = 0`).  Then, for the smoothed states `a2 t = a0_t + Q0_t r_t` and shocks
`u2 t = u0_t + (P_t S_t)ᵀ r_t` that `_store_smooth` writes:
(1) every exogenized point is hit in every period up to `last`;
(3) the transition recursion holds between all consecutive periods and from the (smoothed) initial state. -/
theorem conditional_simulation_identities (s : CondSystem n m k K p) (last : ℕ) (r : ℕ → Matrix n k K)
    (hQ : s.QInitᵀ = s.QInit) (hS : ∀ t, (s.S t)ᵀ = s.S t) (hFi : ∀ t, (s.Fi t)ᵀ = s.Fi t)
    (hF : ∀ t, t ≤ last → s.Z t * s.Q0 t * (s.Z t)ᵀ * s.Fi t = 1)
    (hrLast : r last = rLast (s.Z last) (s.Fi last) (s.pe last))
    (hr : ∀ t, t < last →
      r t = rStep (s.Z t) (s.Fi t) (s.pe t) (Lmat (s.T (t + 1)) (s.Q0 t) (s.Z t) (s.Fi t)) (r (t + 1))) :
    (∀ t, t ≤ last → s.Z t * smoothState (s.a0 t) (s.Q0 t) (r t) = s.y t)
    ∧ (∀ t, t < last →
        smoothState (s.a0 (t + 1)) (s.Q0 (t + 1)) (r (t + 1))
          = s.T (t + 1) * smoothState (s.a0 t) (s.Q0 t) (r t) + s.c (t + 1)
            + s.P (t + 1) * smoothShock (s.u0 (t + 1)) (s.P (t + 1)) (s.S (t + 1)) (r (t + 1)))
    ∧ smoothState (s.a0 0) (s.Q0 0) (r 0)
        = s.T 0 * (s.aInit + s.QInit * (s.T 0)ᵀ * r 0) + s.c 0 + s.P 0 * smoothShock (s.u0 0) (s.P 0) (s.S 0) (r 0) := by
  have hQ0 := s.Q0_symm hQ hS hFi
  refine ⟨?_, ?_, ?_⟩
  · intro t ht
    rcases Nat.lt_or_eq_of_le ht with hlt | rfl
    · rw [hr t hlt]
      exact exogenized_hit _ _ _ _ _ _ _ (hQ0 t) (hFi t) (hF t ht)
    · -- `r is None` at the last period with observations: nothing is handed back
      have h := exogenized_hit (s.T t) (s.Z t) (s.Q0 t) (s.Fi t) (s.a0 t) 0 (s.y t) (hQ0 t) (hFi t) (hF t ht)
      rw [rStep, Matrix.mul_zero, add_zero] at h
      rw [hrLast]
      exact h
  · intro t hlt
    -- `s.a0 (t + 1)`, `s.Q0 (t + 1)` written out from period `t` are the `a0`, `Q0` that `smoothed_transition` builds
    rw [hr t hlt, CondSystem.a0, CondSystem.Q0, s.filt_succ t]
    exact smoothed_transition _ _ _ _ _ _ _ _ _ _ _ (hQ0 t) (hFi t) (hS (t + 1))
  · exact smoothed_transition_first (hS 0)

end WholeSample

section LogWrapper

/-- `frame_ds.logarithmize()` … `frame_ds.delogarithmize()` around `_simulate_conditional`, with `lg` / `ex` an abstract
inverse pair: the conditioning step works on `lg` of a log-variable.  If the observation handed to it is the
logarithmized input value (for a log-variable) and the linear step reproduces its observation (clause (1)), the
delogarithmized output equals the input value on the level scale.  (Handing over the level value of `input_data_array` makes the
output `ex target` instead.) -/
theorem logged_target_hits_level {α : Type} (lg ex : α → α) (hinv : ∀ x, ex (lg x) = x) (isLog : Bool)
    (target state : α) (hhit : state = if isLog then lg target else target) :
    (if isLog then ex state else state) = target := by
  subst hhit
  cases isLog
  · rfl
  · exact hinv target

/-- … and with the level value handed over instead, a log-variable comes out as `ex target` -/
theorem unlogged_target_misses {α : Type} (ex : α → α) (target state : α) (hhit : state = target) :
    ex state = ex target := by rw [hhit]

end LogWrapper

section Recursion

variable {n m ι : Type} [Fintype n] [Fintype m] [Fintype ι] [DecidableEq n] [DecidableEq m] [DecidableEq ι]
variable {K : Type} [CommRing K]

/-- `simulate_flat`: `simPath T d x0 t` is the state after `t` simulated periods; `d s` is everything of period `s` that
does not depend on the previous state (`K + P u_s + Σ_k R_k v_{s+k}`, see `drive`) -/
def simPath (T : Matrix n n K) (d : ℕ → n → K) (x0 : n → K) : ℕ → n → K
  | 0 => x0
  | t + 1 => T *ᵥ simPath T d x0 t + d t

/-- the period input of the recursion from the shocks: `K + P u_t + Σ_{j<H} R_j v_{t+j}` (`_get_solution_expansion`,
`_simulate_anticipated_shock_values`; `H` bounds the horizon, `v` is zero beyond the frame) -/
def drive (Kc : n → K) (P : Matrix n m K) (R : ℕ → Matrix n m K) (H : ℕ) (u v : ℕ → m → K) (t : ℕ) : n → K :=
  Kc + P *ᵥ u t + ∑ j ∈ Finset.range H, R j *ᵥ v (t + j)

/-- (3/4) determinism of the recursion: a sequence that starts at `x0` and satisfies the transition identity in every
period *is* the simulation (induction over periods).  For the smoothed states (clause (3)) it says that the output of the
conditional simulation is the plain simulation of its own shocks -- read column by column: clause (3) is an identity of `· × k`
matrices with `*`, this theorem is about vectors with `*ᵥ`, and the step between the two is not made here. -/
theorem recursion_deterministic (T : Matrix n n K) (d : ℕ → n → K) (x0 : n → K) (N : ℕ) (a : ℕ → n → K)
    (h0 : a 0 = x0) (hstep : ∀ t, t < N → a (t + 1) = T *ᵥ a t + d t) :
    ∀ t, t ≤ N → a t = simPath T d x0 t := by
  intro t
  induction t with
  | zero => exact fun _ => h0
  | succ t ih =>
    intro ht
    rw [hstep t ht, ih (Nat.le_of_lt ht)]
    rfl

theorem simPath_congr (T : Matrix n n K) (d d' : ℕ → n → K) (x0 : n → K) (N : ℕ) (h : ∀ t, t < N → d t = d' t) :
    ∀ t, t ≤ N → simPath T d x0 t = simPath T d' x0 t :=
  recursion_deterministic T d' x0 N (simPath T d x0) rfl fun t ht => by rw [simPath, h t ht]

theorem simPath_add (T : Matrix n n K) (d δ : ℕ → n → K) (x0 y0 : n → K) (t : ℕ) :
    simPath T (d + δ) (x0 + y0) t = simPath T d x0 t + simPath T δ y0 t := by
  induction t with
  | zero => rfl
  | succ t ih =>
    simp only [simPath, ih, Matrix.mulVec_add, Pi.add_apply]
    abel

theorem simPath_smul (T : Matrix n n K) (c : K) (δ : ℕ → n → K) (y0 : n → K) (t : ℕ) :
    simPath T (fun s => c • δ s) (c • y0) t = c • simPath T δ y0 t := by
  induction t with
  | zero => rfl
  | succ t ih => simp only [simPath, ih, Matrix.mulVec_smul, smul_add]

theorem simPath_zero (T : Matrix n n K) (t : ℕ) : simPath T (fun _ => 0) (0 : n → K) t = 0 := by
  simpa only [zero_smul] using simPath_smul T 0 (fun _ => 0) 0 t

/-- the input perturbation caused by instrument values `e`: `B i` is the input path of a unit of instrument `i` -/
def perturb (B : ι → ℕ → n → K) (e : ι → K) : ℕ → n → K := fun s => ∑ i, e i • B i s

theorem simPath_perturb (T : Matrix n n K) (B : ι → ℕ → n → K) (e : ι → K) (t : ℕ) :
    simPath T (perturb B e) 0 t = ∑ i, e i • simPath T (B i) 0 t := by
  induction t with
  | zero => simp [simPath]
  | succ t ih =>
    simp only [simPath, ih, perturb, Matrix.mulVec_sum, Matrix.mulVec_smul, smul_add, Finset.sum_add_distrib]

/-- the simulation is affine in the shocks: adding `e` to the instruments adds the zero-initial-condition,
zero-constant simulation of the perturbation -/
theorem simPath_affine (T : Matrix n n K) (d : ℕ → n → K) (x0 : n → K) (B : ι → ℕ → n → K) (e : ι → K) (t : ℕ) :
    simPath T (d + perturb B e) x0 t = simPath T d x0 t + ∑ i, e i • simPath T (B i) 0 t := by
  rw [← simPath_perturb, ← simPath_add, add_zero]

variable {τ : Type} [Fintype τ] [DecidableEq τ]

/-- the values of the exogenized cells `(period, row of xi)` along a path -/
def select (cell : τ → ℕ × n) (path : ℕ → n → K) : τ → K := fun j => path (cell j).1 (cell j).2

def impactMatrix (T : Matrix n n K) (B : ι → ℕ → n → K) (cell : τ → ℕ × n) : Matrix τ ι K :=
  Matrix.of fun j i => simPath T (B i) 0 (cell j).1 (cell j).2

/-- stacked impact formulation `x = x⁰ + M e` -/
theorem exogenized_affine (T : Matrix n n K) (d : ℕ → n → K) (x0 : n → K) (B : ι → ℕ → n → K)
    (cell : τ → ℕ × n) (e : ι → K) :
    select cell (simPath T (d + perturb B e) x0) = select cell (simPath T d x0) + impactMatrix T B cell *ᵥ e := by
  funext j
  simp only [select, simPath_affine, Pi.add_apply, Finset.sum_apply, Pi.smul_apply, smul_eq_mul,
    impactMatrix, Matrix.mulVec, dotProduct, Matrix.of_apply]
  exact congrArg _ (Finset.sum_congr rfl fun i _ => mul_comm _ _)

/-- (4) uniqueness: with a non-singular impact matrix two instrument vectors with the same effect are equal -/
theorem instruments_unique (M : Matrix ι ι K) (hM : IsUnit M.det) (e e' : ι → K) (h : M *ᵥ e = M *ᵥ e') : e = e' :=
  Matrix.mulVec_injective_of_isUnit ((Matrix.isUnit_iff_isUnit_det M).2 hM) h

/-- (4) the conditional problem has exactly one solution among the shock paths that differ from the input only in
the instruments: if `e` and `e'` both put every exogenized cell on its target, they coincide, and so do the paths. -/
theorem conditional_solution_unique (T : Matrix n n K) (d : ℕ → n → K) (x0 : n → K) (B : ι → ℕ → n → K)
    (cell : ι → ℕ × n) (hM : IsUnit (impactMatrix T B cell).det) (target : ι → K) (e e' : ι → K)
    (h : select cell (simPath T (d + perturb B e) x0) = target)
    (h' : select cell (simPath T (d + perturb B e') x0) = target) :
    e = e' ∧ ∀ t, simPath T (d + perturb B e) x0 t = simPath T (d + perturb B e') x0 t := by
  have he : e = e' := by
    apply instruments_unique _ hM
    apply add_left_cancel (a := select cell (simPath T d x0))
    rw [← exogenized_affine, ← exogenized_affine, h, h']
  exact ⟨he, fun t => by rw [he]⟩

/-- (4) inversion / round trip.  First leg: a plain simulation with instrument values `eTrue` (on top of the
second leg's input `d`); the targets are read off it.  Second leg: any output that (a) is a simulation from the same
initial condition (clause (3) + `recursion_deterministic`), (b) whose shocks differ from the input only in the instruments,
by some `eOut` (clause (2)), and (c) hits the targets (clause (1)).  If the impact matrix is non-singular the second
leg returns the original instrument values and the whole original path. -/
theorem roundtrip_recovers (T : Matrix n n K) (d : ℕ → n → K) (x0 : n → K) (B : ι → ℕ → n → K)
    (cell : ι → ℕ × n) (hM : IsUnit (impactMatrix T B cell).det) (eTrue eOut : ι → K) (N : ℕ)
    (out : ℕ → n → K)
    (h0 : out 0 = x0)
    (hsim : ∀ t, t < N → out (t + 1) = T *ᵥ out t + (d + perturb B eOut) t)
    (hcells : ∀ j, (cell j).1 ≤ N)
    (hhit : select cell out = select cell (simPath T (d + perturb B eTrue) x0)) :
    eOut = eTrue ∧ ∀ t, t ≤ N → out t = simPath T (d + perturb B eTrue) x0 t := by
  have hdet := recursion_deterministic T (d + perturb B eOut) x0 N out h0 hsim
  have hsel : select cell (simPath T (d + perturb B eOut) x0) = select cell out :=
    funext fun j => by rw [select, select, hdet _ (hcells j)]
  have := conditional_solution_unique T d x0 B cell hM (select cell (simPath T (d + perturb B eTrue) x0)) eOut eTrue
    (hsel.trans hhit) rfl
  exact ⟨this.1, fun t ht => by rw [hdet t ht, this.1]⟩

/-- the perturbation of the period inputs caused by adding `e i` times the direction `(du i, dv i)` to the shocks:
for an endogenized unanticipated cell `(j, s)` the direction is the indicator of that cell in `u`, for an anticipated
one in `v` -/
theorem drive_perturb (Kc : n → K) (P : Matrix n m K) (R : ℕ → Matrix n m K) (H : ℕ) (u v : ℕ → m → K)
    (du dv : ι → ℕ → m → K) (e : ι → K) :
    drive Kc P R H (fun t => u t + ∑ i, e i • du i t) (fun t => v t + ∑ i, e i • dv i t)
      = drive Kc P R H u v + perturb (fun i => drive 0 P R H (du i) (dv i)) e := by
  funext t
  simp only [drive, perturb, Pi.add_apply, Matrix.mulVec_add, Matrix.mulVec_sum, Matrix.mulVec_smul,
    Finset.sum_add_distrib, smul_add, zero_add, Finset.smul_sum]
  rw [Finset.sum_comm (s := Finset.range H)]
  abel

end Recursion

section Stacked

open IrisVerif.Plans

theorem contains_iff (l : List Spot) (s : Spot) : l.contains s = true ↔ s ∈ l := List.contains_iff_mem

theorem notContains_iff (l : List Spot) (s : Spot) : (!l.contains s) = true ↔ s ∉ l := by simp

/-- `_copy_exogenized_data_to_frame_data`: exogenized cells take the input value and no other cell is touched -/
theorem copyExogenized_exogenized (data input : Spot → Rat) (exo : List Spot) (s : Spot) (h : s ∈ exo) :
    copyExogenized data input exo s = input s := by
  simp [copyExogenized, h]

theorem copyExogenized_other (data input : Spot → Rat) (exo : List Spot) (s : Spot) (h : s ∉ exo) :
    copyExogenized data input exo s = data s := by
  simp [copyExogenized, h]

theorem mem_unionSpots (a b : List Spot) (s : Spot) : s ∈ unionSpots a b ↔ s ∈ a ∨ s ∈ b := by
  rw [unionSpots, List.mem_append, List.mem_filter, notContains_iff, or_and_left, and_iff_left (Classical.em _)]

theorem unionSpots_nodup (a b : List Spot) (ha : a.Nodup) (hb : b.Nodup) : (unionSpots a b).Nodup := by
  unfold unionSpots
  refine List.Nodup.append ha (hb.filter _) ?_
  intro s hs hs'
  simp only [List.mem_filter, notContains_iff] at hs'
  exact hs'.2 hs

/-- (5) the swapped cells are exactly the planned ones: a cell is an unknown of the stacked system iff it is a default
unknown that is not exogenized, or an endogenized shock cell -/
theorem mem_swapSpots (all exo endo : List Spot) (s : Spot) :
    s ∈ swapSpots all exo endo ↔ (s ∈ all ∧ s ∉ exo) ∨ s ∈ endo := by
  simp only [swapSpots, mem_unionSpots, List.mem_filter, notContains_iff]

/-- (5) counting: removing the exogenized cells (all of them default unknowns) and adding the endogenized ones (none of
them a default unknown) changes the number of unknowns by `|endo| - |exo|` -/
theorem swapSpots_length (all exo endo : List Spot) (hall : all.Nodup) (hexo : exo.Nodup)
    (hsub : ∀ s, s ∈ exo → s ∈ all) (hdisj : ∀ s, s ∈ endo → s ∉ all) :
    (swapSpots all exo endo).length + exo.length = all.length + endo.length := by
  have h1 : (endo.filter (fun s => !(all.filter (fun s => !exo.contains s)).contains s)) = endo := by
    apply List.filter_eq_self.mpr
    intro s hs
    rw [notContains_iff, List.mem_filter]
    intro h; exact absurd h.1 (hdisj s hs)
  have h2 : (all.filter (fun s => exo.contains s)).length = exo.length := by
    apply List.Perm.length_eq
    apply (List.perm_ext_iff_of_nodup (hall.filter _) hexo).mpr
    intro s
    rw [List.mem_filter, List.contains_iff_mem]
    exact ⟨fun h => h.2, fun h => ⟨hsub s h, h⟩⟩
  rw [swapSpots, unionSpots, List.length_append, h1, List.length_eq_length_filter_add (fun s => exo.contains s) (l := all), h2,
    Nat.add_right_comm, Nat.add_comm exo.length]

theorem allSpots_length (cols qids : List Nat) : (allSpots cols qids).length = cols.length * qids.length := by
  simp [allSpots, List.length_flatMap]

/-- (5) for an exactly identified plan the stacked system stays square: as many unknown cells as default unknowns,
i.e. (number of columns to run) x (number of endogenous quantities) = the number of stacked equations -/
theorem exactly_identified_square (cols qids : List Nat) (exo endo : List Spot)
    (hall : (allSpots cols qids).Nodup) (hexo : exo.Nodup)
    (hsub : ∀ s, s ∈ exo → s ∈ allSpots cols qids) (hdisj : ∀ s, s ∈ endo → s ∉ allSpots cols qids)
    (hid : exo.length = endo.length) :
    ((swapSpots (allSpots cols qids) exo endo).mergeSort spotLe).length = cols.length * qids.length := by
  have h := swapSpots_length (allSpots cols qids) exo endo hall hexo hsub hdisj
  rw [List.length_mergeSort, ← allSpots_length]
  omega

/-- sorting does not change which cells are unknowns (`tuple(sorted(set …))`) -/
theorem mem_wrt_iff (cols qids : List Nat) (ea eu na nu : List (List Bool)) (eaQ euQ naQ nuQ : List Nat) (s : Spot) :
    s ∈ (getWrtSpots cols qids ea eu na nu eaQ euQ naQ nuQ).wrt ↔
      (s ∈ allSpots cols qids ∧
        ¬ (s ∈ spotsFromRegister ea eaQ cols ∨ s ∈ spotsFromRegister eu euQ (cols.take 1)))
      ∨ (s ∈ spotsFromRegister na naQ cols ∨ s ∈ spotsFromRegister nu nuQ (cols.take 1)) := by
  simp only [getWrtSpots, List.mem_mergeSort, mem_swapSpots, mem_unionSpots]

/-- the exogenized cells reported to `_copy_exogenized_data_to_frame_data`: anticipated ones in every column to run,
unanticipated ones in the first column of the frame only -/
theorem mem_exogenized_iff (cols qids : List Nat) (ea eu na nu : List (List Bool)) (eaQ euQ naQ nuQ : List Nat) (s : Spot) :
    s ∈ (getWrtSpots cols qids ea eu na nu eaQ euQ naQ nuQ).exogenized ↔
      s ∈ spotsFromRegister ea eaQ cols ∨ s ∈ spotsFromRegister eu euQ (cols.take 1) := by
  simp only [getWrtSpots, List.mem_mergeSort, mem_unionSpots]

/-- a cell comes out of a register exactly when its row is flagged in the column paired with it -/
theorem mem_spotsFromRegister (tbl : List (List Bool)) (rowQids cols : List Nat) (s : Spot) :
    s ∈ spotsFromRegister tbl rowQids cols ↔
      ∃ row, (s.1, row) ∈ rowQids.zip tbl ∧ (s.2, true) ∈ cols.zip row := by
  obtain ⟨q, c⟩ := s
  simp only [spotsFromRegister, List.mem_flatMap, List.mem_filterMap, Prod.exists, Option.ite_none_right_eq_some,
    Option.some.injEq, Prod.mk.injEq]
  constructor
  · rintro ⟨_, row, hrow, _, _, hcb, rfl, rfl, rfl⟩
    exact ⟨row, hrow, hcb⟩
  · rintro ⟨row, hrow, hcb⟩
    exact ⟨q, row, hrow, c, true, hcb, rfl, rfl, rfl⟩

end Stacked

section Registers

open IrisVerif.Plans

theorem get_set (p : Plan) (k k' : Kind) (r : Register) : (p.set k r).get k' = if k = k' then r else p.get k' := by
  cases k <;> cases k' <;> rfl

theorem set_numPeriods (p : Plan) (k : Kind) (r : Register) : (p.set k r).numPeriods = p.numPeriods := by
  cases k <;> rfl

/-- `write` is a nested `if`: names are validated first, then periods -/
theorem write_ok {p p' : Plan} {k : Kind} {periods : List Int} {names : List Nat} {st : Bool}
    (h : p.write k periods names st = .ok p') :
    p' = p.set k ((p.get k).mapIdx fun i row =>
      if names.contains i then row.mapIdx (fun t s => if (periods.map Int.toNat).contains t then some st else s)
      else row) := by
  unfold Plan.write at h
  by_cases h1 : (names.any fun n => (p.get k).length ≤ n) = true
  · rw [if_pos h1] at h
    cases h
  · rw [if_neg h1] at h
    by_cases h2 : (periods.any fun t => t < 0 || (p.numPeriods : Int) ≤ t) = true
    · rw [if_pos h2] at h
      cases h
    · rw [if_neg h2] at h
      exact (Except.ok.inj h).symm

/-- `exogenize_*` / `endogenize_*` touch only their own register (the four statuses of a cell are independent) -/
theorem write_other_register (p p' : Plan) (k k' : Kind) (periods : List Int) (names : List Nat) (st : Bool)
    (h : p.write k periods names st = .ok p') (hk : k ≠ k') : p'.get k' = p.get k' := by
  rw [write_ok h, get_set, if_neg hk]

/-- a read reflects every write made so far (the registers are the only state): after an accepted write the row of
name `i` is the old row with `some status` in the written periods if `i` was named, and the old row otherwise -/
theorem write_row {p p' : Plan} {k : Kind} {periods : List Int} {names : List Nat} {st : Bool}
    (h : p.write k periods names st = .ok p') (i : Nat) :
    (p'.get k)[i]? = ((p.get k)[i]?).map fun row =>
      if names.contains i then row.mapIdx (fun t s => if (periods.map Int.toNat).contains t then some st else s) else row := by
  rw [write_ok h, get_set, if_pos rfl, List.getElem?_mapIdx]

/-- cell level: the boolean array read after a write shows `status` in every written cell and the previous status elsewhere -/
theorem write_cell (p p' : Plan) (k : Kind) (periods : List Int) (names : List Nat) (st : Bool)
    (h : p.write k periods names st = .ok p') (i t : Nat) (row : List Status) (s : Status)
    (hrow : (p.get k)[i]? = some row) (hcell : row[t]? = some s) :
    ∃ row', (p'.get k)[i]? = some row' ∧
      row'[t]? = some (if names.contains i ∧ (periods.map Int.toNat).contains t then some st else s) := by
  have hr := write_row h i
  rw [hrow, Option.map_some] at hr
  refine ⟨_, hr, ?_⟩
  by_cases hn : names.contains i = true
  · simp only [hn, if_true, List.getElem?_mapIdx, hcell, Option.map_some, true_and]
  · rw [if_neg hn, hcell, if_neg (fun h => hn h.1)]

theorem write_numPeriods (p p' : Plan) (k : Kind) (periods : List Int) (names : List Nat) (st : Bool)
    (h : p.write k periods names st = .ok p') : p'.numPeriods = p.numPeriods := by
  rw [write_ok h, set_numPeriods]

/-- the order (and multiplicity) in which the dates are handed over is irrelevant: a write depends on the period list only
through the set of its elements -- a tuple or list in any order, or a forward / backward / stepped span enumerating the same dates
(the enumeration itself is `Span` of property C09), register the same cells -/
theorem write_periods_set (p : Plan) (k : Kind) (periods periods' : List Int) (names : List Nat) (st : Bool)
    (h : ∀ t, t ∈ periods ↔ t ∈ periods') :
    p.write k periods names st = p.write k periods' names st :=
  C07Frames.write_set p k periods periods' names st h

/-- an invalid name or an out-of-span period rejects the whole call: nothing is written -/
theorem write_rejects (p : Plan) (k : Kind) (periods : List Int) (names : List Nat) (st : Bool)
    (h : (names.any fun n => (p.get k).length ≤ n) = true ∨
         (periods.any fun t => t < 0 || (p.numPeriods : Int) ≤ t) = true) :
    ∃ e, p.write k periods names st = .error e := by
  unfold Plan.write
  by_cases h1 : (names.any fun n => (p.get k).length ≤ n) = true
  · rw [if_pos h1]
    exact ⟨.badName, rfl⟩
  · rw [if_neg h1, if_pos (h.resolve_left h1)]
    exact ⟨.badPeriod, rfl⟩

/-- reading a register outside the plan span gives `False` (`_get_per_indexes` returns `None` there) -/
theorem boolArray_outside (np : Nat) (reg : Register) (periods : List Int) (i j : Nat) (row : List Bool) (t : Int)
    (hrow : (Plans.boolArray np reg periods)[i]? = some row) (ht : periods[j]? = some t)
    (hout : t < 0 ∨ (np : Int) ≤ t) : row[j]? = some false := by
  rw [Plans.boolArray, List.getElem?_map, Option.map_eq_some_iff] at hrow
  obtain ⟨r, -, rfl⟩ := hrow
  have hb : (decide (t < 0) || decide ((np : Int) ≤ t)) = true :=
    Bool.or_eq_true_iff.2 (hout.imp decide_eq_true decide_eq_true)
  rw [List.getElem?_map, ht, Option.map_some, if_pos hb]

theorem empty_isEmpty (np a b : Nat) : (Plan.empty np a b).isEmpty = true := by
  simp [Plan.empty, Plan.isEmpty, isActive, List.any_replicate]

end Registers

section Examples

open IrisVerif.Plans

/-- (1): `Z = [1 0]` observes the first of two states, `Q0 = [[2,1],[1,3]]` symmetric, `F = 2`, `Fi = 1/2` -/
example : ∃ (Z : Matrix (Fin 1) (Fin 2) ℚ) (Q0 : Matrix (Fin 2) (Fin 2) ℚ) (Fi : Matrix (Fin 1) (Fin 1) ℚ),
    Q0ᵀ = Q0 ∧ Fiᵀ = Fi ∧ Z * Q0 * Zᵀ * Fi = 1 ∧ Z ≠ 0 :=
  ⟨!![1, 0], !![2, 1; 1, 3], !![1/2], by decide +kernel, by decide +kernel, by decide +kernel, by decide +kernel⟩

/-- whole sample: a one-state system observed in period 0 (`Q0 = 1`, `F = 1`): the hypotheses of
`conditional_simulation_identities` hold with `last = 0` -/
example : ∃ (s : CondSystem (Fin 1) (Fin 1) (Fin 1) ℚ (fun _ => Fin 1)),
    s.QInitᵀ = s.QInit ∧ (∀ t, (s.S t)ᵀ = s.S t) ∧ (∀ t, (s.Fi t)ᵀ = s.Fi t) ∧
    (∀ t, t ≤ 0 → s.Z t * s.Q0 t * (s.Z t)ᵀ * s.Fi t = 1) ∧ s.Z 0 ≠ 0 :=
  ⟨{ T := fun _ => !![1/2], P := fun _ => 1, S := fun _ => 1, c := fun _ => 0, u0 := fun _ => 0, Z := fun _ => 1,
     Fi := fun _ => 1, y := fun _ => !![3], aInit := !![1], QInit := 0 },
   transpose_zero, fun _ => transpose_one, fun _ => transpose_one,
   fun t ht => by
     obtain rfl := Nat.le_zero.1 ht
     decide +kernel,
   one_ne_zero⟩

/-- (4): a 2-state recursion, two instruments entering in period 0 and 1, targets in period 1 and 2: `det M = 1` -/
example : ∃ (T : Matrix (Fin 2) (Fin 2) ℚ) (B : Fin 2 → ℕ → Fin 2 → ℚ) (cell : Fin 2 → ℕ × Fin 2),
    IsUnit (impactMatrix T B cell).det :=
  ⟨!![1/2, 0; 1, 1/2], fun i s => if s = i.val then ![1, 0] else 0, ![(1, 0), (2, 0)],
    isUnit_iff_ne_zero.2 (by decide +kernel)⟩

/-- (5): three endogenous quantities over two columns, one exogenized cell swapped for one shock cell: 6 unknowns -/
example : swapSpots (allSpots [1, 2] [0, 1, 2])
      (unionSpots (spotsFromRegister [[false, true], [false, false], [false, false]] [0, 1, 2] [1, 2]) [])
      (unionSpots (spotsFromRegister [[false, true], [false, false], [false, false]] [6, 7, 8] [1, 2]) [])
    = [(0, 1), (1, 1), (2, 1), (1, 2), (2, 2), (6, 2)] := by decide +kernel

example : ((Plan.empty 3 2 2).write .exoAnt [1] [0] true).toOption.map (fun p => p.boolArray .exoAnt [0, 1, 2, 3])
    = some [[false, true, false, false], [false, false, false, false]] := by decide +kernel
example : (match (Plan.empty 3 2 2).write .exoAnt [3] [0] true with | .error .badPeriod => true | _ => false) = true := by
  decide +kernel

end Examples

end IrisVerif.C07
