/-
C12, continued: extensionality of the trimmed representation (comparing `(start, rows)` is comparing maps) and structural
round trips; variant locality; keyword resolution; the memoised per-variant loop of arip; finding C12-a (DAILY targets)
clause by clause; non-finite observations; spellings of the arip model; `select` with `discard_missing`; rejections.
-/
import IrisVerif.Props.C12

namespace IrisVerif.C12
open IrisVerif.Dates IrisVerif.Gen.Dates IrisVerif.Dates.C09 IrisVerif.Conv

/-! ## Extensionality of the trimmed representation -/

/-- every stored row has one entry per variant -/
def WellShaped (s : Ser) : Prop := ∀ r ∈ s.rows, r.length = s.nv

/-- what `Series.trim` guarantees: no rows at all, or a first and a last row that each hold an observation -/
def Trimmed (s : Ser) : Prop :=
  s.rows = [] ∨ (∃ r, s.rows.head? = some r ∧ rowMissing r = false) ∧ (∃ r, s.rows.getLast? = some r ∧ rowMissing r = false)

theorem get_at_row (s : Ser) (i : Nat) (hi : i < s.rows.length) (v : Nat) (hv : v < s.rows[i].length) :
    s.get v (s.start + i) = s.rows[i][v] := by
  rw [Ser.get_eq, if_neg (by omega), show (s.start + (i : Int) - s.start).toNat = i by omega, rowsGet,
    List.getElem?_eq_getElem hi, Option.bind_some, List.getElem?_eq_getElem hv, Option.join_some]

theorem exists_obs_of_not_missing (r : List Val) (h : rowMissing r = false) : ∃ v, ∃ hv : v < r.length, r[v] ≠ none := by
  obtain ⟨x, hx, hn⟩ := List.all_eq_false.1 h
  obtain ⟨v, hv, rfl⟩ := List.getElem_of_mem hx
  exact ⟨v, hv, fun e => hn (e ▸ rfl)⟩

theorem obs_at_row (s : Ser) (hw : WellShaped s) (i : Nat) (hi : i < s.rows.length) (hm : rowMissing s.rows[i] = false) :
    ∃ v, v < s.nv ∧ s.get v (s.start + i) ≠ none := by
  obtain ⟨v, hv, ho⟩ := exists_obs_of_not_missing _ hm
  exact ⟨v, hw _ (List.getElem_mem hi) ▸ hv, by rwa [get_at_row s i hi v hv]⟩

theorem Trimmed.ends (s : Ser) (hw : WellShaped s) (ht : Trimmed s) (hne : s.rows ≠ []) :
    (∃ v, v < s.nv ∧ s.get v s.start ≠ none) ∧ (∃ v, v < s.nv ∧ s.get v s.endSerial ≠ none) := by
  rcases ht with h | ⟨⟨r0, h0, m0⟩, ⟨r1, h1, m1⟩⟩
  · exact absurd h hne
  · rw [List.head?_eq_getElem?] at h0
    rw [List.getLast?_eq_getElem?] at h1
    obtain ⟨i0, rfl⟩ := List.getElem?_eq_some_iff.1 h0
    obtain ⟨i1, rfl⟩ := List.getElem?_eq_some_iff.1 h1
    rw [show s.endSerial = s.start + ((s.rows.length - 1 : Nat) : Int) by unfold Ser.endSerial; omega]
    exact ⟨by simpa using obs_at_row s hw 0 i0 m0, obs_at_row s hw _ i1 m1⟩

theorem get_ne_none_range (s : Ser) (v : Nat) (t : Int) (h : s.get v t ≠ none) : s.start ≤ t ∧ t ≤ s.endSerial :=
  Decidable.by_contra fun hc => h (Ser.get_outside s v t (by omega))

/-- **Extensionality of the trimmed representation.** Two trimmed, well-shaped series with the same number of variants that
agree as period-indexed maps have the same rows and — unless both are empty — the same start: comparing `(start, rows)`,
as the harness does, is comparing the maps. -/
theorem trimmed_ext (s s' : Ser) (hnv : s.nv = s'.nv) (hw : WellShaped s) (hw' : WellShaped s')
    (ht : Trimmed s) (ht' : Trimmed s') (hget : ∀ v, v < s.nv → ∀ t, s.get v t = s'.get v t) :
    s.rows = s'.rows ∧ (s.rows ≠ [] → s.start = s'.start) := by
  by_cases he : s.rows = []
  · by_cases he' : s'.rows = []
    · exact ⟨by rw [he, he'], fun h => absurd he h⟩
    · obtain ⟨⟨v, hv, ho⟩, _⟩ := Trimmed.ends s' hw' ht' he'
      exact absurd ((hget v (by omega) _).symm.trans (Ser.get_of_rows_nil he v _)) ho
  · by_cases he' : s'.rows = []
    · obtain ⟨⟨v, hv, ho⟩, _⟩ := Trimmed.ends s hw ht he
      exact absurd ((hget v hv _).trans (Ser.get_of_rows_nil he' v _)) ho
    · obtain ⟨⟨v0, hv0, ho0⟩, ⟨v1, hv1, ho1⟩⟩ := Trimmed.ends s hw ht he
      obtain ⟨⟨w0, hw0, po0⟩, ⟨w1, hw1, po1⟩⟩ := Trimmed.ends s' hw' ht' he'
      have a1 := get_ne_none_range s' v0 s.start (by rw [← hget v0 hv0]; exact ho0)
      have a2 := get_ne_none_range s' v1 s.endSerial (by rw [← hget v1 hv1]; exact ho1)
      have b1 := get_ne_none_range s w0 s'.start (by rw [hget w0 (by omega)]; exact po0)
      have b2 := get_ne_none_range s w1 s'.endSerial (by rw [hget w1 (by omega)]; exact po1)
      have hstart : s.start = s'.start := by omega
      have hlen : s.rows.length = s'.rows.length := by unfold Ser.endSerial at *; omega
      refine ⟨?_, fun _ => hstart⟩
      apply List.ext_getElem hlen
      intro i h1 h2
      have l1 := hw _ (List.getElem_mem h1)
      apply List.ext_getElem (by rw [l1, hw' _ (List.getElem_mem h2), hnv])
      intro v g1 g2
      rw [← get_at_row s i h1 v g1, ← get_at_row s' i h2 v g2, hget v (l1 ▸ g1), hstart]


/-! ### `Series.trim` yields the trimmed representation -/

theorem rtrimRows_prefix (rows : List (List Val)) : rtrimRows rows <+: rows := by
  induction rows with
  | nil => exact List.prefix_rfl
  | cons x xs ih =>
    rw [rtrimRows_cons]
    split
    · exact List.nil_prefix
    · exact List.cons_prefix_cons.2 ⟨rfl, ih⟩

theorem rtrimRows_spec (rows : List (List Val)) :
    rtrimRows rows = [] ∨ (∃ r, (rtrimRows rows).head? = some r ∧ rows.head? = some r) ∧
      ∃ r, (rtrimRows rows).getLast? = some r ∧ rowMissing r = false := by
  induction rows with
  | nil => left; rfl
  | cons x xs ih =>
    rw [rtrimRows_cons]
    split
    · left; rfl
    · rename_i hc
      refine .inr ⟨⟨x, rfl, rfl⟩, ?_⟩
      rw [List.getLast?_cons]
      rcases ih with h | ⟨_, r, hr, hm⟩
      · rw [h]
        exact ⟨x, rfl, Bool.eq_false_iff.2 fun hx => hc ⟨h, hx⟩⟩
      · rw [hr]
        exact ⟨r, rfl, hm⟩

theorem leadMissing_head (rows : List (List Val)) (r : List Val) (h : (rows.drop (leadMissing rows)).head? = some r) :
    rowMissing r = false := by
  induction rows with
  | nil => simp [leadMissing] at h
  | cons x xs ih =>
    unfold leadMissing at h
    split at h
    · exact ih (by simpa using h)
    · rename_i hx
      rw [List.drop_zero, List.head?_cons, Option.some.injEq] at h
      rw [← h]
      exact Bool.eq_false_iff.2 hx

theorem trim_trimmed (s : Ser) : Trimmed s.trim :=
  (rtrimRows_spec (s.rows.drop (leadMissing s.rows))).imp_right fun ⟨⟨r, h1, h2⟩, hl⟩ =>
    ⟨⟨r, h1, leadMissing_head s.rows r h2⟩, hl⟩

theorem trim_wellShaped (s : Ser) (h : WellShaped s) : WellShaped s.trim :=
  fun r hr => h r (List.mem_of_mem_drop ((rtrimRows_prefix _).subset hr))

/-- what `aggregate` returns is in trimmed, well-shaped form (regular pairs, stated without `select`) -/
theorem aggregate_regular_canonical (hi lo : Freq) (hp : (hi, lo) ∈ regularPairs) (s : Ser) (hs : s.freq = hi)
    (hne : s.rows ≠ []) (m : Method) (d : Bool) (r : Ser) (h : aggregate s lo m d none = .ok r) :
    Trimmed r ∧ WellShaped r := by
  obtain ⟨newStart, n, heq, _⟩ := aggregateRegular_blocks hi lo hp s hs m d none (aggPure d m) (fun _ _ => rfl)
  rw [aggregate_eq_aggregateRegular hi lo hp s hs hne, heq] at h
  cases h
  refine ⟨trim_trimmed _, trim_wellShaped _ ?_⟩
  intro r hr
  obtain ⟨j, _, rfl⟩ := List.mem_map.1 hr
  exact (List.length_map _).trans List.length_range

theorem roundtrip_structural_of_group (hi lo : Freq) (hp : (hi, lo) ∈ regularPairs) (s : Ser) (hs : s.freq = lo)
    (hne : s.rows ≠ []) (hw : WellShaped s) (ht : Trimmed s) (dm : DMethod) (m : Method) (disc : Bool)
    (hgrp : ∀ x : Val, aggPure disc m
      ((List.range (factorOf hi lo)).map fun i => if keeps (dm.offset (factorOf hi lo)) i then x else none) = x) :
    ∃ d a, disaggregate s hi dm = .ok d ∧ aggregate d lo m disc none = .ok a ∧
      a.freq = s.freq ∧ a.nv = s.nv ∧ a.start = s.start ∧ a.rows = s.rows := by
  obtain ⟨⟨v0, hv0, ho0⟩, _⟩ := Trimmed.ends s hw ht hne
  obtain ⟨d, a, ⟨hd, hdf, hdne⟩, ha, haf, han, hget⟩ := roundtrip_of_group hi lo hp s hs ⟨v0, _, ho0⟩ dm m disc hgrp
  obtain ⟨hta, hwa⟩ := aggregate_regular_canonical hi lo hp d hdf hdne m disc a ha
  obtain ⟨hrows, hstart⟩ := trimmed_ext a s han hwa hw hta ht (fun v hv t => hget v (by omega) t)
  exact ⟨d, a, hd, ha, by rw [haf, hs], han, hstart (by rw [hrows]; exact hne), hrows⟩

/-- **Round trips, structurally.** For a series in the representation every `Series` object has (trimmed, one entry per
variant in every row, at least one row), the round trip of `aggregate_disaggregate_roundtrip` returns the very same
`(start, rows)` — not merely the same map. -/
theorem aggregate_disaggregate_roundtrip_structural (hi lo : Freq) (hp : (hi, lo) ∈ regularPairs) (s : Ser) (hs : s.freq = lo)
    (hne : s.rows ≠ []) (hw : WellShaped s) (ht : Trimmed s) (dm : DMethod) (m : Method) (hc : (dm, m) ∈ matchingMethods) :
    ∃ d a, disaggregate s hi dm = .ok d ∧ aggregate d lo m false none = .ok a ∧
      a.freq = s.freq ∧ a.nv = s.nv ∧ a.start = s.start ∧ a.rows = s.rows :=
  roundtrip_structural_of_group hi lo hp s hs hne hw ht dm m false (group_roundtrip _ (factorOf_pos hi lo hp) dm m hc)


/-! ## Variant locality -/

/-- **Variant locality of regular aggregation.** Column `v` of the result is a function of column `v` of the input alone:
two series (possibly with different numbers of variants, starts and lengths) whose columns `v` and `v'` agree as maps give
results whose columns `v` and `v'` agree as maps. -/
theorem aggregate_variant_locality (hi lo : Freq) (hp : (hi, lo) ∈ regularPairs) (s s' : Ser) (hs : s.freq = hi)
    (hs' : s'.freq = hi) (hne : s.rows ≠ []) (hne' : s'.rows ≠ []) (m : Method) (d : Bool) (v v' : Nat)
    (hv : v < s.nv) (hv' : v' < s'.nv) (h : ∀ t, s.get v t = s'.get v' t) :
    ∃ r r', aggregate s lo m d none = .ok r ∧ aggregate s' lo m d none = .ok r' ∧ ∀ T, r.get v T = r'.get v' T := by
  obtain ⟨r, hr, _, _, hg⟩ := aggregate_regular_membership hi lo hp s hs hne m d
  obtain ⟨r', hr', _, _, hg'⟩ := aggregate_regular_membership hi lo hp s' hs' hne' m d
  refine ⟨r, r', hr, hr', fun T => ?_⟩
  rw [hg v hv T, hg' v' hv' T, List.map_congr_left fun t _ => h t]

/-- the same for daily → regular aggregation -/
theorem aggregate_daily_variant_locality (lo : Freq) (hlo : lo ∈ regularFreqs) (s s' : Ser) (hs : s.freq = .D)
    (hs' : s'.freq = .D) (hne : s.rows ≠ []) (hne' : s'.rows ≠ []) (m : Method) (d : Bool) (v v' : Nat)
    (hv : v < s.nv) (hv' : v' < s'.nv) (h : ∀ t, s.get v t = s'.get v' t) :
    ∃ r r', aggregate s lo m d none = .ok r ∧ aggregate s' lo m d none = .ok r' ∧ ∀ T, r.get v T = r'.get v' T := by
  obtain ⟨r, hr, _, _, hg⟩ := aggregate_daily_membership lo hlo s hs hne m d
  obtain ⟨r', hr', _, _, hg'⟩ := aggregate_daily_membership lo hlo s' hs' hne' m d
  refine ⟨r, r', hr, hr', fun T => ?_⟩
  rw [hg v hv T, hg' v' hv' T, List.map_congr_left fun t _ => h t]

/-- the same for disaggregation (regular targets) -/
theorem disaggregate_variant_locality (hi lo : Freq) (hp : (hi, lo) ∈ regularPairs) (s s' : Ser) (hs : s.freq = lo)
    (hs' : s'.freq = lo) (hne : s.rows ≠ []) (hne' : s'.rows ≠ []) (dm : DMethod) (v v' : Nat)
    (h : ∀ t, s.get v t = s'.get v' t) :
    ∃ r r', disaggregate s hi dm = .ok r ∧ disaggregate s' hi dm = .ok r' ∧ ∀ t, r.get v t = r'.get v' t := by
  obtain ⟨r, hr, _, _, hg⟩ := disaggregate_placement hi lo hp s hs hne dm
  obtain ⟨r', hr', _, _, hg'⟩ := disaggregate_placement hi lo hp s' hs' hne' dm
  refine ⟨r, r', hr, hr', fun t => ?_⟩
  rw [hg v t, hg' v' t, h]

/-! ## Keyword resolution -/

/-- an explicit `discard_missing` — `True` or `False` — wins over the legacy `remove_missing`; the legacy keyword is used
only when `discard_missing` is absent; with neither, missing values are kept; an absent method is "mean" -/
theorem option_resolution (d r : Bool) (m : Method) :
    resolveDiscard (some d) (some r) = d ∧ resolveDiscard (some d) none = d ∧ resolveDiscard none (some r) = r ∧
    resolveDiscard none none = false ∧ resolveMethod none = .mean ∧ resolveMethod (some m) = m := by
  refine ⟨rfl, rfl, rfl, rfl, rfl, rfl⟩

theorem aggregateOpts_default (s : Ser) (tf : Freq) :
    aggregateOpts s tf none none none none = aggregate s tf .mean false none := rfl

/-! ## A memoised per-variant loop -/

/-- the memo invariant: whatever is stored under a key is the value of `f` at every item with that key -/
def MemoSound {α κ β} [DecidableEq κ] (key : α → κ) (f : α → β) (memo : List (κ × β)) : Prop :=
  ∀ k b, memo.lookup k = some b → ∀ a, key a = k → f a = b

/-- **A memoised loop is the plain loop** as soon as the key determines the value (`key a = key a' → f a = f a'`) and the
memo it starts from is sound; in particular from the empty memo. The output for item `k` is then `f` of item `k` alone —
a pure function of that variant's own data, whatever was solved before. -/
theorem memoRun_eq_map {α κ β} [DecidableEq κ] (key : α → κ) (f : α → β) (hkey : ∀ a a', key a = key a' → f a = f a')
    (memo : List (κ × β)) (hm : MemoSound key f memo) (xs : List α) : memoRun key f memo xs = xs.map f := by
  induction xs generalizing memo with
  | nil => rfl
  | cons a as ih =>
    rw [memoRun, List.map_cons]
    split
    · rename_i b hl
      rw [ih memo hm, hm (key a) b hl a rfl]
    · rw [ih]
      intro k b hb a' ha'
      rw [List.lookup_cons] at hb
      split at hb
      · rename_i heq
        cases hb
        exact hkey a' a (ha'.trans (beq_iff_eq.1 heq))
      · exact hm k b hb a' ha'

theorem memoSound_nil {α κ β} [DecidableEq κ] (key : α → κ) (f : α → β) : MemoSound key f [] := by
  intro k b h; cases h

/-- the basic system matrices are a function of `basicKey = (nHigh, rho, const, sigma)`: memoising them on that key across
the data variants changes nothing -/
theorem aripBasic_memo_sound (vs : List AripIn) :
    memoRun AripIn.basicKey aripBasic [] vs = vs.map aripBasic := by
  apply memoRun_eq_map _ _ _ _ (memoSound_nil _ _)
  intro a a' h
  simp only [AripIn.basicKey, Prod.mk.injEq] at h
  obtain ⟨h1, h2, h3, h4⟩ := h
  simp [aripBasic, h1, h2, h3, h4]

/-- … whereas a key that forgets the drift constant is not enough: two "diff" variants with
`rho = 1` and different constants get the first variant's constant column -/
theorem aripBasic_memo_rho_only_unsound :
    let a : AripIn := ⟨1, 2, 1, 1, [1, 1], [1, 1], [some 4], [none, none]⟩
    let b : AripIn := ⟨1, 2, 1, 3, [1, 1], [1, 1], [some 8], [none, none]⟩
    (memoRun (fun x : AripIn => x.rho) (fun x => (aripBasic x).2.data) [] [a, b])
      ≠ [a, b].map (fun x => (aripBasic x).2.data) := by
  decide +kernel

/-- every variant is solved by its own system: entry `k` of `aripSolveAll` is `aripSolve` of variant `k` -/
theorem aripSolveAll_local (vs : List AripIn) (kkt : Bool) (k : Nat) (h : k < vs.length) :
    (aripSolveAll vs kkt)[k]'(by simpa [aripSolveAll] using h) = aripSolve vs[k] kkt := by
  simp [aripSolveAll]

/-! ## Finding C12-a, clause by clause (the model disaggregates to DAILY as irispie does: `factor = 365 // f`) -/

/-- placement clause: with a DAILY target the value of period `T` is *not* confined to the days of `T`
(January 31st 2020 carries February's value), -/
example : (disaggregate ⟨.M, 1, 24240, [[some 1], [some 2], [some 3]]⟩ .D .flat).map (fun r => r.get 0 737455) = .ok (some 2) ∧
    refrequent ⟨.D, 737455⟩ .M .start = .ok ⟨.M, 24240⟩ := disaggregate_daily_misplaces

/-- coverage clause: the last day of the last period receives nothing (March 31st 2020 = ordinal 737515 is missing), -/
theorem disaggregate_daily_leaves_days_uncovered :
    (disaggregate ⟨.M, 1, 24240, [[some 1], [some 2], [some 3]]⟩ .D .flat).map (fun r => (r.get 0 737515, r.rows.length))
      = .ok (none, 90) ∧ refrequent ⟨.D, 737515⟩ .M .start = .ok ⟨.M, 24242⟩ := by
  decide +kernel

/-- `first` clause: the value of February lands on January 31st instead of February 1st, -/
theorem disaggregate_daily_first_misplaced :
    (disaggregate ⟨.M, 1, 24240, [[some 1], [some 2], [some 3]]⟩ .D .first).map (fun r => (r.get 0 737455, r.get 0 737456))
      = .ok (some 2, none) := by
  decide +kernel

/-- round-trip clause: `aggregate mean (disaggregate flat s DAILY) ≠ s` — January comes back as `32/31`. -/
theorem disaggregate_daily_roundtrip_fails :
    ((disaggregate ⟨.M, 1, 24240, [[some 1], [some 2], [some 3]]⟩ .D .flat).bind fun d => aggregate d .M .mean false none).map
      (fun r => r.get 0 24240) = .ok (some (32 / 31)) := by
  decide +kernel

/-! ## Examples for the sections above -/

example : WellShaped ⟨.Q, 2, 8081, [[some 1, none], [none, none], [none, some 3]]⟩ := by
  unfold WellShaped
  decide
example : Trimmed ⟨.Q, 2, 8081, [[some 1, none], [none, none], [none, some 3]]⟩ := by
  right; exact ⟨⟨_, rfl, by decide⟩, ⟨_, rfl, by decide⟩⟩
example : (Ser.trim ⟨.Q, 1, 8080, [[none], [some 1], [none]]⟩) = ⟨.Q, 1, 8081, [[some 1]]⟩ := by decide +kernel
example : memoRun (fun x : Nat => x % 2) (fun x => x % 2 + 10) [] [1, 2, 3, 4] = [11, 10, 11, 10] := by decide
example : (aggregateOpts ⟨.Q, 1, 8081, [[none], [some 2], [some 3], [some 4]]⟩ .Y none none (some true) none).map (fun r => r.rows)
    = .ok [[some (5 / 2)], [some 4]] := by decide +kernel
example : (aggregateOpts ⟨.Q, 1, 8081, [[none], [some 2], [some 3], [some 4]]⟩ .Y (some .sum) (some false) (some true) none).map
    (fun r => r.rows) = .ok [] := by decide +kernel

/-! ## Non-finite observations -/

theorem ofVal_add (a b : Val) : XVal.ofVal (addVal a b) = (XVal.ofVal a).add (XVal.ofVal b) := by
  cases a <;> cases b <;> rfl
theorem ofVal_mul (a b : Val) : XVal.ofVal (mulVal a b) = (XVal.ofVal a).mul (XVal.ofVal b) := by
  cases a <;> cases b <;> rfl
theorem ofVal_lt (a b : Val) : (XVal.ofVal a).lt (XVal.ofVal b) = ltVal a b := by
  cases a <;> cases b <;> rfl
theorem ofVal_isNan (a : Val) : (XVal.ofVal a).isNan = !a.isSome := by cases a <;> rfl

/-- **The extended model refines the main one**: on rational / NaN data the within-period routine over `XVal` is the
routine of the main model (so every theorem about `aggPure` carries over), for every method, with and without discarding. -/
theorem xAggWithin_refines (d : Bool) (m : Method) (w : List Val) :
    xAggWithin d m (w.map XVal.ofVal) = XVal.ofVal (aggPure d m w) := by
  have hfilter : (w.map XVal.ofVal).filter (fun x => !x.isNan) = (w.filter Option.isSome).map XVal.ofVal := by
    rw [List.filter_map]
    congr 1
    apply List.filter_congr
    intro x _
    simp [Function.comp, ofVal_isNan]
  have key : ∀ u : List Val, (if (u.map XVal.ofVal).isEmpty then XVal.nan else xApply m (u.map XVal.ofVal))
      = XVal.ofVal (if u.isEmpty then none else m.apply u) := by
    intro u
    cases u with
    | nil => rfl
    | cons x xs =>
      simp only [List.map_cons, List.isEmpty_cons, Bool.false_eq_true, if_false]
      cases m
      · simp only [xApply, Method.apply, stMean, pySum, ← List.map_cons]
        rw [show XVal.fin 0 = XVal.ofVal (some 0) from rfl, foldl_map_hom XVal.ofVal addVal XVal.add ofVal_add]
        cases (x :: xs).foldl addVal (some 0) <;> simp [XVal.ofVal, XVal.divNat]
      · simp only [xApply, Method.apply, pySum, ← List.map_cons]
        exact foldl_map_hom XVal.ofVal addVal XVal.add ofVal_add (x :: xs) (some 0)
      · simp only [xApply, Method.apply, npProd, ← List.map_cons]
        exact foldl_map_hom XVal.ofVal mulVal XVal.mul ofVal_mul (x :: xs) (some 1)
      · cases x <;> simp [xApply, Method.apply, XVal.ofVal]
      · simp only [xApply, Method.apply, ← List.map_cons, List.getLast?_map]
        cases (x :: xs).getLast? with
        | none => rfl
        | some y => cases y <;> rfl
      · simp only [xApply, Method.apply, pyMin]
        exact foldl_map_hom XVal.ofVal (fun cur it => if ltVal it cur then it else cur) (fun cur it => if it.lt cur then it else cur)
          (fun a b => by rw [ofVal_lt]; split <;> rfl) xs x
      · simp only [xApply, Method.apply, pyMax]
        exact foldl_map_hom XVal.ofVal (fun cur it => if ltVal cur it then it else cur) (fun cur it => if cur.lt it then it else cur)
          (fun a b => by rw [ofVal_lt]; split <;> rfl) xs x
  cases d
  · simp only [xAggWithin, aggPure, Bool.false_eq_true, if_false]
    exact key w
  · simp only [xAggWithin, aggPure, if_true, hfilter]
    exact key _

/-- `discard_missing` removes NaN and nothing else: every non-NaN member — `±inf` included — is still handed to the method -/
theorem discard_keeps_every_observation (m : Method) (w : List XVal) :
    xAggWithin true m w = xAggWithin false m (w.filter fun x => !x.isNan) ∧
    ∀ x ∈ w, x.isNan = false → x ∈ w.filter fun x => !x.isNan := by
  constructor
  · simp [xAggWithin]
  · intro x hx hn
    exact List.mem_filter.2 ⟨hx, by rw [hn]; rfl⟩

theorem foldl_add_pinf (w : List XVal) (h1 : XVal.ninf ∉ w) (h2 : XVal.nan ∉ w) (a : XVal)
    (ha : a = .pinf ∨ (∃ q, a = .fin q) ∧ XVal.pinf ∈ w) : w.foldl XVal.add a = .pinf := by
  induction w generalizing a with
  | nil =>
    rcases ha with rfl | ⟨_, h⟩
    · rfl
    · cases h
  | cons x xs ih =>
    rw [List.foldl_cons]
    apply ih (fun h => h1 (List.mem_cons_of_mem _ h)) (fun h => h2 (List.mem_cons_of_mem _ h))
    cases x with
    | nan => exact absurd List.mem_cons_self h2
    | ninf => exact absurd List.mem_cons_self h1
    | pinf =>
      left
      rcases ha with rfl | ⟨⟨q, rfl⟩, _⟩ <;> rfl
    | fin r =>
      rcases ha with rfl | ⟨⟨q, rfl⟩, h⟩
      · exact .inl rfl
      · exact .inr ⟨⟨q + r, rfl⟩, (List.mem_cons.1 h).resolve_left (by simp)⟩

/-- a period with a `+inf` observation and neither `-inf` nor NaN has sum `+inf` and mean `+inf` -/
theorem sum_mean_with_pinf (w : List XVal) (h : XVal.pinf ∈ w) (h1 : XVal.ninf ∉ w) (h2 : XVal.nan ∉ w) :
    xAggWithin false .sum w = .pinf ∧ xAggWithin false .mean w = .pinf := by
  have hne : w.isEmpty = false := List.isEmpty_eq_false_iff.2 (List.ne_nil_of_mem h)
  have hsum : w.foldl XVal.add (.fin 0) = .pinf := foldl_add_pinf w h1 h2 (.fin 0) (.inr ⟨⟨0, rfl⟩, h⟩)
  simp only [xAggWithin, Bool.false_eq_true, if_false, hne, xApply, hsum, XVal.divNat, and_self]

/-- a period whose only observation is infinite keeps it under every method when missing values are discarded -/
theorem only_infinite_observation (m : Method) :
    xAggWithin true m [.pinf, .nan] = .pinf ∧ xAggWithin true m [.nan, .ninf, .nan] = .ninf := by
  cases m <;> decide

-- without discarding the IEEE rules apply: `inf + (-inf)`, `inf × 0` are NaN; `-inf` is the minimum, `+inf` the maximum
example : xAggWithin false .sum [.pinf, .ninf] = .nan ∧ xAggWithin false .prod [.pinf, .fin 0] = .nan ∧
    xAggWithin false .prod [.pinf, .ninf] = .ninf ∧ xAggWithin true .last [.fin 1, .ninf, .nan] = .ninf ∧
    xAggWithin false .min [.fin 1, .ninf] = .ninf ∧ xAggWithin false .max [.ninf, .fin 2, .fin 0] = .fin 2 := by decide +kernel

/-! ## Spellings of the arip model -/

/-- the documented aliases select the same form — hence the same `rho`, the same `sigma` vector and the same system — and
"avg" is "mean"; unknown spellings are rejected -/
theorem arip_spellings (rho : Rat) (n w : Nat) :
    AripForm.ofString? "multiplicative" = AripForm.ofString? "rate" ∧ AripForm.ofString? "additive" = AripForm.ofString? "diff" ∧
    (∀ f, AripForm.ofString? "multiplicative" = some f → f.sigma (f.rhoOf rho) n = (List.range n).map fun t => rho ^ t) ∧
    (∀ f, AripForm.ofString? "additive" = some f → f.sigma (f.rhoOf rho) n = List.replicate n 1 ∧ f.rhoOf rho = 1) ∧
    aripAggVector? "avg" w = aripAggVector? "mean" w ∧ AripForm.ofString? "level" = none := by
  refine ⟨rfl, rfl, ?_, ?_, rfl, rfl⟩
  · intro f h; cases h; rfl
  · intro f h; cases h; exact ⟨rfl, rfl⟩

example : (AripForm.rate).sigma 2 4 = [1, 2, 4, 8] ∧ aripAggVector? "last" 3 = some [0, 0, 1] := by decide +kernel

/-! ## `select` together with `discard_missing`: order of operations, full pipeline -/

/-- the members at the selected positions, in the order given (negative positions count from the end of the group) -/
def selPure (sel : List Int) (w : List Val) : List Val :=
  sel.map fun i => w.getD (if i < 0 then i + (w.length : Int) else i).toNat none

/-- all selected positions lie inside a group of `k` members -/
def SelValid (sel : List Int) (k : Nat) : Prop := ∀ i ∈ sel, -(k : Int) ≤ i ∧ i < k

theorem npTake_valid (sel : List Int) (w : List Val) (h : SelValid sel w.length) : npTake w sel = .ok (selPure sel w) := by
  rw [npTake_eq]
  exact mapM_ok_of_forall fun i hi => if_pos (h i hi)

/-- **Order of operations.** The positions of `select` index the *calendar* positions of the group (missing members
included); missing values are discarded afterwards, from the selected members only; then the method is applied. -/
theorem select_then_discard (sel : List Int) (d : Bool) (m : Method) (w : List Val) (h : SelValid sel w.length) :
    aggWithin (some sel) d m w = .ok (aggPure d m (selPure sel w)) ∧
    aggPure true m (selPure sel w) = aggPure false m ((selPure sel w).filter Option.isSome) :=
  ⟨(select_is_positional sel d m w).1 _ (npTake_valid sel w h), discard_is_method_on_present m _⟩

/-- selecting position 1 of `[NaN, 1, 2]` with discarding gives `1` (the calendar position), not `2` (the position among the
non-missing members); selecting position 0 gives a missing value -/
example : aggWithin (some [1]) true .sum [none, some 1, some 2] = .ok (some 1) ∧
    aggWithin (some [0]) true .sum [none, some 1, some 2] = .ok none ∧
    aggWithin (some [-1, 0]) true .first [none, some 1, some 2] = .ok (some 2) := by decide +kernel

theorem selPure_replicate_none (sel : List Int) (k : Nat) : selPure sel (List.replicate k none) = List.replicate sel.length none := by
  have h : ∀ i : Nat, (List.replicate k (none : Val)).getD i none = none := by
    intro i; rw [List.getD_eq_getElem?_getD, List.getElem?_replicate]; split <;> rfl
  simp only [selPure, h, List.map_const']

/-- **Membership with `select` (regular → regular), full pipeline.** With every selected position inside the group
(`-k ≤ i < k`), `aggregate` succeeds and at every low-frequency period `T` returns the method applied — after discarding
missing values if asked — to the members of `T` at the selected *calendar* positions, in the order given. -/
theorem aggregate_regular_membership_select (hi lo : Freq) (hp : (hi, lo) ∈ regularPairs) (s : Ser) (hs : s.freq = hi)
    (hne : s.rows ≠ []) (m : Method) (d : Bool) (sel : List Int) (hsel : SelValid sel (factorOf hi lo)) :
    ∃ r, aggregate s lo m d (some sel) = .ok r ∧ r.freq = lo ∧ r.nv = s.nv ∧
      ∀ v, v < s.nv → ∀ T : Int, r.get v T = aggPure d m (selPure sel ((members hi lo T).map (s.get v))) := by
  apply aggregate_regular_within hi lo hp s hs hne m d (some sel) (fun w => aggPure d m (selPure sel w))
  · intro w hw
    exact (select_then_discard sel d m w (hw ▸ hsel)).1
  · rw [selPure_replicate_none, aggPure_replicate_none]

example : SelValid [0, -1] (factorOf .Q .Y) := by
  unfold SelValid
  decide
example : (aggregate ⟨.Q, 1, 8080, [[none], [some 2], [some 3], [some 4]]⟩ .Y .sum true (some [0, -1])).map (fun r => r.rows)
    = .ok [[some 4]] := by decide +kernel

/-! ## Rejections -/

/-- what `aggregate` rejects (the code raises): an empty series, a finer target frequency; the same frequency is a no-op -/
theorem aggregate_rejects (s : Ser) (tf : Freq) (m : Method) (d : Bool) (sel : Option (List Int)) :
    (s.rows = [] → aggregate s tf m d sel = .error .badInput) ∧
    (s.rows ≠ [] → tf = s.freq → aggregate s tf m d sel = .ok s) ∧
    (s.rows ≠ [] → tf ≠ s.freq → tf.value > s.freq.value → aggregate s tf m d sel = .error .badInput) := by
  refine ⟨fun h => ?_, fun h1 h2 => ?_, fun h1 h2 h3 => ?_⟩
  · rw [aggregate, h, List.isEmpty_nil, if_pos rfl]
    rfl
  · rw [aggregate, List.isEmpty_eq_false_iff.2 h1, if_neg Bool.false_ne_true, if_pos h2]
    rfl
  · rw [aggregate, List.isEmpty_eq_false_iff.2 h1, if_neg Bool.false_ne_true, if_neg h2, if_pos h3]
    rfl

/-- what `disaggregate` rejects: an empty series, a coarser target frequency; the same frequency is a no-op -/
theorem disaggregate_rejects (s : Ser) (tf : Freq) (dm : DMethod) :
    (s.rows = [] → disaggregate s tf dm = .error .badInput) ∧
    (s.rows ≠ [] → tf = s.freq → disaggregate s tf dm = .ok s) ∧
    (s.rows ≠ [] → tf ≠ s.freq → tf.value < s.freq.value → disaggregate s tf dm = .error .badInput) := by
  refine ⟨fun h => ?_, fun h1 h2 => ?_, fun h1 h2 h3 => ?_⟩
  · rw [disaggregate, h, List.isEmpty_nil, if_pos rfl]
    rfl
  · rw [disaggregate, List.isEmpty_eq_false_iff.2 h1, if_neg Bool.false_ne_true, if_pos h2]
    rfl
  · rw [disaggregate, List.isEmpty_eq_false_iff.2 h1, if_neg Bool.false_ne_true, if_neg h2, if_pos h3]
    rfl

/-- the rejections on instances: a selected position outside the group makes the whole regular aggregation fail
(`IndexError`); so do a finer target, an empty series, an INTEGER target; `disaggregate` rejects an INTEGER source -/
example : aggregate ⟨.Q, 1, 8080, [[some 1], [some 2], [some 3], [some 4]]⟩ .Y .sum false (some [4]) = .error .badInput ∧
    aggregate ⟨.Q, 1, 8080, [[some 1]]⟩ .M .sum false none = .error .badInput ∧
    aggregate ⟨.Q, 1, 8080, []⟩ .Y .sum false none = .error .badInput ∧
    aggregate ⟨.Q, 1, 8080, [[some 1]]⟩ .I .sum false none = .error .badInput ∧
    disaggregate ⟨.I, 1, 3, [[some 1]]⟩ .Q .flat = .error .badInput := by decide +kernel

end IrisVerif.C12
