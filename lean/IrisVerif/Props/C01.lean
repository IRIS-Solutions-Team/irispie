/-
Property C01 -- first-order solution satisfies the model equations and is the stable one.

Spec-level reading of the executable model `IrisVerif/Model/FirstOrder.lean` over an arbitrary commutative ring `K`,
arbitrary finite index types (any number of variables, equations, shocks) and an arbitrary lead structure
`sh : nf → ℕ` (depth of every lead token), `src : nf → nb` (row of the zero-shift token of the same variable in the
solution vector).  Period `0` carries the initial condition, periods `t+1` are simulated.
-/
import Mathlib.Data.Matrix.Mul
import Mathlib.Tactic.Abel
import Mathlib.LinearAlgebra.Matrix.Notation
import Mathlib.Algebra.Order.Field.Rat
import Mathlib.Algebra.Order.BigOperators.Ring.Finset
import Mathlib.Algebra.Order.BigOperators.Group.Finset

open Matrix

-- a theorem carries the `[Fintype _]` / `[DecidableEq _]` of every index type it mentions, used by its proof or not
set_option linter.unusedSectionVars false

namespace IrisVerif.C01

variable {nf nb ne nu nj ny nw : Type} [Fintype nf] [Fintype nb] [Fintype ne] [Fintype nu] [Fintype nj] [Fintype ny] [Fintype nw]
variable [DecidableEq nb] [DecidableEq nj]
variable {K : Type} [CommRing K]

/-- `simulate_flat`: `ξ[t] = T ξ[t-1] + K + P u[t] + impact[t]`, `ξ[0]` the initial condition -/
def path (T : Matrix nb nb K) (Kc : nb → K) (P : Matrix nb nu K) (x0 : nb → K) (u : ℕ → nu → K) (imp : ℕ → nb → K) :
    ℕ → nb → K
  | 0 => x0
  | t + 1 => T *ᵥ path T Kc P x0 u imp t + Kc + P *ᵥ u (t + 1) + imp (t + 1)

/-- model-consistent continuation `j` periods ahead of the state `x`: the same recursion without future unanticipated
shocks; `g a` is the impact of the (known) anticipated shocks `a` periods ahead -/
def cont (T : Matrix nb nb K) (Kc : nb → K) (g : ℕ → nb → K) : ℕ → (nb → K) → (nb → K)
  | 0, x => x
  | j + 1, x => T *ᵥ cont T Kc g j x + Kc + g (j + 1)

/-- the lead token `i` (variable `src i`, `sh i` periods ahead) read from the continuation -/
def leadRead (T : Matrix nb nb K) (Kc : nb → K) (g : ℕ → nb → K) (sh : nf → ℕ) (src : nf → nb) (x : nb → K) : nf → K :=
  fun i => cont T Kc g (sh i) x (src i)

/-- residual of the claimed rows of the stacked system `A ζ[t] + B ζ[t-1] + C + D (u[t] + v[t])`, `ζ = (f ; ξ)`,
`B` reading only the `ξ` part of `ζ[t-1]` (checked exactly by the certificate: `bLead = 0`) -/
def resid (Af : Matrix ne nf K) (Ab Bb : Matrix ne nb K) (C : ne → K) (D : Matrix ne nu K)
    (f : nf → K) (x xprev : nb → K) (s : nu → K) : ne → K :=
  Af *ᵥ f + Ab *ᵥ x + Bb *ᵥ xprev + C + D *ᵥ s

/-- `1 + T + … + T^(j-1)` -/
def geom (T : Matrix nb nb K) : ℕ → Matrix nb nb K
  | 0 => 0
  | j + 1 => T * geom T j + 1

/-- the part of the continuation driven by anticipated impacts `g b`, `a < b ≤ j` -/
def hfrom (T : Matrix nb nb K) (g : ℕ → nb → K) (a : ℕ) : ℕ → nb → K
  | 0 => 0
  | j + 1 => T *ᵥ hfrom T g a j + (if a < j + 1 then g (j + 1) else 0)

theorem cont_eq (T : Matrix nb nb K) (Kc : nb → K) (g : ℕ → nb → K) (j : ℕ) (x : nb → K) :
    cont T Kc g j x = (T ^ j) *ᵥ x + geom T j *ᵥ Kc + hfrom T g 0 j := by
  induction j with
  | zero => simp [cont, geom, hfrom]
  | succ j ih =>
    simp only [cont, geom, hfrom, ih, pow_succ', Matrix.mulVec_add, Matrix.add_mulVec, ← Matrix.mulVec_mulVec,
      Matrix.one_mulVec, Nat.zero_lt_succ, if_true]
    abel

theorem hfrom_zero (T : Matrix nb nb K) (a j : ℕ) : hfrom T (fun _ => 0) a j = 0 := by
  induction j with
  | zero => rfl
  | succ j ih => simp [hfrom, ih]

section cert
variable (T : Matrix nb nb K) (Kc : nb → K) (P : Matrix nb nu K) (sh : nf → ℕ) (src : nf → nb)
variable (Af : Matrix ne nf K) (Ab Bb : Matrix ne nb K) (C : ne → K) (D : Matrix ne nu K)

/-- row `i` = row `src i` of `T^(sh i)` -/
def Lmat : Matrix nf nb K := Matrix.of fun i => (T ^ sh i) (src i)
/-- row `i` = row `src i` of `(1 + … + T^(sh i - 1)) K` -/
def lK : nf → K := fun i => (geom T (sh i) *ᵥ Kc) (src i)
/-- coefficient of `ξ[t]` in the residual once the leads are read from the continuation (`leadRead_eq`); with
`ξ[t] = T ξ[t-1] + K + P u[t]`, the residual is `E1 ξ[t-1] + E2 + E3 u[t]` (`resid_identity`) -/
def Mmat : Matrix ne nb K := Af * Lmat T sh src + Ab
def E1 : Matrix ne nb K := Mmat T sh src Af Ab * T + Bb
def E2 : ne → K := Mmat T sh src Af Ab *ᵥ Kc + Af *ᵥ lK T Kc sh src + C
def E3 : Matrix ne nu K := Mmat T sh src Af Ab * P + D

/-- anticipated part of the residual: impact now, the anticipated shock in the equation, impacts inside the lead reads -/
def antic (g : ℕ → nb → K) (v0 : nu → K) : ne → K :=
  Mmat T sh src Af Ab *ᵥ g 0 + D *ᵥ v0 + Af *ᵥ (fun i => hfrom T g 0 (sh i) (src i))

theorem antic_zero : antic T sh src Af Ab D (fun _ => 0) 0 = 0 := by
  have h : (fun i => hfrom T (fun _ => (0 : nb → K)) 0 (sh i) (src i)) = 0 :=
    funext fun i => congrFun (hfrom_zero T 0 (sh i)) (src i)
  rw [antic, h]
  simp

theorem leadRead_eq (g : ℕ → nb → K) (x : nb → K) :
    leadRead T Kc g sh src x = Lmat T sh src *ᵥ x + lK T Kc sh src + (fun i => hfrom T g 0 (sh i) (src i)) := by
  funext i
  simp only [leadRead, cont_eq, Pi.add_apply, lK, Lmat]
  -- `(Matrix.of f *ᵥ x) i` is `f i ⬝ᵥ x`: both sides are row `src i` of `T ^ sh i` dotted with `x`
  rfl

/-- **Residual identity** (one period): with `ξ[t] = T ξ[t-1] + K + P u[t] + g 0` and leads read from the
model-consistent continuation, the residual of every claimed row is
`E1 ξ[t-1] + E2 + E3 u[t] + antic` -- for every state, every shock, every lead structure. -/
theorem resid_identity (g : ℕ → nb → K) (xprev : nb → K) (u v0 : nu → K) :
    resid Af Ab Bb C D (leadRead T Kc g sh src (T *ᵥ xprev + Kc + P *ᵥ u + g 0)) (T *ᵥ xprev + Kc + P *ᵥ u + g 0) xprev (u + v0)
      = E1 T sh src Af Ab Bb *ᵥ xprev + E2 T Kc sh src Af Ab C + E3 T P sh src Af Ab D *ᵥ u
        + antic T sh src Af Ab D g v0 := by
  rw [leadRead_eq]
  simp only [resid, E1, E2, E3, antic, Mmat, Matrix.mulVec_add, Matrix.add_mulVec, ← Matrix.mulVec_mulVec]
  abel

/-- residual of the claimed rows in period `t+1` along the simulated path -/
def residAt (x0 : nb → K) (u v : ℕ → nu → K) (imp : ℕ → nb → K) (t : ℕ) : ne → K :=
  resid Af Ab Bb C D
    (leadRead T Kc (fun a => imp (t + 1 + a)) sh src (path T Kc P x0 u imp (t + 1)))
    (path T Kc P x0 u imp (t + 1)) (path T Kc P x0 u imp t) (u (t + 1) + v (t + 1))

/-- the residual identity along the simulated path: `resid_identity` at the state reached in period `t` -/
theorem residAt_eq (x0 : nb → K) (u v : ℕ → nu → K) (imp : ℕ → nb → K) (t : ℕ) :
    residAt T Kc P sh src Af Ab Bb C D x0 u v imp t
      = E1 T sh src Af Ab Bb *ᵥ path T Kc P x0 u imp t + E2 T Kc sh src Af Ab C
        + E3 T P sh src Af Ab D *ᵥ u (t + 1)
        + antic T sh src Af Ab D (fun a => imp (t + 1 + a)) (v (t + 1)) :=
  resid_identity T Kc P sh src Af Ab Bb C D (fun a => imp (t + 1 + a)) (path T Kc P x0 u imp t) (u (t + 1)) (v (t + 1))

/-- with unanticipated shocks only, `E1 = E2 = E3 = 0` makes every claimed row hold in every period -/
theorem equations_hold_unanticipated
    (h1 : E1 T sh src Af Ab Bb = 0) (h2 : E2 T Kc sh src Af Ab C = 0) (h3 : E3 T P sh src Af Ab D = 0)
    (x0 : nb → K) (u : ℕ → nu → K) (t : ℕ) :
    residAt T Kc P sh src Af Ab Bb C D x0 u (fun _ => 0) (fun _ => 0) t = 0 := by
  rw [residAt_eq, h1, h2, h3, antic_zero]
  simp

theorem matrix_eq_zero_of_mulVec {m n : Type} [Fintype n] [DecidableEq n] (M : Matrix m n K)
    (h : ∀ x : n → K, M *ᵥ x = 0) : M = 0 :=
  Matrix.mulVec_injective (funext fun x => (h x).trans (Matrix.zero_mulVec x).symm)

theorem affine_eq_zero {m n p : Type} [Fintype n] [DecidableEq n] [Fintype p] [DecidableEq p]
    (M : Matrix m n K) (c : m → K) (N : Matrix m p K) (h : ∀ x y, M *ᵥ x + c + N *ᵥ y = 0) :
    M = 0 ∧ c = 0 ∧ N = 0 := by
  obtain rfl : c = 0 := by simpa using h 0 0
  exact ⟨matrix_eq_zero_of_mulVec M fun x => by simpa using h x 0, rfl,
    matrix_eq_zero_of_mulVec N fun y => by simpa using h 0 y⟩

/-- conversely, the certificate is necessary: if every claimed row holds in the first simulated period for every initial
condition and every unanticipated shock, the three blocks are zero (the residual is affine in `(ξ[0], u[1])`) -/
theorem certificate_of_first_period [DecidableEq nu]
    (h : ∀ (x0 : nb → K) (u : ℕ → nu → K), residAt T Kc P sh src Af Ab Bb C D x0 u (fun _ => 0) (fun _ => 0) 0 = 0) :
    E1 T sh src Af Ab Bb = 0 ∧ E2 T Kc sh src Af Ab C = 0 ∧ E3 T P sh src Af Ab D = 0 :=
  affine_eq_zero _ _ _ fun ξ u => by
    have := h ξ fun _ => u
    rwa [residAt_eq, antic_zero, add_zero] at this

end cert

section anticipated
variable (T : Matrix nb nb K) (Kc : nb → K) (P : Matrix nb nu K) (sh : nf → ℕ) (src : nf → nb)
variable (Af : Matrix ne nf K) (Ab Bb : Matrix ne nb K) (C : ne → K) (D : Matrix ne nu K)
variable (X : Matrix nb nj K) (J : Matrix nj nj K) (Ru : Matrix nj nu K)

/-- `𝓛_a(Y)`: row `i` = row `src i` of `T^(sh i - a) Y` when `a ≤ sh i`, zero otherwise (used for `a ≥ 1`) -/
def leadMat {m : Type} [Fintype m] (a : ℕ) (Y : Matrix nb m K) : Matrix nf m K :=
  Matrix.of fun i => if a ≤ sh i then ((T ^ (sh i - a)) * Y) (src i) else 0

/-- `V_0 = -M X`, `V_a = V_(a-1) J - Af 𝓛_a(X)` -/
def Vmat : ℕ → Matrix ne nj K
  | 0 => -(Mmat T sh src Af Ab * X)
  | a + 1 => Vmat a * J - Af * leadMat T sh src (a + 1) X

/-- `E4_a = Af 𝓛_a(P) + V_(a-1) Ru` for `a ≥ 1`: the coefficient of the anticipated shock `a` periods ahead -/
def E4 (a : ℕ) : Matrix ne nu K :=
  Af * leadMat T sh src a P + Vmat T sh src Af Ab X J a.pred * Ru

theorem leadMat_mulVec {m : Type} [Fintype m] (a : ℕ) (Y : Matrix nb m K) (w : m → K) (i : nf) :
    (leadMat T sh src a Y *ᵥ w) i = if a ≤ sh i then ((T ^ (sh i - a)) *ᵥ (Y *ᵥ w)) (src i) else 0 := by
  rw [Matrix.mulVec_mulVec]
  show (if a ≤ sh i then ((T ^ (sh i - a)) * Y) (src i) else 0) ⬝ᵥ w = _
  rw [apply_ite (· ⬝ᵥ w), zero_dotProduct]
  rfl

theorem hfrom_ge (g : ℕ → nb → K) (a j : ℕ) (h : j ≤ a) : hfrom T g a j = 0 := by
  induction j with
  | zero => rfl
  | succ j ih =>
    rw [hfrom, ih (Nat.le_of_succ_le h), if_neg (not_lt.mpr h), Matrix.mulVec_zero, add_zero]

theorem hfrom_add (g : ℕ → nb → K) (a k : ℕ) :
    hfrom T g a (a + 1 + k) = hfrom T g (a + 1) (a + 1 + k) + (T ^ k) *ᵥ g (a + 1) := by
  induction k with
  | zero =>
    rw [add_zero, hfrom, hfrom_ge T g a a le_rfl, hfrom_ge T g (a + 1) (a + 1) le_rfl, if_pos (Nat.lt_succ_self a),
      Matrix.mulVec_zero, zero_add, zero_add, pow_zero, Matrix.one_mulVec]
  | succ k ih =>
    rw [← add_assoc, hfrom, hfrom, ih, if_pos (by omega), if_pos (by omega), Matrix.mulVec_add, Matrix.mulVec_mulVec,
      ← pow_succ', add_right_comm]

/-- **Anticipated part in finite form.**  If the impact of anticipated shocks is `g b = P v[b] - X φ[b]` with the forward
state of the unstable block obeying `φ[b] = J φ[b+1] + Ru v[b+1]` (this is what `_get_solution_expansion` computes, see
`impact_expansion`), then for every `a`
`antic = E3 v[0] + Σ_{m<a} E4_(m+1) v[m+1] + V_a φ[a] + Af · (impacts later than a inside the lead reads)`. -/
theorem antic_eq (g : ℕ → nb → K) (v : ℕ → nu → K) (φ : ℕ → nj → K) (hg : ∀ b, g b = P *ᵥ v b - X *ᵥ φ b)
    (hφ : ∀ b, φ b = J *ᵥ φ (b + 1) + Ru *ᵥ v (b + 1)) (a : ℕ) :
    antic T sh src Af Ab D g (v 0)
      = E3 T P sh src Af Ab D *ᵥ v 0
        + (∑ m ∈ Finset.range a, E4 T P sh src Af Ab X J Ru (m + 1) *ᵥ v (m + 1))
        + Vmat T sh src Af Ab X J a *ᵥ φ a
        + Af *ᵥ (fun i => hfrom T g a (sh i) (src i)) := by
  induction a with
  | zero =>
    simp only [antic, hg 0, E3, Vmat, Finset.range_zero, Finset.sum_empty, add_zero, Matrix.mulVec_sub, Matrix.add_mulVec,
      Matrix.neg_mulVec, ← Matrix.mulVec_mulVec]
    abel
  | succ a ih =>
    rw [ih, Finset.sum_range_succ]
    -- peel the impact `a + 1` periods ahead out of every lead read (`hfrom_add`); it is `P v[a+1] - X φ[a+1]` pushed `sh i - (a+1)`
    -- periods on.  Then `φ[a] = J φ[a+1] + Ru v[a+1]` turns `V_a φ[a]` into `V_(a+1) φ[a+1]` and the term `E4_(a+1) v[a+1]`.
    have hsplit : (fun i => hfrom T g a (sh i) (src i)) = (fun i => hfrom T g (a + 1) (sh i) (src i))
        + leadMat T sh src (a + 1) P *ᵥ v (a + 1) - leadMat T sh src (a + 1) X *ᵥ φ (a + 1) := by
      funext i
      rw [Pi.sub_apply, Pi.add_apply, leadMat_mulVec, leadMat_mulVec]
      by_cases h : a + 1 ≤ sh i
      · obtain ⟨k, hk⟩ := Nat.exists_eq_add_of_le h
        rw [if_pos h, if_pos h, hk, hfrom_add, hg, Nat.add_sub_cancel_left, Matrix.mulVec_sub, Pi.add_apply, Pi.sub_apply,
          add_sub_assoc]
      · rw [if_neg h, if_neg h, hfrom_ge T _ a _ (Nat.le_of_lt_succ (not_le.mp h)), hfrom_ge T _ (a + 1) _ (not_le.mp h).le,
          add_zero, sub_zero]
    rw [hsplit, hφ a]
    simp only [E4, Vmat, Nat.pred_succ, Matrix.mulVec_add, Matrix.mulVec_sub, Matrix.add_mulVec, Matrix.sub_mulVec,
      ← Matrix.mulVec_mulVec]
    abel

end anticipated

section tail
variable (T : Matrix nb nb K) (P : Matrix nb nu K) (sh : nf → ℕ) (src : nf → nb)
variable (Af : Matrix ne nf K) (Ab : Matrix ne nb K) (D : Matrix ne nu K)
variable (X : Matrix nb nj K) (J : Matrix nj nj K) (Ru : Matrix nj nu K)

theorem leadMat_beyond {m : Type} [Fintype m] (S : ℕ) (hS : ∀ i, sh i ≤ S) (k : ℕ) (Y : Matrix nb m K) :
    leadMat T sh src (S + k + 1) Y = 0 := by
  ext i j
  rw [leadMat, Matrix.of_apply, if_neg (not_le.mpr (Nat.lt_succ_of_le ((hS i).trans (Nat.le_add_right S k))))]
  rfl

/-- **The infinitely many anticipated conditions follow from finitely many**: beyond the maximum lead `S`,
`V_a = W J^(a-S)` and `E4_(a+1) = W J^(a-S) Ru` with the one fixed matrix `W = V_S`; hence `W = 0` kills them all
(`E4_all_zero`).  `equations_hold` does not go this way: `residAt_expansion` at `N = S` mentions `E4_1 … E4_S` and `V_S` only. -/
theorem Vmat_tail (S : ℕ) (hS : ∀ i, sh i ≤ S) (k : ℕ) :
    Vmat T sh src Af Ab X J (S + k) = Vmat T sh src Af Ab X J S * J ^ k := by
  induction k with
  | zero => simp
  | succ k ih =>
    rw [← add_assoc, Vmat, ih, leadMat_beyond T sh src S hS k, pow_succ, Matrix.mul_zero, sub_zero, Matrix.mul_assoc]

theorem E4_tail (S : ℕ) (hS : ∀ i, sh i ≤ S) (k : ℕ) :
    E4 T P sh src Af Ab X J Ru (S + k + 1) = Vmat T sh src Af Ab X J S * J ^ k * Ru := by
  rw [E4, leadMat_beyond T sh src S hS k, Matrix.mul_zero, zero_add, Nat.pred_succ, Vmat_tail T sh src Af Ab X J S hS]

theorem E4_all_zero (S : ℕ) (hS : ∀ i, sh i ≤ S)
    (hfin : ∀ a, 1 ≤ a → a ≤ S → E4 T P sh src Af Ab X J Ru a = 0) (hW : Vmat T sh src Af Ab X J S = 0) :
    ∀ a, 1 ≤ a → E4 T P sh src Af Ab X J Ru a = 0 := by
  intro a ha
  by_cases h : a ≤ S
  · exact hfin a ha h
  · obtain ⟨k, rfl⟩ := Nat.exists_eq_add_of_lt (not_le.mp h)
    rw [E4_tail T P sh src Af Ab X J Ru S hS, hW, Matrix.zero_mul, Matrix.zero_mul]

end tail

/-! ## `_get_solution_expansion` and `_simulate_anticipated_shock_values` -/

section expansion
variable (P : Matrix nb nu K) (X : Matrix nb nj K) (J : Matrix nj nj K) (Ru : Matrix nj nu K)

/-- `R_0 = P`, `R_k = -X J^(k-1) Ru` -/
def Rexp : ℕ → Matrix nb nu K
  | 0 => P
  | k + 1 => -(X * J ^ k * Ru)

/-- impact of the anticipated shocks known up to the horizon `H` (last anticipated column): `Σ_{k ≤ H - s} R_k v[s+k]` -/
def impact (H : ℕ) (v : ℕ → nu → K) (s : ℕ) : nb → K :=
  ∑ k ∈ Finset.range (H + 1 - s), Rexp P X J Ru k *ᵥ v (s + k)

/-- forward state of the unstable block: `φ[s] = Σ_{k < H - s} J^k Ru v[s+1+k]` -/
def phi (H : ℕ) (v : ℕ → nu → K) (s : ℕ) : nj → K :=
  ∑ k ∈ Finset.range (H - s), (J ^ k * Ru) *ᵥ v (s + 1 + k)

theorem sum_range_peel {M : Type} [AddCommMonoid M] (f : ℕ → M) (n : ℕ) (h0 : n = 0 → f 0 = 0) :
    ∑ k ∈ Finset.range n, f k = ∑ k ∈ Finset.range (n - 1), f (k + 1) + f 0 := by
  cases n with
  | zero => rw [Finset.sum_range_zero, Finset.sum_range_zero, h0 rfl, add_zero]
  | succ n => exact Finset.sum_range_succ' f n

theorem phi_rec (H : ℕ) (v : ℕ → nu → K) (hv : ∀ s, H < s → v s = 0) (s : ℕ) :
    phi J Ru H v s = J *ᵥ phi J Ru H v (s + 1) + Ru *ᵥ v (s + 1) := by
  rw [phi, sum_range_peel _ _ fun h => by rw [hv _ (by omega), Matrix.mulVec_zero], phi, Matrix.mulVec_sum, pow_zero,
    Matrix.one_mul, add_zero]
  congr 1
  refine Finset.sum_congr rfl fun k _ => ?_
  rw [Matrix.mulVec_mulVec, pow_succ', Matrix.mul_assoc, add_comm k 1, ← add_assoc]

/-- the expansion of the implementation is the backward recursion of the unstable block: `impact = P v - X φ` -/
theorem impact_expansion (H : ℕ) (v : ℕ → nu → K) (hv : ∀ s, H < s → v s = 0) (s : ℕ) :
    impact P X J Ru H v s = P *ᵥ v s - X *ᵥ phi J Ru H v s := by
  rw [impact, sum_range_peel _ _ fun h => by rw [hv _ (by omega), Matrix.mulVec_zero], phi, Matrix.mulVec_sum,
    Nat.sub_right_comm, Nat.add_sub_cancel, add_zero, sub_eq_neg_add, ← Finset.sum_neg_distrib]
  congr 1
  refine Finset.sum_congr rfl fun k _ => ?_
  rw [Rexp, Matrix.mulVec_mulVec, Matrix.neg_mulVec, Matrix.mul_assoc, add_comm k 1, ← add_assoc]

theorem impact_zero (H : ℕ) : impact P X J Ru H (fun _ => 0) = fun _ => 0 := by
  funext s
  simp [impact]

end expansion

section main
variable (T : Matrix nb nb K) (Kc : nb → K) (P : Matrix nb nu K) (sh : nf → ℕ) (src : nf → nb)
variable (Af : Matrix ne nf K) (Ab Bb : Matrix ne nb K) (C : ne → K) (D : Matrix ne nu K)
variable (X : Matrix nb nj K) (J : Matrix nj nj K) (Ru : Matrix nj nu K)

/-- the finite certificate evaluated by the executable model (`Model/FirstOrder.lean: certificate`) -/
structure Certified (S : ℕ) : Prop where
  lead_le : ∀ i, sh i ≤ S
  e1 : E1 T sh src Af Ab Bb = 0
  e2 : E2 T Kc sh src Af Ab C = 0
  e3 : E3 T P sh src Af Ab D = 0
  e4 : ∀ a, 1 ≤ a → a ≤ S → E4 T P sh src Af Ab X J Ru a = 0
  w : Vmat T sh src Af Ab X J S = 0

/-- the residual identity in the form of DESIGN.md Appendix A.1 with anticipated shocks, for every `N` at least the maximum lead;
with certificate blocks that are not exactly zero it still gives the residual as the blocks applied to the history -/
theorem residAt_expansion (N : ℕ) (hN : ∀ i, sh i ≤ N) (H : ℕ) (x0 : nb → K) (u v : ℕ → nu → K)
    (hv : ∀ s, H < s → v s = 0) (t : ℕ) :
    residAt T Kc P sh src Af Ab Bb C D x0 u v (impact P X J Ru H v) t
      = E1 T sh src Af Ab Bb *ᵥ path T Kc P x0 u (impact P X J Ru H v) t + E2 T Kc sh src Af Ab C
        + E3 T P sh src Af Ab D *ᵥ (u (t + 1) + v (t + 1))
        + (∑ m ∈ Finset.range N, E4 T P sh src Af Ab X J Ru (m + 1) *ᵥ v (t + 1 + (m + 1)))
        + Vmat T sh src Af Ab X J N *ᵥ phi J Ru H v (t + 1 + N) := by
  have h := antic_eq T P sh src Af Ab D X J Ru (fun b => impact P X J Ru H v (t + 1 + b)) (fun b => v (t + 1 + b))
    (fun b => phi J Ru H v (t + 1 + b)) (fun b => impact_expansion P X J Ru H v hv (t + 1 + b))
    (fun b => phi_rec J Ru H v hv (t + 1 + b)) N
  -- no impact later than `N` periods ahead enters a lead read
  have hz : (fun i => hfrom T (fun b => impact P X J Ru H v (t + 1 + b)) N (sh i) (src i)) = 0 :=
    funext fun i => congrFun (hfrom_ge T _ N (sh i) (hN i)) (src i)
  rw [residAt_eq, h, hz, Matrix.mulVec_zero, add_zero, Matrix.mulVec_add]
  abel

/-- **Certificate ⇒ every equation holds in every period, for every initial condition, every path of unanticipated
shocks and every (finite-horizon) path of anticipated shocks.** -/
theorem equations_hold (S : ℕ) (hc : Certified T Kc P sh src Af Ab Bb C D X J Ru S)
    (H : ℕ) (x0 : nb → K) (u v : ℕ → nu → K) (hv : ∀ s, H < s → v s = 0) (t : ℕ) :
    residAt T Kc P sh src Af Ab Bb C D x0 u v (impact P X J Ru H v) t = 0 := by
  rw [residAt_expansion T Kc P sh src Af Ab Bb C D X J Ru S hc.lead_le H x0 u v hv t, hc.e1, hc.e2, hc.e3, hc.w]
  have h4 : ∀ m ∈ Finset.range S, E4 T P sh src Af Ab X J Ru (m + 1) *ᵥ v (t + 1 + (m + 1)) = 0 := fun m hm => by
    rw [hc.e4 (m + 1) (Nat.le_add_left 1 m) (Finset.mem_range.mp hm), Matrix.zero_mulVec]
  rw [Finset.sum_eq_zero h4]
  simp

end main

section level
variable (T : Matrix nb nb K) (Kc : nb → K) (P : Matrix nb nu K)

/-- For a **steady path** `ξ̄[t+1] = T ξ̄[t] + K` (balanced growth: steady-state levels with non-zero change), the level simulation
from `ξ̄[0] + d0` is `ξ̄[t]` plus the deviation simulation (`K ↦ 0`, `create_deviation_solution`) from `d0` with the same
unanticipated shocks and the same anticipated impact, in every period. -/
theorem level_eq_steadypath_add_deviation (xbar : ℕ → nb → K) (hbar : ∀ t, xbar (t + 1) = T *ᵥ xbar t + Kc)
    (d0 : nb → K) (u : ℕ → nu → K) (imp : ℕ → nb → K) (t : ℕ) :
    path T Kc P (xbar 0 + d0) u imp t = xbar t + path T 0 P d0 u imp t := by
  induction t with
  | zero => rfl
  | succ t ih =>
    rw [path, path, ih, Matrix.mulVec_add, hbar t]
    abel

/-- the flat case, a steady state `ξ̄ = T ξ̄ + K` -/
theorem level_eq_steady_add_deviation (xbar : nb → K) (hbar : xbar = T *ᵥ xbar + Kc)
    (d0 : nb → K) (u : ℕ → nu → K) (imp : ℕ → nb → K) (t : ℕ) :
    path T Kc P (xbar + d0) u imp t = xbar + path T 0 P d0 u imp t :=
  level_eq_steadypath_add_deviation T Kc P (fun _ => xbar) (fun _ => hbar) d0 u imp t

theorem shockfree_path (x0 : nb → K) (t : ℕ) :
    path T 0 P x0 (fun _ => 0) (fun _ => 0) t = (T ^ t) *ᵥ x0 := by
  induction t with
  | zero => simp [path]
  | succ t ih =>
    rw [path, ih, pow_succ', ← Matrix.mulVec_mulVec]
    simp

theorem steady_path_reproduced (xbar : ℕ → nb → K) (hbar : ∀ t, xbar (t + 1) = T *ᵥ xbar t + Kc) (t : ℕ) :
    path T Kc P (xbar 0) (fun _ => 0) (fun _ => 0) t = xbar t := by
  have h := level_eq_steadypath_add_deviation T Kc P xbar hbar 0 (fun _ => 0) (fun _ => 0) t
  rwa [add_zero, shockfree_path, Matrix.mulVec_zero, add_zero] at h

end level

section measurement

/-- `_simulate_measurement`: `y = Z ξ + D + H w` -/
def measure (Z : Matrix ny nb K) (Dm : ny → K) (Hm : Matrix ny nw K) (x : nb → K) (w : nw → K) : ny → K :=
  Z *ᵥ x + Dm + Hm *ᵥ w

theorem measure_level_eq (Z : Matrix ny nb K) (Dm : ny → K) (Hm : Matrix ny nw K) (xbar d : nb → K) (w : nw → K) :
    measure Z Dm Hm (xbar + d) w = measure Z Dm Hm xbar 0 + measure Z 0 Hm d w := by
  simp only [measure, Matrix.mulVec_add, Matrix.mulVec_zero]
  abel

theorem measurement_equations_hold (F : Matrix ny ny K) (G : Matrix ny nb K) (Hc : ny → K) (Jm : Matrix ny nw K)
    (Z : Matrix ny nb K) (Dm : ny → K) (Hm : Matrix ny nw K)
    (h1 : F * Z + G = 0) (h2 : F *ᵥ Dm + Hc = 0) (h3 : F * Hm + Jm = 0) (x : nb → K) (w : nw → K) :
    F *ᵥ measure Z Dm Hm x w + G *ᵥ x + Hc + Jm *ᵥ w = 0 := by
  have e : F *ᵥ measure Z Dm Hm x w + G *ᵥ x + Hc + Jm *ᵥ w
      = (F * Z + G) *ᵥ x + (F *ᵥ Dm + Hc) + (F * Hm + Jm) *ᵥ w := by
    simp only [measure, Matrix.mulVec_add, Matrix.add_mulVec, ← Matrix.mulVec_mulVec]
    abel
  rw [e, h1, h2, h3]
  simp

end measurement

section frames
variable (T : Matrix nb nb K) (Kc : nb → K) (P : Matrix nb nu K)

theorem path_restart (x0 : nb → K) (u : ℕ → nu → K) (imp : ℕ → nb → K) (s r : ℕ) :
    path T Kc P (path T Kc P x0 u imp s) (fun k => u (s + k)) (fun k => imp (s + k)) r = path T Kc P x0 u imp (s + r) := by
  induction r with
  | zero => rfl
  | succ r ih =>
    rw [path, ih]
    rfl

theorem path_congr {x0 : nb → K} {u u' : ℕ → nu → K} {imp : ℕ → nb → K} {t : ℕ}
    (h : ∀ k, 1 ≤ k → k ≤ t → u k = u' k) :
    path T Kc P x0 u imp t = path T Kc P x0 u' imp t := by
  induction t with
  | zero => rfl
  | succ t ih =>
    rw [path, path, ih (fun k h1 h2 => h k h1 (by omega)), h (t + 1) (by omega) le_rfl]

/-- **Split frames tile the span**: a `SplitFrame` starting in period `s+1` keeps the unanticipated shocks of its first
period only (`prune_frame_data`) and simulates to the end of the span; on its own slice -- up to the period before the
next non-zero unanticipated shock -- it reproduces the single-frame path. -/
theorem split_frame_eq_single (x0 : nb → K) (u : ℕ → nu → K) (imp : ℕ → nb → K) (s r : ℕ)
    (hzero : ∀ k, 2 ≤ k → k ≤ r → u (s + k) = 0) :
    path T Kc P (path T Kc P x0 u imp s) (fun k => if k ≤ 1 then u (s + k) else 0) (fun k => imp (s + k)) r
      = path T Kc P x0 u imp (s + r) := by
  rw [← path_restart]
  exact path_congr T Kc P fun k _ h2 => ite_eq_left_iff.mpr fun hk => (hzero k (by omega) h2).symm

end frames

section bounded
variable {F : Type} [Field F] [LinearOrder F] [IsStrictOrderedRing F]

/-- every absolute row sum is at most `q` (i.e. `‖A‖∞ ≤ q`) -/
def RowSumLe (A : Matrix nb nb F) (q : F) : Prop := ∀ i, ∑ j, |A i j| ≤ q
/-- every entry is at most `c` in absolute value (i.e. `‖x‖∞ ≤ c`) -/
def VecLe (x : nb → F) (c : F) : Prop := ∀ i, |x i| ≤ c

theorem RowSumLe.nonneg {A : Matrix nb nb F} {q : F} (h : RowSumLe A q) (i : nb) : 0 ≤ q :=
  le_trans (Finset.sum_nonneg fun j _ => abs_nonneg (A i j)) (h i)

theorem VecLe.nonneg {x : nb → F} {c : F} (h : VecLe x c) (i : nb) : 0 ≤ c := le_trans (abs_nonneg (x i)) (h i)

theorem mulVec_bound (A : Matrix nb nb F) (x : nb → F) (q c : F) (hA : RowSumLe A q) (hx : VecLe x c) :
    VecLe (A *ᵥ x) (q * c) := by
  intro i
  have hc0 : 0 ≤ c := hx.nonneg i
  calc |(A *ᵥ x) i| = |∑ j, A i j * x j| := rfl
    _ ≤ ∑ j, |A i j * x j| := Finset.abs_sum_le_sum_abs _ _
    _ = ∑ j, |A i j| * |x j| := by simp only [abs_mul]
    _ ≤ ∑ j, |A i j| * c := Finset.sum_le_sum (fun j _ => mul_le_mul_of_nonneg_left (hx j) (abs_nonneg _))
    _ = (∑ j, |A i j|) * c := by rw [Finset.sum_mul]
    _ ≤ q * c := mul_le_mul_of_nonneg_right (hA i) hc0

/-- geometric decay: `‖B^a x‖∞ ≤ q^a ‖x‖∞` when `‖B‖∞ ≤ q` -/
theorem pow_mulVec_bound_geom (B : Matrix nb nb F) (q : F) (hB : RowSumLe B q) (x : nb → F) (c : F) (hx : VecLe x c) (a : ℕ) :
    VecLe ((B ^ a) *ᵥ x) (q ^ a * c) := by
  induction a with
  | zero => simpa using hx
  | succ a ih =>
    rw [pow_succ', ← Matrix.mulVec_mulVec, pow_succ', mul_assoc]
    exact mulVec_bound B _ q (q ^ a * c) hB ih

/-- geometric decay of the shock-free deviation path: `‖ξ[t]‖∞ ≤ C0 q^(t / m) ‖ξ[0]‖∞` when `‖T^m‖∞ ≤ q` (any `q`) and `C0`
bounds the row sums of `T^0 … T^(m-1)` -/
theorem path_decay (T : Matrix nb nb F) (P : Matrix nb nu F) (m : ℕ) (hm : 0 < m) (q C0 : F)
    (hq : RowSumLe (T ^ m) q) (hC : ∀ r, r < m → RowSumLe (T ^ r) C0)
    (x0 : nb → F) (c : F) (hx : VecLe x0 c) (t : ℕ) :
    VecLe (path T 0 P x0 (fun _ => 0) (fun _ => 0) t) (C0 * (q ^ (t / m) * c)) := by
  rw [shockfree_path]
  have e : T ^ t = T ^ (t % m) * (T ^ m) ^ (t / m) := by
    rw [← pow_mul, ← pow_add, Nat.mod_add_div]
  rw [e, ← Matrix.mulVec_mulVec]
  exact mulVec_bound _ _ C0 _ (hC _ (Nat.mod_lt _ hm)) (pow_mulVec_bound_geom _ q hq x0 c hx _)

/-- **Non-explosive**: if `‖T^m‖∞ ≤ q ≤ 1` for some `m ≥ 1` (the stability certificate checks `q < 1` exactly) and `C0` bounds
the row sums of `T^0 … T^(m-1)`, the shock-free deviation path satisfies `‖ξ[t]‖∞ ≤ C0 ‖ξ[0]‖∞` in every period. -/
theorem nonexplosive (T : Matrix nb nb F) (P : Matrix nb nu F) (m : ℕ) (hm : 0 < m) (q C0 : F)
    (hq : RowSumLe (T ^ m) q) (hq1 : q ≤ 1) (hC : ∀ r, r < m → RowSumLe (T ^ r) C0)
    (x0 : nb → F) (c : F) (hx : VecLe x0 c) (t : ℕ) :
    VecLe (path T 0 P x0 (fun _ => 0) (fun _ => 0) t) (C0 * c) := fun i =>
  have hpow : q ^ (t / m) ≤ 1 := pow_le_one₀ (hq.nonneg i) hq1
  have hC0 : 0 ≤ C0 := (hC 0 hm).nonneg i
  (path_decay T P m hm q C0 hq hC x0 c hx t i).trans
    (mul_le_mul_of_nonneg_left (mul_le_of_le_one_left (hx.nonneg i) hpow) hC0)

theorem rowSum_bound_exists (T : Matrix nb nb F) (m : ℕ) : ∃ C0 : F, ∀ r, r < m → RowSumLe (T ^ r) C0 := by
  obtain ⟨C0, h⟩ := Finset.exists_le ((Finset.range m ×ˢ Finset.univ).image fun p : ℕ × nb => ∑ j, |(T ^ p.1) p.2 j|)
  refine ⟨C0, fun r hr i => h _ (Finset.mem_image.mpr ⟨(r, i), ?_, rfl⟩)⟩
  exact Finset.mk_mem_product (Finset.mem_range.mpr hr) (Finset.mem_univ i)

theorem nonexplosive_exists (T : Matrix nb nb F) (P : Matrix nb nu F) (m : ℕ) (hm : 0 < m) (q : F)
    (hq : RowSumLe (T ^ m) q) (hq1 : q < 1) :
    ∃ C0 : F, ∀ (x0 : nb → F) (c : F), VecLe x0 c → ∀ t, VecLe (path T 0 P x0 (fun _ => 0) (fun _ => 0) t) (C0 * c) := by
  obtain ⟨C0, hC⟩ := rowSum_bound_exists T m
  exact ⟨C0, fun x0 c hx t => nonexplosive T P m hm q C0 hq (le_of_lt hq1) hC x0 c hx t⟩

end bounded

/-! ## Non-vacuity: a concrete forward-looking model meets every hypothesis

`x[t] = 3/8 x[t-1] + 1/2 E x[t+1] + 1 + e[t]` (one lead of depth 1; roots 1/2 and 3/2): `T = 1/2`, `K = 4`, `P = 4/3`,
`X = 1`, `J = 2/3`, `Ru = -8/9`; steady state `8`; `‖T‖∞ = 1/2 < 1`. -/

section examples

example : Certified (K := ℚ) (nf := Fin 1) (nb := Fin 1) (ne := Fin 1) (nu := Fin 1) (nj := Fin 1)
    !![1/2] ![4] !![4/3] (fun _ => 1) (fun _ => 0) !![1/2] !![-1] !![3/8] ![1] !![1] !![1] !![2/3] !![-8/9] 1 := by
  refine ⟨fun _ => le_rfl, by decide +kernel, by decide +kernel, by decide +kernel, ?_, by decide +kernel⟩
  intro a h1 h2
  obtain rfl : a = 1 := by omega
  decide +kernel

example : (![8] : Fin 1 → ℚ) = !![1/2] *ᵥ ![8] + ![4] := by
  decide +kernel

example : RowSumLe (nb := Fin 1) (F := ℚ) (!![1/2] ^ 1) (1/2) := by
  unfold RowSumLe
  decide +kernel

end examples

end IrisVerif.C01
