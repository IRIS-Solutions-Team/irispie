/-
C12 — Aggregation and disaggregation respect calendar membership and are consistent.

The property theorems and the lemmas only they need (general lemmas: IrisVerif/Lemmas/Conversions.lean,
IrisVerif/Lemmas/AripMin.lean, IrisVerif/Lemmas/QuadMin.lean). Every theorem is about the executable model in
IrisVerif/Model/Conversions.lean, which the correspondence check (harness/c12.py) ties to
/repo/src/irispie/series/_conversions.py and series/arip.py, or — for arip — about Mathlib matrices over an arbitrary
linearly ordered field. That the system the model assembles over `Rat` is an instance is proved in Props/BridgeC12.lean,
from `arip_kkt_min` (the constraint rows as one matrix `A`); the `Agg` / `Tar` form of
`arip_solution_is_constrained_minimiser` is not instantiated there.
-/
import IrisVerif.Lemmas.Conversions
import IrisVerif.Props.C09
import IrisVerif.Lemmas.AripMin
import IrisVerif.Lemmas.QuadMin
import Mathlib.Data.Rat.Defs
import Mathlib.Algebra.Order.Field.Rat
import Mathlib.Data.Fin.VecNotation
import Mathlib.LinearAlgebra.Matrix.Notation
import Mathlib.Data.Matrix.ColumnRowPartitioned
import Mathlib.Tactic.Ring


namespace IrisVerif.C12
open IrisVerif.Dates IrisVerif.Gen.Dates IrisVerif.Dates.C09 IrisVerif.Conv

/-! ## Membership, regular → regular -/

/-- the high-frequency serials that belong to low-frequency period `T`, in calendar order -/
def members (hi lo : Freq) (T : Int) : List Int :=
  (List.range (factorOf hi lo)).map fun (i : Nat) => T * (factorOf hi lo : Nat) + i

/-- **Membership (regular → regular), calendar side.** `members hi lo T` is strictly increasing and contains exactly the
periods `t` that `refrequent` (at any position: start, middle or end day) sends to `T`. -/
theorem members_spec (hi lo : Freq) (hp : (hi, lo) ∈ regularPairs) (T : Int) :
    (members hi lo T).Pairwise (· < ·) ∧
    ∀ (t : Int) (pos : Pos), t ∈ members hi lo T ↔ refrequent ⟨hi, t⟩ lo pos = .ok ⟨lo, T⟩ := by
  have hk : (0 : Int) < (factorOf hi lo : Nat) := Int.natCast_pos.2 (factorOf_pos hi lo hp)
  refine ⟨List.pairwise_map.2 (List.pairwise_lt_range.imp fun h => by omega), fun t pos => ?_⟩
  rw [refrequent_regular hi lo hp]
  simp only [members, List.mem_map, List.mem_range, Except.ok.injEq, Period.mk.injEq, true_and]
  constructor
  · rintro ⟨i, hi', rfl⟩
    rw [Int.add_comm, Int.add_mul_ediv_right _ _ (Int.ne_of_gt hk),
      Int.ediv_eq_zero_of_lt (Int.natCast_nonneg i) (Int.ofNat_lt.2 hi'), Int.zero_add]
  · rintro rfl
    exact ⟨_, block_coords t (factorOf_pos hi lo hp)⟩

/-- **Regular aggregation, whatever the within-period routine.** If on groups of `factorOf hi lo` members
`_aggregate_within_data` computes the pure function `g`, and `g` of an all-NaN group is NaN, then `aggregate` succeeds
and, as a period-indexed map, its value at *every* low-frequency period `T` is `g` of the values of exactly the member
periods of `T`, in calendar order — padding, reshaping and trimming included. -/
theorem aggregate_regular_within (hi lo : Freq) (hp : (hi, lo) ∈ regularPairs) (s : Ser) (hs : s.freq = hi)
    (hne : s.rows ≠ []) (m : Method) (d : Bool) (select : Option (List Int)) (g : List Val → Val)
    (hg : ∀ w : List Val, w.length = factorOf hi lo → aggWithin select d m w = .ok (g w))
    (hnone : g (List.replicate (factorOf hi lo) none) = none) :
    ∃ r, aggregate s lo m d select = .ok r ∧ r.freq = lo ∧ r.nv = s.nv ∧
      ∀ v, v < s.nv → ∀ T : Int, r.get v T = g ((members hi lo T).map (s.get v)) := by
  obtain ⟨newStart, n, heq, h2, h3⟩ := aggregateRegular_blocks hi lo hp s hs m d select g hg
  rw [aggregate_eq_aggregateRegular hi lo hp s hs hne, heq]
  -- `members hi lo T` unfolds to `blockOf (· * k) (fun _ => k) T`, `k = factorOf hi lo`
  exact ⟨_, rfl, rfl, rfl, blocks_get (lo := (· * ((factorOf hi lo : Nat) : Int))) (len := fun _ => factorOf hi lo)
    (fun T => by rw [Int.add_mul, Int.one_mul]) s lo g (fun _ => hnone) newStart n h2 h3⟩

/-- **Membership (regular → regular), code side.** For every start, length, year, variant and NaN pattern, `aggregate`
succeeds and, as a period-indexed map, its value at *every* low-frequency period `T` is the method (after the optional
discarding of missing values) applied to the values of exactly the member periods of `T`, in calendar order — padding,
reshaping and trimming included. -/
theorem aggregate_regular_membership (hi lo : Freq) (hp : (hi, lo) ∈ regularPairs) (s : Ser) (hs : s.freq = hi)
    (hne : s.rows ≠ []) (m : Method) (d : Bool) :
    ∃ r, aggregate s lo m d none = .ok r ∧ r.freq = lo ∧ r.nv = s.nv ∧
      ∀ v, v < s.nv → ∀ T : Int, r.get v T = aggPure d m ((members hi lo T).map (s.get v)) :=
  aggregate_regular_within hi lo hp s hs hne m d none (aggPure d m) (fun _ _ => rfl) (aggPure_replicate_none d m _)


/-! ## Membership, daily → regular -/

/-- first day (ordinal) of a regular period: `C11.ordAt f T .start` written out, so the lemmas of `Lemmas/DayLine.lean`
about `ordAt` apply to it as they stand; total (the error branch of `dayOrd` is unreachable, `firstDay_lastDay_spec`) -/
def firstDay (f : Freq) (T : Int) : Int := match dayOrd ⟨f, T⟩ .start with | .ok a => a | .error _ => 0
/-- last day of a regular period: `C11.ordAt f T .end_` written out -/
def lastDay (f : Freq) (T : Int) : Int := match dayOrd ⟨f, T⟩ .end_ with | .ok a => a | .error _ => 0

/-- the days of regular period `T`, in calendar order -/
def days (lo : Freq) (T : Int) : List Int :=
  (List.range (lastDay lo T - firstDay lo T + 1).toNat).map fun (i : Nat) => firstDay lo T + i

theorem firstDay_lastDay_spec (f : Freq) (hf : f ∈ regularFreqs) (T : Int) :
    dayOrd ⟨f, T⟩ .start = .ok (firstDay f T) ∧ dayOrd ⟨f, T⟩ .end_ = .ok (lastDay f T) ∧
    firstDay f T ≤ lastDay f T ∧ firstDay f (T + 1) = lastDay f T + 1 :=
  have hc := C11.regular_calendar (isRegular_of_mem hf)
  ⟨C11.dayOrd_eq_ordAt f hc T .start, C11.dayOrd_eq_ordAt f hc T .end_, (C11.ordAt_order f hc T .end_).1, C11.ordAt_tile f hc T⟩

/-- the days of consecutive periods are consecutive blocks of the day line -/
theorem firstDay_next (f : Freq) (hf : f ∈ regularFreqs) (T : Int) :
    firstDay f (T + 1) = firstDay f T + ((lastDay f T - firstDay f T + 1).toNat : Nat) :=
  C11.ordAt_next f (C11.regular_calendar (isRegular_of_mem hf)) T

/-- **Membership (daily → regular), calendar side.** A day is converted (`refrequent`, any position argument) to the
regular period `T` exactly when it lies between the first and the last day of `T`; month lengths and leap years are those
of the civil calendar of C09 (`dayOrd`, tiling). -/
theorem daily_membership (lo : Freq) (hlo : lo ∈ regularFreqs) (T n : Int) (pos : Pos) :
    refrequent ⟨.D, n⟩ lo pos = .ok ⟨lo, T⟩ ↔ (firstDay lo T ≤ n ∧ n ≤ lastDay lo T) := by
  show _ ↔ C11.ordAt lo T .start ≤ n ∧ n ≤ C11.ordAt lo T .end_
  rw [C11.refrequent_iff .D lo (by decide) (C11.regular_calendar (isRegular_of_mem hlo)) n T pos, C11.ordAt_daily]

theorem toDaily_eq_ordAt (f : Freq) (hf : f ∈ C11.calendarFreqs) (t : Int) (pos : Pos) :
    toDaily ⟨f, t⟩ pos = .ok ⟨.D, C11.ordAt f t pos⟩ := by
  rw [toDaily, C11.refrequent_iff f .D hf (by decide), C11.ordAt_daily, C11.ordAt_daily]
  exact ⟨Int.le_refl _, Int.le_refl _⟩

theorem pySlice_map_range {α} (g : Int → α) (sd : Int) {a b : Int} {n : Nat} (h1 : sd ≤ a) (h2 : a ≤ b + 1) (h3 : b - sd + 1 ≤ n) :
    pySlice ((List.range n).map fun (i : Nat) => g (sd + i)) (a - sd) (b - sd + 1)
      = (List.range (b - a + 1).toNat).map fun (i : Nat) => g (a + i) := by
  obtain ⟨x, hx⟩ : ∃ x : Nat, a - sd = x := ⟨(a - sd).toNat, by omega⟩
  obtain ⟨y, hy⟩ : ∃ y : Nat, b - a + 1 = y := ⟨(b - a + 1).toNat, by omega⟩
  rw [hx, hy, show b - sd + 1 = ((x + y : Nat) : Int) by omega, Int.toNat_natCast]
  simp only [pySlice, List.length_map, List.length_range, if_neg (Int.not_lt.2 (Int.natCast_nonneg _))]
  rw [Int.min_eq_left (by omega), Int.min_eq_left (by omega), Int.toNat_natCast, Int.toNat_natCast, Nat.add_sub_cancel_left]
  apply List.ext_getElem
  · rw [List.length_take, List.length_drop, List.length_map, List.length_range, List.length_map, List.length_range]
    omega
  · intro i _ _
    rw [List.getElem_take, List.getElem_drop, List.getElem_map, List.getElem_map, List.getElem_range, List.getElem_range]
    congr 1
    omega

/-- **Membership (daily → regular), code side.** Whenever the padded window `[sd, ed]` covers period `T`, the slice that
`_aggregate_daily_to_regular` hands to the method is the list of values of the days `firstDay T, …, lastDay T` in calendar
order — by `daily_membership`, exactly the days that convert to `T`. -/
theorem dailyGroup_eq (lo : Freq) (hlo : lo ∈ regularFreqs) (s : Ser) (v : Nat) (sd ed T : Int)
    (h1 : sd ≤ firstDay lo T) (h2 : lastDay lo T ≤ ed) :
    dailyGroup s v sd ed ⟨lo, T⟩ =
      .ok ((List.range (lastDay lo T - firstDay lo T + 1).toNat).map fun (i : Nat) => s.get v (firstDay lo T + i)) := by
  obtain ⟨-, -, hle, -⟩ := firstDay_lastDay_spec lo hlo T
  have hc := C11.regular_calendar (isRegular_of_mem hlo)
  have ha : toDaily ⟨lo, T⟩ .start = .ok ⟨.D, firstDay lo T⟩ := toDaily_eq_ordAt lo hc T .start
  have hb : toDaily ⟨lo, T⟩ .end_ = .ok ⟨.D, lastDay lo T⟩ := toDaily_eq_ordAt lo hc T .end_
  simp only [dailyGroup, ha, hb, bind, Except.bind, pure, Except.pure]
  rw [pySlice_map_range (s.get v) sd h1 (by omega) (by omega)]

theorem firstDay_year_start (lo : Freq) (hlo : lo ∈ regularFreqs) (y : Int) :
    firstDay lo (fromYearSegment lo y 1).serial = ymd2ord y 1 1 ∧
    lastDay lo (fromYearSegment lo y lo.value).serial = ymd2ord y 12 31 := by
  obtain ⟨h1, h2⟩ := dayOrd_year lo hlo y
  simp only [firstDay, lastDay, fromYearSegment_regular (isRegular_of_mem hlo), h1, h2, and_self]

theorem aggregate_eq_aggregateDaily (lo : Freq) (hlo : lo ∈ regularFreqs) (s : Ser) (hs : s.freq = .D) (hne : s.rows ≠ [])
    (m : Method) (d : Bool) (select : Option (List Int)) :
    aggregate s lo m d select = aggregateDaily s lo m d select := by
  have he := List.isEmpty_eq_false_iff.2 hne
  obtain ⟨hD, hv⟩ := (by decide : ∀ f ∈ regularFreqs, f ≠ Freq.D ∧ ¬ f.value > Freq.D.value) lo hlo
  have hreg : Freq.D.isRegular = false := rfl
  simp only [aggregate, he, hs, hD, hv, hreg, if_true, if_false, Bool.false_eq_true]

/-- what `aggregateDaily` returns when the within-period routine computes `g`: the rows are the periods of the start year
… end year, row `T` holds `g` of the days of `T`, and the days of the rows cover the series -/
theorem aggregateDaily_blocks (lo : Freq) (hlo : lo ∈ regularFreqs) (s : Ser) (m : Method) (d : Bool)
    (select : Option (List Int)) (g : List Val → Val)
    (hg : ∀ (T : Int) (w : List Val), w.length = (days lo T).length → aggWithin select d m w = .ok (g w)) :
    ∃ (newStart : Int) (n : Nat),
      aggregateDaily s lo m d select
        = .ok (Ser.trim ⟨lo, s.nv, newStart, (List.range n).map fun (j : Nat) => (List.range s.nv).map fun v =>
            g ((days lo (newStart + j)).map (s.get v))⟩) ∧
      firstDay lo newStart ≤ s.start ∧ s.endSerial < firstDay lo (newStart + n) := by
  have hc := C11.regular_calendar (isRegular_of_mem hlo)
  -- the padded window `[sd, ed]` is the days of the output periods `newStart … newEnd` and covers the series
  obtain ⟨hsd, _⟩ := firstDay_year_start lo hlo (yearOf s.start)
  obtain ⟨_, hed⟩ := firstDay_year_start lo hlo (yearOf s.endSerial)
  obtain ⟨hsd', _⟩ := year_window s.start
  obtain ⟨_, hed'⟩ := year_window s.endSerial
  generalize hns : (fromYearSegment lo (yearOf s.start) 1).serial = newStart at hsd
  generalize hne : (fromYearSegment lo (yearOf s.endSerial) lo.value).serial = newEnd at hed
  generalize hsdv : ymd2ord (yearOf s.start) 1 1 = sd at hsd hsd'
  generalize hedv : ymd2ord (yearOf s.endSerial) 12 31 = ed at hed hed'
  refine ⟨newStart, (newEnd - newStart + 1).toNat, ?_, hsd.trans_le hsd', ?_⟩
  · simp only [aggregateDaily, isRegular_of_mem hlo, Bool.not_true, Bool.false_eq_true, if_false, hns, hne, hsdv, hedv, bind,
      Except.bind, pure, Except.pure]
    rw [mapM_ok_of_forall (g := fun (j : Nat) => (List.range s.nv).map fun v => g ((days lo (newStart + (j : Int))).map (s.get v)))]
    intro j hj
    rw [mapM_ok_of_forall (g := fun v => g ((days lo (newStart + (j : Int))).map (s.get v)))]
    intro v _
    have hj' := List.mem_range.1 hj
    rw [dailyGroup_eq lo hlo s v sd ed _ (hsd.symm.trans_le (C11.ordAt_mono lo hc (by omega) .start))
      ((C11.ordAt_mono lo hc (by omega) .end_).trans_eq hed)]
    simp only [days, List.map_map]
    exact hg (newStart + (j : Int)) _ (by simp [days])
  · obtain ⟨-, -, -, e⟩ := firstDay_lastDay_spec lo hlo newEnd
    have : firstDay lo (newEnd + 1) ≤ firstDay lo (newStart + ((newEnd - newStart + 1).toNat : Nat)) :=
      C11.ordAt_mono lo hc (by omega) .start
    exact Int.lt_of_lt_of_le (by omega) this

/-- **Daily aggregation, whatever the within-period routine.** If on the groups of days of every period
`_aggregate_within_data` computes the pure function `g`, and `g` of an all-NaN group is NaN, then `aggregate` succeeds and,
as a period-indexed map, its value at *every* period `T` is `g` of the values of exactly the days of `T`, in calendar
order. -/
theorem aggregate_daily_within (lo : Freq) (hlo : lo ∈ regularFreqs) (s : Ser) (hs : s.freq = .D)
    (hne : s.rows ≠ []) (m : Method) (d : Bool) (select : Option (List Int)) (g : List Val → Val)
    (hg : ∀ (T : Int) (w : List Val), w.length = (days lo T).length → aggWithin select d m w = .ok (g w))
    (hnone : ∀ k, g (List.replicate k none) = none) :
    ∃ r, aggregate s lo m d select = .ok r ∧ r.freq = lo ∧ r.nv = s.nv ∧
      ∀ v, v < s.nv → ∀ T : Int, r.get v T = g ((days lo T).map (s.get v)) := by
  obtain ⟨newStart, n, heq, h1, h2⟩ := aggregateDaily_blocks lo hlo s m d select g hg
  rw [aggregate_eq_aggregateDaily lo hlo s hs hne, heq]
  -- `days lo T` unfolds to `blockOf (firstDay lo) (fun T => (lastDay lo T - firstDay lo T + 1).toNat) T`
  exact ⟨_, rfl, rfl, rfl, blocks_get (firstDay_next lo hlo) s lo g (fun _ => hnone _) newStart n h1 h2⟩

/-- **Membership (daily → regular), full pipeline.** For every daily series (any start day, length, year — leap or not —
variants, NaN pattern), every regular target, method and `discard`: `aggregate` succeeds and, as a period-indexed map,
its value at every period `T` is the method applied to the values of exactly the days of `T` (`daily_membership`), in
calendar order. -/
theorem aggregate_daily_membership (lo : Freq) (hlo : lo ∈ regularFreqs) (s : Ser) (hs : s.freq = .D)
    (hne : s.rows ≠ []) (m : Method) (d : Bool) :
    ∃ r, aggregate s lo m d none = .ok r ∧ r.freq = lo ∧ r.nv = s.nv ∧
      ∀ v, v < s.nv → ∀ T : Int, r.get v T = aggPure d m ((days lo T).map (s.get v)) :=
  aggregate_daily_within lo hlo s hs hne m d none (aggPure d m) (fun _ _ _ => rfl) (aggPure_replicate_none d m)


/-! ## What the method sees and returns -/

/-- without `select` the within-period routine never raises and is the pure function `aggPure` -/
theorem aggWithin_pure (d : Bool) (m : Method) (w : List Val) : aggWithin none d m w = .ok (aggPure d m w) :=
  aggWithin_no_select d m w

/-- a group with a missing member yields a missing value under mean, sum and prod (missing values not discarded) -/
theorem missing_member_gives_missing (m : Method) (hm : m = .mean ∨ m = .sum ∨ m = .prod) (w : List Val)
    (h : none ∈ w) : aggPure false m w = none := by
  rw [aggPure_false (List.ne_nil_of_mem h)]
  rcases hm with rfl | rfl | rfl
  · exact stMean_of_mem_none w h
  · exact pySum_of_mem_none w h
  · exact npProd_of_mem_none w h

/-- without missing members: sum and prod are the rational sum and product, mean is the sum over the count -/
theorem sum_prod_mean_of_present (l : List Rat) (hne : l ≠ []) :
    aggPure false .sum (l.map some) = some (l.foldl (· + ·) 0) ∧
    aggPure false .prod (l.map some) = some (l.foldl (· * ·) 1) ∧
    aggPure false .mean (l.map some) = some (l.foldl (· + ·) 0 / (l.length : Rat)) := by
  simp only [aggPure_false (mt List.map_eq_nil_iff.1 hne), Method.apply, pySum, npProd, stMean, foldl_addVal_some,
    foldl_mulVal_some, List.length_map, and_self]

/-- first and last return the first and the last member of the group (missing or not) -/
theorem first_last_member (x : Val) (xs : List Val) :
    aggPure false .first (x :: xs) = x ∧ aggPure false .last (xs ++ [x]) = x := by
  constructor
  · rw [aggPure_false (List.cons_ne_nil x xs)]
    rfl
  · rw [aggPure_false (List.append_ne_nil_of_right_ne_nil xs (List.cons_ne_nil x [])), Method.apply, List.getLast?_concat]
    rfl

/-- `discard_missing=True` is the method on the sub-list of non-missing members (in the same order) -/
theorem discard_is_method_on_present (m : Method) (w : List Val) :
    aggPure true m w = aggPure false m (w.filter Option.isSome) := by
  simp [aggPure]

set_option linter.unusedVariables false in -- the binder `sel` occurs nowhere in the statement
/-- an empty group (nothing selected, or everything discarded) is missing -/
theorem empty_group_missing (d : Bool) (m : Method) (sel : Option (List Int)) :
    aggPure d m [] = none ∧ (∀ w : List Val, (∀ x ∈ w, x = none) → aggPure true m w = none) := by
  refine ⟨aggPure_replicate_none d m 0, fun w hw => ?_⟩
  rw [List.eq_replicate_of_mem hw]
  exact aggPure_replicate_none true m _

/-- one index of numpy fancy indexing -/
def npIndex (w : List Val) (i : Int) : R Val :=
  if -(w.length : Int) ≤ i ∧ i < w.length then .ok (w.getD (if i < 0 then i + (w.length : Int) else i).toNat none)
  else .error .badInput

theorem npTake_eq (w : List Val) (sel : List Int) : npTake w sel = sel.mapM (npIndex w) :=
  -- `npTake` tests `0 ≤ k < n` for `k = i` or `i + n`: the same as `-n ≤ i < n`
  congrArg (sel.mapM ·) (funext fun i => if_congr (by split <;> omega) rfl rfl)

/-- `select` is positional choice inside the group: the chosen members in the order given (negative positions count from
the end), then discarding and the method exactly as without `select`; a position outside the group is rejected
(`IndexError`) -/
theorem select_is_positional (sel : List Int) (d : Bool) (m : Method) (w : List Val) :
    (∀ w', npTake w sel = .ok w' → aggWithin (some sel) d m w = .ok (aggPure d m w')) ∧
    ((∀ i ∈ sel, 0 ≤ i ∧ i < w.length) → npTake w sel = .ok (sel.map fun i => w.getD i.toNat none)) ∧
    ((∃ i ∈ sel, i ≥ w.length ∨ i < -(w.length : Int)) → aggWithin (some sel) d m w = .error .badInput) := by
  refine ⟨fun w' h => ?_, fun h => ?_, ?_⟩
  · simp only [aggWithin, h]
    rfl
  · rw [npTake_eq]
    refine mapM_ok_of_forall fun i hi => ?_
    have := h i hi
    rw [npIndex, if_pos ⟨by omega, this.2⟩, if_neg (by omega)]
  · rintro ⟨i, hi, hout⟩
    have : npTake w sel = .error .badInput := by
      rw [npTake_eq]
      refine mapM_error_of_mem ⟨i, hi, if_neg (by omega)⟩ fun j _ e hj => ?_
      unfold npIndex at hj
      split at hj <;> cases hj
      rfl
    simp only [aggWithin, this]
    rfl


/-! ## Placement of disaggregated values -/

/-- `disaggregate` in block coordinates: position `i` of the `k` high-frequency periods of low-frequency period `T` carries
the value of `T` when the method keeps position `i`, and is missing otherwise. Trimming included. -/
theorem disaggregate_block (hi lo : Freq) (hp : (hi, lo) ∈ regularPairs) (s : Ser) (hs : s.freq = lo)
    (hne : s.rows ≠ []) (dm : DMethod) :
    ∃ r, disaggregate s hi dm = .ok r ∧ r.freq = hi ∧ r.nv = s.nv ∧
      ∀ (v : Nat) (T : Int) (i : Nat), i < factorOf hi lo →
        r.get v (T * (factorOf hi lo : Nat) + i) = if keeps (dm.offset (factorOf hi lo)) i then s.get v T else none := by
  rw [disaggregate_eq hi lo hp s hs hne dm]
  refine ⟨_, rfl, rfl, rfl, fun v T i hi' => ?_⟩
  generalize factorOf hi lo = k at hi' ⊢
  rw [Ser.get_trim, Ser.get_eq, Ser.get_eq]
  dsimp only
  by_cases c : T < s.start
  · have : (T + 1) * (k : Int) ≤ s.start * k := Int.mul_le_mul_of_nonneg_right (by omega) (by omega)
    rw [Int.add_mul] at this
    rw [if_pos c, if_pos (by omega), ite_self]
  · have : s.start * (k : Int) ≤ T * k := Int.mul_le_mul_of_nonneg_right (by omega) (by omega)
    have e : (T * (k : Int) + i - s.start * k).toNat = (T - s.start).toNat * k + i := by
      rw [show T * (k : Int) + i - s.start * k = (T - s.start) * k + i by rw [Int.sub_mul]; omega,
        Int.toNat_add (Int.mul_nonneg (by omega) (by omega)) (by omega), Int.toNat_mul (by omega) (Int.natCast_nonneg k),
        Int.toNat_natCast, Int.toNat_natCast]
    rw [if_neg c, if_neg (by omega), e, disaggRows_block hi']

/-- **Placement (regular targets).** `disaggregate` succeeds and, as a period-indexed map, the result at every
high-frequency period `t` is the value of the low-frequency period `t / k` that contains it (`refrequent_regular`) when the
position `t % k` of `t` inside that period is kept by the method — every position for `flat`, `0` for `first`, `k / 2` for
`middle`, `k - 1` for `last` — and missing everywhere else (`k` = number of high-frequency periods per low-frequency
period). Trimming included; no condition on variants or the NaN pattern. -/
theorem disaggregate_placement (hi lo : Freq) (hp : (hi, lo) ∈ regularPairs) (s : Ser) (hs : s.freq = lo)
    (hne : s.rows ≠ []) (dm : DMethod) :
    ∃ r, disaggregate s hi dm = .ok r ∧ r.freq = hi ∧ r.nv = s.nv ∧
      ∀ (v : Nat) (t : Int), r.get v t =
        if keeps (dm.offset (factorOf hi lo)) (t % (factorOf hi lo : Nat)).toNat then s.get v (t / (factorOf hi lo : Nat)) else none := by
  obtain ⟨r, hr, hf, hn, hget⟩ := disaggregate_block hi lo hp s hs hne dm
  refine ⟨r, hr, hf, hn, fun v t => ?_⟩
  obtain ⟨hpos, ht⟩ := block_coords t (factorOf_pos hi lo hp)
  rw [← hget v _ _ hpos, ht]


/-! ## Round trips -/

theorem foldl_add_replicate (k : Nat) (a q : Rat) : (List.replicate k q).foldl (· + ·) a = a + k * q := by
  induction k generalizing a with
  | zero => simp
  | succ k ih =>
    rw [List.replicate_succ, List.foldl_cons, ih]
    push_cast
    ring

/-- the matching (disaggregation, aggregation) method pairs of the property statement -/
def matchingMethods : List (DMethod × Method) :=
  [(.flat, .mean), (.flat, .first), (.flat, .last), (.flat, .min), (.flat, .max), (.first, .first), (.last, .last)]

theorem aggPure_replicate (m : Method) (hm : (DMethod.flat, m) ∈ matchingMethods) (k : Nat) (x : Val) :
    aggPure false m (List.replicate (k + 1) x) = x := by
  rw [aggPure_false (by simp)]
  simp only [matchingMethods, List.mem_cons, Prod.mk.injEq, true_and, reduceCtorEq, false_and, List.mem_nil_iff, or_false] at hm
  rcases hm with rfl | hm
  · cases x with
    | none => exact stMean_of_mem_none _ (by simp)
    | some q =>
      rw [← List.map_replicate]
      simp only [Method.apply, stMean, pySum, foldl_addVal_some, foldl_add_replicate, List.length_map, List.length_replicate]
      rw [zero_add, mul_div_cancel_left₀ _ (Nat.cast_ne_zero.2 (Nat.succ_ne_zero k))]
  · exact apply_replicate hm k x

theorem group_roundtrip (k : Nat) (hk : 0 < k) (dm : DMethod) (m : Method) (hc : (dm, m) ∈ matchingMethods) (x : Val) :
    aggPure false m ((List.range k).map fun i => if keeps (dm.offset k) i then x else none) = x := by
  obtain ⟨k, rfl⟩ : ∃ k', k = k' + 1 := ⟨k - 1, by omega⟩
  cases dm
  · rw [map_range_eq_replicate _ _ x]
    · exact aggPure_replicate m hc k x
    · exact fun _ _ => rfl
  · obtain rfl : m = .first := by simpa [matchingMethods] using hc
    rw [List.range_succ_eq_map, List.map_cons]
    exact (first_last_member x _).1
  · simp [matchingMethods] at hc
  · obtain rfl : m = .last := by simpa [matchingMethods] using hc
    rw [List.range_succ, List.map_append, List.map_singleton, DMethod.offset, keeps, Nat.add_sub_cancel, beq_self_eq_true,
      if_pos rfl]
    exact (first_last_member x _).2

/-- the round trip for any pair of a placement method and an aggregation (method, `discard`) that recovers a value from the
group in which it stands at the kept positions and NaN stands elsewhere -/
theorem roundtrip_of_group (hi lo : Freq) (hp : (hi, lo) ∈ regularPairs) (s : Ser) (hs : s.freq = lo)
    (hobs : ∃ v t, s.get v t ≠ none) (dm : DMethod) (m : Method) (disc : Bool)
    (hgrp : ∀ x : Val, aggPure disc m
      ((List.range (factorOf hi lo)).map fun i => if keeps (dm.offset (factorOf hi lo)) i then x else none) = x) :
    ∃ d a, (disaggregate s hi dm = .ok d ∧ d.freq = hi ∧ d.rows ≠ []) ∧ aggregate d lo m disc none = .ok a ∧ a.freq = lo ∧
      a.nv = s.nv ∧ ∀ v, v < s.nv → ∀ T : Int, a.get v T = s.get v T := by
  obtain ⟨v0, t0, h0⟩ := hobs
  obtain ⟨d, hd, hdf, hdn, hdget⟩ := disaggregate_block hi lo hp s hs (fun h => h0 (Ser.get_of_rows_nil h v0 t0)) dm
  -- were the disaggregated series empty, the group of `t0` would be all NaN and could not give the observation back
  have hdne : d.rows ≠ [] := by
    intro h
    apply h0
    rw [← hgrp (s.get v0 t0), map_range_eq_replicate _ _ none, aggPure_replicate_none]
    intro i hi
    rw [← hdget v0 t0 i hi, Ser.get_of_rows_nil h]
  obtain ⟨a, ha, haf, han, haget⟩ := aggregate_regular_membership hi lo hp d hdf hdne m disc
  refine ⟨d, a, ⟨hd, hdf, hdne⟩, ha, haf, by rw [han, hdn], fun v hv T => ?_⟩
  rw [haget v (by rw [hdn]; exact hv) T, ← hgrp (s.get v T)]
  unfold members
  rw [List.map_map]
  exact congrArg _ (List.map_congr_left fun i hi' => hdget v T i (List.mem_range.1 hi'))

/-- **Round trips.** For every series with at least one observation (any start, length, variants, NaN pattern), every
regular pair and every matching method pair — `flat` with mean / first / last / min / max, `first` with `first`, `last`
with `last` — aggregating the disaggregated series succeeds and returns, as a period-indexed map, exactly the original
series (missing values map to missing values). -/
theorem aggregate_disaggregate_roundtrip (hi lo : Freq) (hp : (hi, lo) ∈ regularPairs) (s : Ser) (hs : s.freq = lo)
    (hobs : ∃ v t, s.get v t ≠ none) (dm : DMethod) (m : Method) (hc : (dm, m) ∈ matchingMethods) :
    ∃ d a, disaggregate s hi dm = .ok d ∧ aggregate d lo m false none = .ok a ∧ a.freq = lo ∧ a.nv = s.nv ∧
      ∀ v, v < s.nv → ∀ T : Int, a.get v T = s.get v T :=
  let ⟨d, a, hd, h⟩ := roundtrip_of_group hi lo hp s hs hobs dm m false (group_roundtrip _ (factorOf_pos hi lo hp) dm m hc)
  ⟨d, a, hd.1, h⟩


/-! ## arip -/

open Matrix IrisVerif.AripMin

section Arip
variable {K : Type} [Field K] [LinearOrder K] [IsStrictOrderedRing K]
variable {qa qt : Type} [Fintype qa] [Fintype qt] [DecidableEq qa] [DecidableEq qt]

/-- arip with the constraint rows in one matrix `A`: the `x`-part of a solution of the bordered system
`[[KᵀK, Aᵀ], [A, 0]] (x, λ) = (Kᵀc, b)` meets `A x = b` and minimises the criterion among all `x'` with `A x' = b` (the
system is stationarity plus feasibility of the least-squares problem `‖K x − c‖²`). -/
theorem arip_kkt_min {q : Type} [Fintype q] [DecidableEq q] (N : Nat) (rho const : K) (sigma : Fin (N + 1) → K)
    (A : Matrix q (Fin (N + 1)) K) (b : q → K) (x : Fin (N + 1) → K) (lam : q → K)
    (hsys : Matrix.fromBlocks ((arK N rho sigma)ᵀ * arK N rho sigma) Aᵀ A 0 *ᵥ Sum.elim x lam
              = Sum.elim ((arK N rho sigma)ᵀ *ᵥ arC N const sigma) b) :
    A *ᵥ x = b ∧ ∀ x' : Fin (N + 1) → K, A *ᵥ x' = b → criterion N rho const sigma x ≤ criterion N rho const sigma x' := by
  obtain ⟨hstat, hfeas⟩ := (QuadMin.bordered_iff _ _ _ _ _ _).1 hsys
  refine ⟨hfeas, fun x' hx' => ?_⟩
  rw [criterion_eq, criterion_eq]
  exact QuadMin.cls_min _ _ A b x lam hstat hfeas x' hx'

/-- **arip (multiplier columns = transposed constraint rows, as irispie builds them since commit a408cc0).** Let `K`, `c`
be the difference matrix and constant of the autoregression (`arK`, `arC`: any `ρ`, `c`, `σ`), `Agg` any matrix of aggregation rows (any aggregation vector, one row per observed
low-frequency value `y`), `Tar` the target rows (`τ` the target values). If `(x, λ)` solves the bordered system
`[[KᵀK, Aᵀ], [A, 0]] (x, λ) = (Kᵀc, (y, τ))`, `A` = `Agg` stacked on `Tar`, then the high-frequency part `x`
satisfies every aggregation row and every target row exactly and minimises the documented criterion
`Σ_t ((x_{t+1} − ρ x_t − c)/σ_{t+1})²` among all `x'` that satisfy the same rows. -/
theorem arip_solution_is_constrained_minimiser (N : Nat) (rho const : K) (sigma : Fin (N + 1) → K)
    (Agg : Matrix qa (Fin (N + 1)) K) (Tar : Matrix qt (Fin (N + 1)) K) (y : qa → K) (tau : qt → K)
    (x : Fin (N + 1) → K) (lam : qa ⊕ qt → K)
    (hsys : Matrix.fromBlocks ((arK N rho sigma)ᵀ * arK N rho sigma) (Matrix.fromRows Agg Tar)ᵀ (Matrix.fromRows Agg Tar) 0
              *ᵥ Sum.elim x lam = Sum.elim ((arK N rho sigma)ᵀ *ᵥ arC N const sigma) (Sum.elim y tau)) :
    Agg *ᵥ x = y ∧ Tar *ᵥ x = tau ∧
    ∀ x' : Fin (N + 1) → K, Agg *ᵥ x' = y → Tar *ᵥ x' = tau →
      criterion N rho const sigma x ≤ criterion N rho const sigma x' := by
  obtain ⟨hfeas, hmin⟩ := arip_kkt_min N rho const sigma _ _ x lam hsys
  rw [Matrix.fromRows_mulVec, Sum.elim_eq_iff] at hfeas
  exact ⟨hfeas.1, hfeas.2, fun x' h1 h2 => hmin x' (by rw [Matrix.fromRows_mulVec, h1, h2])⟩

/-- **arip (0/1 membership columns, aggregation "sum" or "mean").** Before commit a408cc0 irispie's
`_create_multiplier_column` used 0/1 membership columns `M` for the aggregation multipliers. When the aggregation rows
are a non-zero multiple of the transposed membership columns (`Agg = a • Mᵀ`: `a = 1` for "sum", `a = 1/n` for "mean") the conclusion is the same. -/
theorem arip_membership_columns_sum_mean (N : Nat) (rho const : K) (sigma : Fin (N + 1) → K)
    (M : Matrix (Fin (N + 1)) qa K) (a : K) (ha : a ≠ 0)
    (Tar : Matrix qt (Fin (N + 1)) K) (y : qa → K) (tau : qt → K)
    (x : Fin (N + 1) → K) (l1 : qa → K) (l2 : qt → K)
    (hstat : ((arK N rho sigma)ᵀ * arK N rho sigma) *ᵥ x + (M *ᵥ l1 + Tarᵀ *ᵥ l2) = (arK N rho sigma)ᵀ *ᵥ arC N const sigma)
    (hagg : (a • Mᵀ) *ᵥ x = y) (htar : Tar *ᵥ x = tau) :
    ∀ x' : Fin (N + 1) → K, (a • Mᵀ) *ᵥ x' = y → Tar *ᵥ x' = tau →
      criterion N rho const sigma x ≤ criterion N rho const sigma x' := by
  have hrow : M *ᵥ l1 + Tarᵀ *ᵥ l2 = (Matrix.fromRows (a • Mᵀ) Tar)ᵀ *ᵥ Sum.elim (a⁻¹ • l1) l2 := by
    rw [Matrix.transpose_fromRows, Matrix.fromCols_mulVec_sumElim]
    congr 1
    rw [Matrix.transpose_smul, Matrix.transpose_transpose, Matrix.smul_mulVec, Matrix.mulVec_smul, smul_smul,
      mul_inv_cancel₀ ha, one_smul]
  exact (arip_solution_is_constrained_minimiser N rho const sigma (a • Mᵀ) Tar y tau x (Sum.elim (a⁻¹ • l1) l2)
    ((QuadMin.bordered_iff _ _ _ _ _ _).2 ⟨hrow ▸ hstat, by rw [Matrix.fromRows_mulVec, hagg, htar]⟩)).2.2

end Arip

/-! ### Defect C12-b: with 0/1 membership columns and aggregation "first" the solution is not the minimiser -/

/-- two yearly values `0, 6`, two periods per year, aggregation "first" (`x₀ = 0`, `x₂ = 6`), `ρ = 1`, `c = 0`, `σ = 1`:
`x = (0, 2, 6, 8)` with multipliers `(2, -2)` solves the system built with membership columns (columns
`(1,1,0,0)`, `(0,0,1,1)`), yet `x' = (0, 3, 6, 6)` meets the same constraints with a strictly smaller criterion
(18 < 24). So the bordered system with membership columns does not characterise the constrained minimiser. -/
theorem arip_membership_columns_first_not_minimiser :
    let Km := arK 3 (1 : ℚ) (fun _ => 1)
    let Agg : Matrix (Fin 2) (Fin 4) ℚ := !![1, 0, 0, 0; 0, 0, 1, 0]
    let M : Matrix (Fin 4) (Fin 2) ℚ := !![1, 0; 1, 0; 0, 1; 0, 1]
    let x : Fin 4 → ℚ := ![0, 2, 6, 8]
    let x' : Fin 4 → ℚ := ![0, 3, 6, 6]
    (Kmᵀ * Km) *ᵥ x + M *ᵥ ![2, -2] = Kmᵀ *ᵥ arC 3 (0 : ℚ) (fun _ => 1) ∧
    Agg *ᵥ x = ![0, 6] ∧ Agg *ᵥ x' = ![0, 6] ∧
    criterion 3 (1 : ℚ) 0 (fun _ => 1) x' < criterion 3 (1 : ℚ) 0 (fun _ => 1) x := by
  decide +kernel


/-! ## Finding C12-a (DAILY targets) -/

/-- **Finding C12-a.** Disaggregation to DAILY repeats every value `365 // f` times (30 days per month) instead of the
calendar length of the period: monthly `1, 2, 3` from January 2020 disaggregated `flat` puts February's value `2` on
2020-01-31 (ordinal 737455), a day that `refrequent` sends to January (monthly serial 24240). The placement theorem
therefore does not extend to DAILY targets; the model reproduces the code here and the harness reports the site
`disaggregate-to-daily`. -/
theorem disaggregate_daily_misplaces :
    (disaggregate ⟨.M, 1, 24240, [[some 1], [some 2], [some 3]]⟩ .D .flat).map (fun r => r.get 0 737455) = .ok (some 2) ∧
    refrequent ⟨.D, 737455⟩ .M .start = .ok ⟨.M, 24240⟩ := by
  decide +kernel

/-! ## Examples: the hypotheses of the membership, placement and round-trip theorems are met by concrete non-trivial
values, and the model computes -/

example : (Freq.M, Freq.Q) ∈ regularPairs ∧ factorOf .M .Q = 3 ∧ members .M .Q 8080 = [24240, 24241, 24242] := by decide +kernel
example : (aggregate ⟨.Q, 1, 8081, [[some 1], [some 2], [some 3], [some 4], [some 5], [some 6], [some 7]]⟩ .Y .mean false none).map
    (fun r => (r.start, r.rows)) = .ok (2021, [[some (11 / 2)]]) := by decide +kernel
example : (aggregate ⟨.Q, 1, 8081, [[none], [some 2], [some 3], [some 4]]⟩ .Y .min true none).map
    (fun r => (r.start, r.rows)) = .ok (2020, [[some 2], [some 4]]) := by decide +kernel
example : (disaggregate ⟨.Y, 1, 2020, [[some 1], [some 2]]⟩ .Q .middle).map (fun r => (r.start, r.rows))
    = .ok (8082, [[some 1], [none], [none], [none], [some 2]]) := by decide +kernel
example : ∃ v t, (⟨.Q, 1, 8081, [[some 1], [none], [some 3]]⟩ : Ser).get v t ≠ none := ⟨0, 8081, by decide +kernel⟩
example : days .M 24241 = (List.range 29).map (fun (i : Nat) => (737456 : Int) + i) := by decide +kernel
example : firstDay .M 24241 = 737456 ∧ lastDay .M 24241 = 737484 := by decide +kernel     -- February 2020 has 29 days
example : (DMethod.flat, Method.max) ∈ matchingMethods := by decide

end IrisVerif.C12
