/-
C09 — Periods behave as calendar-consistent integers and spans as their ranges.

The property theorems, each preceded by the lemmas only it needs; the calendar and regular-period lemmas are in
IrisVerif/Lemmas. Every theorem is about the executable model in IrisVerif/Model/{Dates,Spans}.lean, which the
correspondence check ties to /repo/src/irispie/dates.py (and whose closed-form fragments are regenerated from that file).
-/
import IrisVerif.Model.Spans
import IrisVerif.Lemmas.Calendar
import IrisVerif.Lemmas.Refrequent
import IrisVerif.Lemmas.DayLine
import IrisVerif.Lemmas.PyRange

namespace IrisVerif.Dates.C09
open IrisVerif.Dates IrisVerif.Gen.Dates

/-! ## 1. Serial arithmetic, order, equality, hashing (all integers, all frequencies) -/

theorem checkPeriods_same {p q : Period} (h : p.freq = q.freq) : checkPeriods p q = .ok () := if_pos h

theorem checkPeriods_mixed {p q : Period} (h : p.freq ≠ q.freq) : checkPeriods p q = .error .mixedFreq := if_neg h

/-- `(p + n) - p == n` -/
theorem add_sub_cancel (p : Period) (n : Int) : (p.add n).subPeriod p = .ok n := by
  rw [Period.subPeriod, checkPeriods_same (show (p.add n).freq = p.freq from rfl)]
  exact congrArg Except.ok (show p.serial + n - p.serial = n by omega)

/-- `p + (q - p) == q` within one frequency -/
theorem sub_add_cancel (p q : Period) (h : p.freq = q.freq) :
    ∃ d, q.subPeriod p = .ok d ∧ p.add d = q := by
  refine ⟨q.serial - p.serial, ?_, ?_⟩
  · simp [Period.subPeriod, checkPeriods_same h.symm, bind, Except.bind, pure, Except.pure]
  · obtain ⟨f, a⟩ := p
    obtain ⟨g, b⟩ := q
    cases h
    exact congrArg (Period.mk f) (show a + (b - a) = b by omega)

/-- comparison operators are exactly the comparisons of the serials -/
theorem order_is_serial_order (p q : Period) (h : p.freq = q.freq) :
    p.lt q = .ok (decide (p.serial < q.serial)) ∧ p.le q = .ok (decide (p.serial ≤ q.serial)) ∧
    p.gt q = .ok (decide (p.serial > q.serial)) ∧ p.ge q = .ok (decide (p.serial ≥ q.serial)) ∧
    p.eq q = .ok (p.serial == q.serial) ∧ p.ne q = .ok (p.serial != q.serial) := by
  simp [Period.lt, Period.le, Period.gt, Period.ge, Period.eq, Period.ne, checkPeriods_same h, bind, Except.bind,
    pure, Except.pure]

/-- the order is total and strict: exactly one of `<`, `==`, `>` holds -/
theorem order_trichotomy (p q : Period) (h : p.freq = q.freq) :
    (p.lt q = .ok true ∧ p.eq q = .ok false ∧ p.gt q = .ok false) ∨
    (p.lt q = .ok false ∧ p.eq q = .ok true ∧ p.gt q = .ok false) ∨
    (p.lt q = .ok false ∧ p.eq q = .ok false ∧ p.gt q = .ok true) := by
  obtain ⟨h1, _, h3, _, h5, _⟩ := order_is_serial_order p q h
  rw [h1, h3, h5]
  rcases Int.lt_trichotomy p.serial q.serial with h | h | h
  · left; simp; omega
  · right; left; simp; omega
  · right; right; simp; omega

theorem eq_decide {p q : Period} (h : p.freq = q.freq) : p.eq q = .ok (decide (p = q)) := by
  rw [(order_is_serial_order p q h).2.2.2.2.1]
  cases p; cases q; simp_all [Bool.beq_eq_decide_eq]

/-- `==` agrees with structural identity of (frequency, serial) -/
theorem eq_true_iff (p q : Period) (h : p.freq = q.freq) : p.eq q = .ok true ↔ p = q := by
  rw [eq_decide h]; simp

theorem freq_value_injective (f g : Freq) (h : f.value = g.value) : f = g := by
  revert h; cases f <;> cases g <;> decide

/-- hashing agrees with equality: equal periods have equal hash keys and distinct ones distinct keys -/
theorem hashKey_eq_iff (p q : Period) : p.hashKey = q.hashKey ↔ p = q := by
  constructor
  · intro h
    cases p; cases q
    simp only [Period.hashKey, Prod.mk.injEq] at h
    obtain ⟨h1, h2⟩ := h
    simp [h1, freq_value_injective _ _ h2]
  · intro h; rw [h]

/-- mixing frequencies is rejected by every binary operation (including `==` and `!=`) -/
theorem mixed_frequencies_rejected (p q : Period) (h : p.freq ≠ q.freq) :
    p.subPeriod q = .error .mixedFreq ∧ p.eq q = .error .mixedFreq ∧ p.ne q = .error .mixedFreq ∧
    p.lt q = .error .mixedFreq ∧ p.le q = .error .mixedFreq ∧ p.gt q = .error .mixedFreq ∧
    p.ge q = .error .mixedFreq ∧
    (∀ step, Span.make (some (.res p)) (some (.res q)) step = .error .mixedFreq) ∧
    (∀ step, periodsFromUntil p q step = .error .mixedFreq) := by
  simp [Period.subPeriod, Period.lt, Period.le, Period.gt, Period.ge, Period.eq, Period.ne, checkPeriods_mixed h, bind,
    Except.bind, Span.make, h, periodsFromUntil, throw, throwThe, MonadExceptOf.throw]

/-! ## 2. Year/segment decomposition -/

def regularFreqs : List Freq := [.Y, .H, .Q, .M]

theorem isRegular_of_mem {f : Freq} (hf : f ∈ regularFreqs) : f.isRegular = true := by
  simp only [regularFreqs, List.mem_cons, List.mem_nil_iff, or_false] at hf
  rcases hf with rfl | rfl | rfl | rfl <;> rfl

theorem mem_regularFreqs {f : Freq} (hf : f.isRegular = true) : f ∈ regularFreqs := by
  revert hf; cases f <;> decide

/-- `(year, segment) → period → (year, segment)` for every regular frequency -/
theorem toYearSegment_fromYearSegment (f : Freq) (hf : f ∈ regularFreqs) (y seg : Int)
    (h1 : 1 ≤ seg) (h2 : seg ≤ f.value) :
    toYearSegment (fromYearSegment f y seg) = .ok (y, seg) := by
  have hr := isRegular_of_mem hf
  rw [fromYearSegment_regular hr, toYearSegment_regular hr, (serial_of_segment hr y h1 h2).1,
    (serial_of_segment hr y h1 h2).2]

/-- `period → (year, segment) → period`, and the segment is always inside `1 … f` -/
theorem fromYearSegment_toYearSegment (p : Period) (hf : p.freq ∈ regularFreqs) :
    ∃ y seg, toYearSegment p = .ok (y, seg) ∧ 1 ≤ seg ∧ seg ≤ p.freq.value ∧
      fromYearSegment p.freq y seg = p := by
  obtain ⟨f, s⟩ := p
  have hr : f.isRegular = true := isRegular_of_mem hf
  exact ⟨_, _, toYearSegment_regular hr s, (segment_range hr s).1, (segment_range hr s).2, fromYearSegment_div_mod hr s⟩

/-! ## 3. The civil calendar: ordinal ↔ (year, month, day) is a bijection onto valid dates -/

theorem ord2ymd_ymd2ord (y m d : Int) (h : ValidYmd y m d) : ord2ymd (ymd2ord y m d) = (y, m, d) := by
  have hb := doy_le_yearLen y m d h
  have hy : yearOf (ymd2ord y m d) = y := by
    apply yearOf_unique
    · unfold ymd2ord; omega
    · rw [dby_succ]; unfold ymd2ord; omega
  unfold ord2ymd
  simp only [hy]
  have e : ymd2ord y m d - dby y = dbm y m + d := by unfold ymd2ord; omega
  rw [e, monthOf_of_valid y m d h]
  congr 2; omega

theorem ymd2ord_ord2ymd (n : Int) : ymd2ord (ord2ymd n).1 (ord2ymd n).2.1 (ord2ymd n).2.2 = n :=
  ymd2ord_of_ord2ymd n

/-- distinct valid dates have distinct ordinals -/
theorem ymd2ord_injective (y m d y' m' d' : Int) (h : ValidYmd y m d) (h' : ValidYmd y' m' d')
    (e : ymd2ord y m d = ymd2ord y' m' d') : (y, m, d) = (y', m', d') := by
  rw [← ord2ymd_ymd2ord y m d h, ← ord2ymd_ymd2ord y' m' d' h', e]

/-! ## 4. Tiling: consecutive periods partition the day line; start ≤ middle ≤ end; the accessors agree with the dates -/

theorem mem_calendarFreqs {f : Freq} (hf : f ∈ regularFreqs) : f ∈ C11.calendarFreqs :=
  C11.regular_calendar (isRegular_of_mem hf)

/-- **Tiling.** For every regular frequency and every serial, the first day of period `s+1` is the day
after the last day of period `s`: consecutive periods cover the day line without gap or overlap. -/
theorem consecutive_periods_tile (f : Freq) (hf : f ∈ regularFreqs) (s : Int) :
    ∃ a b, dayOrd ⟨f, s⟩ .end_ = .ok a ∧ dayOrd ⟨f, s + 1⟩ .start = .ok b ∧ b = a + 1 :=
  have hc := mem_calendarFreqs hf
  ⟨_, _, C11.dayOrd_eq_ordAt f hc s .end_, C11.dayOrd_eq_ordAt f hc (s + 1) .start, C11.ordAt_tile f hc s⟩

theorem tiling_Y (s : Int) :
    ∃ a b, dayOrd ⟨.Y, s⟩ .end_ = .ok a ∧ dayOrd ⟨.Y, s + 1⟩ .start = .ok b ∧ b = a + 1 :=
  consecutive_periods_tile .Y (by decide) s

/-- start ≤ middle ≤ end inside every regular period (that all three are valid calendar dates of the period's own year and
segment is `accessors_agree_with_dates` below). -/
theorem start_le_middle_le_end (f : Freq) (hf : f ∈ regularFreqs) (s : Int) :
    ∃ a m b, dayOrd ⟨f, s⟩ .start = .ok a ∧ dayOrd ⟨f, s⟩ .middle = .ok m ∧ dayOrd ⟨f, s⟩ .end_ = .ok b ∧
      a ≤ m ∧ m ≤ b :=
  have hc := mem_calendarFreqs hf
  ⟨_, _, _, C11.dayOrd_eq_ordAt f hc s .start, C11.dayOrd_eq_ordAt f hc s .middle, C11.dayOrd_eq_ordAt f hc s .end_,
    C11.ordAt_order f hc s .middle⟩

theorem dayOrd_year (f : Freq) (hf : f ∈ regularFreqs) (y : Int) :
    dayOrd ⟨f, y * f.value + 1 - 1⟩ .start = .ok (ymd2ord y 1 1) ∧
    dayOrd ⟨f, y * f.value + f.value - 1⟩ .end_ = .ok (ymd2ord y 12 31) := by
  have hr := isRegular_of_mem hf
  have hk := regular_value_pos hr
  obtain ⟨a1, a2⟩ := serial_of_segment hr y (Int.le_refl 1) (by omega)
  obtain ⟨b1, b2⟩ := serial_of_segment hr y (by omega) (Int.le_refl f.value)
  have a2' : (y * f.value + 1 - 1) % f.value = 0 := by omega
  rw [dayOrd_of_toYmd (toYmd_start hr _), dayOrd_of_toYmd (toYmd_end hr _), a1, a2', b1,
    (segment_last_month hr _).2 b2, Int.zero_mul, Int.zero_add, daysInMonth_dec]
  exact ⟨rfl, rfl⟩

/-- the date a period resolves to is a valid calendar date in the period's own year and segment (match form) -/
def AccessorsAgree (p : Period) (pos : Pos) : Prop :=
  match toYmd p pos with
  | .ok (y, m, d) => ValidYmd y m d ∧ toYearSegment p = .ok (y, monthToSegment p.freq m)
  | .error _ => False

/-- **Accessors agree with the calendar dates.** For every regular period and every position, the date the period resolves to
is a valid calendar date whose year is the period's `year` and whose month lies in the period's `segment`. -/
theorem accessors_agree_with_dates (f : Freq) (hf : f ∈ regularFreqs) (s : Int) (pos : Pos) : AccessorsAgree ⟨f, s⟩ pos := by
  have hr := isRegular_of_mem hf
  obtain ⟨m, d, hymd, hv, -, -, hseg⟩ := toYmd_spec hr s pos
  unfold AccessorsAgree
  rw [hymd]
  exact ⟨hv, by rw [hseg]; exact toYearSegment_regular hr s⟩

theorem AccessorsAgree.exists {p : Period} {pos : Pos} (h : AccessorsAgree p pos) :
    ∃ y m d, toYmd p pos = .ok (y, m, d) ∧ ValidYmd y m d ∧ toYearSegment p = .ok (y, monthToSegment p.freq m) := by
  unfold AccessorsAgree at h
  split at h
  · rename_i y m d heq; exact ⟨y, m, d, heq, h.1, h.2⟩
  · exact absurd h id

example : AccessorsAgree ⟨.M, 24241⟩ .end_ := accessors_agree_with_dates .M (by simp [regularFreqs]) 24241 .end_

/-- daily periods: `(year, segment)` is the calendar year of the ordinal and the 1-based day of that year -/
theorem daily_year_segment (n : Int) :
    ∃ y seg, toYearSegment ⟨.D, n⟩ = .ok (y, seg) ∧ (ord2ymd n).1 = y ∧ 1 ≤ seg ∧ seg ≤ yearLen y ∧
      fromYearSegment .D y seg = ⟨.D, n⟩ := by
  have hs := yearOf_spec n
  rw [dby_succ] at hs
  have hj := ymd2ord_jan1 (yearOf n)
  refine ⟨yearOf n, n - ymd2ord (yearOf n) 1 1 + 1, rfl, rfl, by omega, by omega, ?_⟩
  exact congrArg (Period.mk .D) (by omega)

/-! ## 5. Shift keywords land on the documented period -/

/-- `yoy`: same segment, previous year (regular frequencies); always `p - frequency.value` -/
theorem shift_yoy (p : Period) : p.shift .yoy = .ok (p.add (-(p.freq.value))) := rfl

theorem shift_yoy_regular (f : Freq) (hf : f ∈ regularFreqs) (s : Int) :
    ∃ y seg, toYearSegment ⟨f, s⟩ = .ok (y, seg) ∧
      toYearSegment ((⟨f, s⟩ : Period).add (-(f.value))) = .ok (y - 1, seg) := by
  have hr := isRegular_of_mem hf
  have hk := Int.ne_of_gt (regular_value_pos hr)
  refine ⟨_, _, toYearSegment_regular hr s, ?_⟩
  have e : s + -f.value = s + -1 * f.value := by omega
  simp only [Period.add]
  rw [toYearSegment_regular hr, e, Int.add_mul_ediv_right _ _ hk, Int.add_mul_emod_self_right]
  rfl

/-- `soy`/`boy`: segment 1 of the same year, never later than `p` -/
theorem shift_soy_regular (f : Freq) (hf : f ∈ regularFreqs) (s : Int) :
    ∃ y seg q, toYearSegment ⟨f, s⟩ = .ok (y, seg) ∧ (⟨f, s⟩ : Period).shift .soy = .ok q ∧
      toYearSegment q = .ok (y, 1) ∧ q.freq = f ∧ q.serial = s - (seg - 1) := by
  have hr := isRegular_of_mem hf
  have hys := toYearSegment_regular hr s
  have h1 := regular_value_pos hr
  refine ⟨_, _, fromYearSegment f (s / f.value) 1, hys, ?_,
    toYearSegment_fromYearSegment f hf _ 1 (by omega) (by omega), ?_, ?_⟩
  · rw [Period.shift, createSoy, hys]; rfl
  · rw [fromYearSegment_regular hr]
  · rw [fromYearSegment_regular hr]
    have := Int.ediv_mul_add_emod s f.value
    simp only; omega

/-- `eopy`: last segment of the previous year = the period just before `soy` -/
theorem shift_eopy_regular (f : Freq) (hf : f ∈ regularFreqs) (s : Int) :
    ∃ y seg q, toYearSegment ⟨f, s⟩ = .ok (y, seg) ∧ (⟨f, s⟩ : Period).shift .eopy = .ok q ∧
      toYearSegment q = .ok (y - 1, f.value) ∧ q.freq = f ∧ q.serial = s - seg := by
  have hr := isRegular_of_mem hf
  have hys := toYearSegment_regular hr s
  have h1 := regular_value_pos hr
  refine ⟨_, _, fromYearSegment f (s / f.value - 1) f.value, hys, ?_,
    toYearSegment_fromYearSegment f hf _ _ (by omega) (by omega), ?_, ?_⟩
  · rw [Period.shift, createEopy, hys]
    rcases isRegular_cases hr with rfl | rfl | rfl | rfl <;> rfl
  · rw [fromYearSegment_regular hr]
  · rw [fromYearSegment_regular hr, Int.sub_mul, Int.one_mul]
    have := Int.ediv_mul_add_emod s f.value
    simp only; omega

/-- `tty`: the previous period while it stays in the same year, no period at segment 1 -/
theorem shift_tty (p : Period) (y seg : Int) (h : toYearSegment p = .ok (y, seg)) :
    p.shift .tty = if seg > 1 then .ok (p.add (-1)) else .error .noPeriod := by
  rw [Period.shift, createTty, h]; rfl

/-- daily `soy` is January 1st and `eopy` is December 31st of the previous year (= the day before `soy`) -/
theorem shift_daily (n : Int) :
    (⟨.D, n⟩ : Period).shift .soy = .ok ⟨.D, ymd2ord (yearOf n) 1 1⟩ ∧
    (⟨.D, n⟩ : Period).shift .eopy = .ok ⟨.D, ymd2ord (yearOf n - 1) 12 31⟩ ∧
    ymd2ord (yearOf n - 1) 12 31 + 1 = ymd2ord (yearOf n) 1 1 ∧
    ymd2ord (yearOf n) 1 1 ≤ n := by
  refine ⟨?_, rfl, ?_, ?_⟩
  · simp [Period.shift, createSoy, toYearSegment, fromYearSegment, bind, Except.bind, pure, Except.pure]
  · rw [ymd2ord_dec31, ymd2ord_jan1, Int.sub_add_cancel]
  · rw [ymd2ord_jan1]; exact (yearOf_spec n).1

/-- `soy` and `eopy` never point forward: segment 1 of the year resp. the period before it -/
theorem soy_eopy_serial_le (f : Freq) (t : Int) (q : Period) :
    (Period.shift ⟨f, t⟩ .soy = .ok q → q.serial ≤ t) ∧ (Period.shift ⟨f, t⟩ .eopy = .ok q → q.serial ≤ t) := by
  by_cases hf : f ∈ regularFreqs
  · obtain ⟨_, _, q1, hys1, hq1, _, _, hs1⟩ := shift_soy_regular f hf t
    obtain ⟨_, _, q2, hys2, hq2, _, _, hs2⟩ := shift_eopy_regular f hf t
    have hr := isRegular_of_mem hf
    have := segment_range hr t
    -- the year and segment of the two theorems are `t / f.value` and `t % f.value + 1`, a segment between 1 and `f.value`
    cases (toYearSegment_regular hr t).symm.trans hys1
    cases (toYearSegment_regular hr t).symm.trans hys2
    constructor
    · intro h; cases hq1.symm.trans h; omega
    · intro h; cases hq2.symm.trans h; omega
  · cases f with
    | I => exact ⟨nofun, nofun⟩
    | D =>
      obtain ⟨h1, h2, h3, h4⟩ := shift_daily t
      constructor
      · intro h; cases h1.symm.trans h; exact h4
      · intro h; cases h2.symm.trans h
        show ymd2ord (yearOf t - 1) 12 31 ≤ t
        omega
    | _ => exact absurd (by decide) hf     -- the four regular frequencies are members of `regularFreqs`

theorem shift_int (p : Period) (k : Int) : p.shift (.by_ k) = .ok (p.add k) := rfl

/-! ## 6. Spans enumerate `start, start+step, …` up to `end`; len / index / iter / reverse / shift agree -/

theorem make_res_res (p q : Period) (step : Int) :
    Span.make (some (.res p)) (some (.res q)) step =
      if p.freq = q.freq then .ok ⟨.res p, .res q, step⟩ else .error .mixedFreq := rfl

theorem serials_res (f g : Freq) (a b : Int) {step : Int} (hs : step ≠ 0) :
    (⟨.res ⟨f, a⟩, .res ⟨g, b⟩, step⟩ : Span).serials = .ok (some (pyRange a (b + sign step) step)) := by
  simp [Span.serials, hs]; rfl

theorem getItem_res (f g : Freq) (a b i : Int) {step : Int} (hs : step ≠ 0) :
    (⟨.res ⟨f, a⟩, .res ⟨g, b⟩, step⟩ : Span).getItem i =
      match pyRangeGet a (b + sign step) step i with
      | none => .error .badInput
      | some x => .ok (some ⟨f, x⟩) :=
  if_neg hs

/-- **Enumeration.** A resolved span with non-zero step contains exactly the serials
`start + i·step` (`i = 0, 1, …`) that do not pass `end` in the direction of the step. -/
theorem span_enumerates (f : Freq) (a b step x : Int) (hs : step ≠ 0) :
    ∃ l, (⟨.res ⟨f, a⟩, .res ⟨f, b⟩, step⟩ : Span).serials = .ok (some l) ∧
      (x ∈ l ↔ ∃ i : Nat, x = a + (i : Int) * step ∧ (0 < step → x ≤ b) ∧ (step < 0 → b ≤ x)) :=
  ⟨_, serials_res f f a b hs, mem_pyRange_incl a b step x hs⟩

/-- step 0 is rejected; an unresolved span has no serials, no length, no items -/
theorem span_degenerate (s : Span) :
    (s.needsResolve = true → s.serials = .ok none ∧ s.len = .ok none ∧ s.iter = .ok none ∧ ∀ i, s.getItem i = .ok none) ∧
    (s.needsResolve = false → s.step = 0 → s.serials = .error .badInput) := by
  obtain ⟨a, b, st⟩ := s
  cases a with
  | ctx _ _ => exact ⟨fun _ => ⟨rfl, rfl, rfl, fun _ => rfl⟩, nofun⟩
  | res p =>
    cases b with
    | ctx _ _ => exact ⟨fun _ => ⟨rfl, rfl, rfl, fun _ => rfl⟩, nofun⟩
    | res q => exact ⟨nofun, fun _ h0 => if_pos h0⟩

/-- **len / iter / index agree**: `len(span) = len(list(span))`, `span[i] = list(span)[i]` for
`0 ≤ i < len`, `span[-k] = list(span)[len-k]`, anything else is an IndexError. -/
theorem span_len_iter_getItem (f : Freq) (a b step : Int) (hs : step ≠ 0) :
    ∃ l : List Int,
      (⟨.res ⟨f, a⟩, .res ⟨f, b⟩, step⟩ : Span).serials = .ok (some l) ∧
      (⟨.res ⟨f, a⟩, .res ⟨f, b⟩, step⟩ : Span).len = .ok (some l.length) ∧
      (⟨.res ⟨f, a⟩, .res ⟨f, b⟩, step⟩ : Span).iter = .ok (some (l.map (fun x => ⟨f, x⟩))) ∧
      (∀ i : Nat, (h : i < l.length) →
        (⟨.res ⟨f, a⟩, .res ⟨f, b⟩, step⟩ : Span).getItem i = .ok (some ⟨f, l[i]⟩) ∧ l[i] = a + (i : Int) * step) ∧
      (∀ k : Nat, (hk : 1 ≤ k) → (h : k ≤ l.length) →
        (⟨.res ⟨f, a⟩, .res ⟨f, b⟩, step⟩ : Span).getItem (-(k : Int)) = .ok (some ⟨f, l[l.length - k]'(by omega)⟩)) ∧
      (∀ i : Int, (i ≥ l.length ∨ i < -(l.length : Int)) →
        (⟨.res ⟨f, a⟩, .res ⟨f, b⟩, step⟩ : Span).getItem i = .error .badInput) := by
  have hl := pyRange_length a (b + sign step) step
  have hser := serials_res f f a b hs
  refine ⟨pyRange a (b + sign step) step, hser, ?_, ?_, ?_, ?_, ?_⟩
  · simp only [Span.len, hser, bind, Except.bind]; rfl
  · simp only [Span.iter, hser, bind, Except.bind]; rfl
  · intro i h
    rw [getItem_res f f a b i hs, pyRangeGet_of_nonneg (Int.natCast_nonneg i) (by omega), pyRange_getElem]
    exact ⟨rfl, rfl⟩
  · intro k hk h
    rw [getItem_res f f a b _ hs, pyRangeGet_of_neg (by omega) (by omega), pyRange_getElem,
      show -(k : Int) + (pyRangeLen a (b + sign step) step : Int)
        = (((pyRange a (b + sign step) step).length - k : Nat) : Int) by omega]
  · intro i h
    rw [getItem_res f f a b i hs, pyRangeGet_none (by omega)]

/-- shifting a span by `k` (in place or with `+`/`-`) shifts every element by `k` -/
theorem span_shift (f : Freq) (a b step k : Int) (hs : step ≠ 0) :
    ∃ l, (⟨.res ⟨f, a⟩, .res ⟨f, b⟩, step⟩ : Span).serials = .ok (some l) ∧
      ((⟨.res ⟨f, a⟩, .res ⟨f, b⟩, step⟩ : Span).shift k).serials = .ok (some (l.map (· + k))) ∧
      (⟨.res ⟨f, a⟩, .res ⟨f, b⟩, step⟩ : Span).addInt k = .ok ((⟨.res ⟨f, a⟩, .res ⟨f, b⟩, step⟩ : Span).shift k) := by
  refine ⟨_, serials_res f f a b hs, ?_, ?_⟩
  · rw [Span.shift, Endpoint.add, Endpoint.add, Period.add, Period.add, serials_res _ _ _ _ hs, ← pyRange_shift,
      Int.add_right_comm b]
  · exact (make_res_res _ _ step).trans (if_pos rfl)

/-- `reverse` swaps the ends and negates the step; doing it twice restores the span -/
theorem span_reverse_involutive (s : Span) : s.reverse.reverse = s := by
  obtain ⟨a, b, st⟩ := s
  simp [Span.reverse]

/-- **Reversal enumerates the reversed sequence** whenever the end is reachable from the start
(`end = start + m·step`, i.e. the step divides the distance and points the right way); the `example`s at the
end of this file show a non-dividing step for which the reversed span enumerates a different set — that is
what the code does, and the statement makes the guard explicit. -/
theorem span_reverse_enumerates (f : Freq) (a step : Int) (m : Nat) (hs : step ≠ 0) :
    ∃ l, (⟨.res ⟨f, a⟩, .res ⟨f, a + (m : Int) * step⟩, step⟩ : Span).serials = .ok (some l) ∧
      (⟨.res ⟨f, a⟩, .res ⟨f, a + (m : Int) * step⟩, step⟩ : Span).reverse.serials = .ok (some l.reverse) := by
  have hs' : -step ≠ 0 := by omega
  refine ⟨_, serials_res f f a _ hs, ?_⟩
  simp only [Span.reverse, serials_res _ _ _ _ hs']
  rw [pyRange_reverse a step m hs]

/-- **Direction.** A span is `forward` exactly when its step is positive; reversal flips the direction of every span
with a non-zero step. -/
theorem direction_spec (s : Span) (hs : s.step ≠ 0) :
    (s.direction = true ↔ 0 < s.step) ∧ s.reverse.direction = !s.direction := by
  simp only [Span.direction, Span.reverse, decide_eq_true_eq, gt_iff_lt]
  refine ⟨trivial, ?_⟩
  by_cases h : 0 < s.step
  · rw [decide_eq_true h, decide_eq_false (by omega : ¬ 0 < -s.step)]; rfl
  · rw [decide_eq_false h, decide_eq_true (by omega : 0 < -s.step)]; rfl

/-- **The direction is the direction of the enumeration**: consecutive elements of a resolved span increase strictly in a
forward span and decrease strictly in a backward one. -/
theorem direction_is_enumeration_order (f : Freq) (a b step : Int) (hs : step ≠ 0) (l : List Int)
    (h : (⟨.res ⟨f, a⟩, .res ⟨f, b⟩, step⟩ : Span).serials = .ok (some l)) (i : Nat) (hi : i + 1 < l.length) :
    ((⟨.res ⟨f, a⟩, .res ⟨f, b⟩, step⟩ : Span).direction = true → l[i] < l[i + 1]) ∧
    ((⟨.res ⟨f, a⟩, .res ⟨f, b⟩, step⟩ : Span).direction = false → l[i + 1] < l[i]) := by
  rw [serials_res f f a b hs] at h
  cases h
  simp only [Span.direction, decide_eq_true_eq, decide_eq_false_iff_not, pyRange_getElem, Int.natCast_succ,
    Int.add_mul, Int.one_mul]
  omega

def WellFormed (s : Span) : Prop :=
  ∀ p q, s.start = .res p → s.stop = .res q → p.freq = q.freq

theorem Endpoint.add_eq_res {e : Endpoint} {k : Int} {q : Period} (h : e.add k = .res q) :
    ∃ p, e = .res p ∧ p.freq = q.freq := by
  cases e with
  | res p => cases h; exact ⟨p, rfl, rfl⟩
  | ctx b o => cases h

theorem wellFormed_apply {s : Span} (h : WellFormed s) (op : SpanOp) : WellFormed (s.apply op) := by
  intro p q hp hq
  cases op with
  | reverse => exact (h q p hq hp).symm
  | shiftStart k =>
    obtain ⟨p', e, hf⟩ := Endpoint.add_eq_res hp
    exact hf.symm.trans (h p' q e hq)
  | shiftEnd k =>
    obtain ⟨q', e, hf⟩ := Endpoint.add_eq_res hq
    exact (h p q' hp e).trans hf
  | shift k =>
    obtain ⟨p', e, hf⟩ := Endpoint.add_eq_res hp
    obtain ⟨q', e', hf'⟩ := Endpoint.add_eq_res hq
    exact hf.symm.trans ((h p' q' e e').trans hf')

/-- in-place mutations never change the frequency of an end nor whether it is contextual, so a well-formed span stays
well-formed under any op sequence -/
theorem span_ops_preserve_wellformed (s : Span) (ops : List SpanOp) (h : WellFormed s) :
    WellFormed (ops.foldl Span.apply s) :=
  List.foldlRecOn ops Span.apply h fun _ hb op _ => wellFormed_apply hb op

/-- the constructor only produces well-formed spans -/
theorem span_make_wellformed (a b : Option Endpoint) (step : Int) (s : Span) (h : Span.make a b step = .ok s) :
    WellFormed s := by
  unfold Span.make at h
  simp only at h
  split at h
  · rename_i p q hp hq
    split at h
    · rename_i hf
      cases h
      intro p' q' h1 h2
      cases hp.symm.trans h1
      cases hq.symm.trans h2
      exact hf
    · cases h
  · rename_i hne
    cases h
    exact fun p q h1 h2 => (hne p q h1 h2).elim

theorem Endpoint.resolve_res (e : Endpoint) (c : Ctx) : ∃ p, e.resolve c = .res p := by
  cases e with
  | res p => exact ⟨p, rfl⟩
  | ctx fe o => cases fe <;> exact ⟨_, rfl⟩

theorem resolve_eq_ok {s s' : Span} {c : Ctx} (h : s.resolve c = .ok s') :
    ∃ p q, s.start.resolve c = .res p ∧ s.stop.resolve c = .res q ∧ p.freq = q.freq ∧
      s' = ⟨.res p, .res q, s.step⟩ := by
  obtain ⟨p, hp⟩ := Endpoint.resolve_res s.start c
  obtain ⟨q, hq⟩ := Endpoint.resolve_res s.stop c
  rw [Span.resolve, hp, hq, make_res_res] at h
  split at h
  · rename_i hf; cases h; exact ⟨p, q, hp, hq, hf, rfl⟩
  · cases h

/-- `resolve` replaces exactly the contextual ends (`start + a`, `end + b`) and is the identity on resolved spans -/
theorem span_resolve (s : Span) (c : Ctx) :
    (s.needsResolve = false → WellFormed s → s.resolve c = .ok s) ∧
    (∀ s', s.resolve c = .ok s' → s'.needsResolve = false ∧ s'.step = s.step ∧
      s'.start = s.start.resolve c ∧ s'.stop = s.stop.resolve c) := by
  constructor
  · obtain ⟨a, b, st⟩ := s
    intro h hw
    cases a with
    | ctx _ _ => cases h
    | res p =>
      cases b with
      | ctx _ _ => cases h
      | res q => exact (make_res_res p q st).trans (if_pos (hw p q rfl rfl))
  · intro s' h
    obtain ⟨p, q, hp, hq, -, rfl⟩ := resolve_eq_ok h
    exact ⟨rfl, rfl, hp.symm, hq.symm⟩

/-- **Operator constructors.** `p >> q` is the forward span `p, p+1, …, q` and `p << q` the backward span `q, q-1, …, p`
(arrow reading), for periods of one frequency; with `None` (or a contextual end) on either side the missing end is the
contextual `start`/`end` in the direction of the arrow, and resolving it against a context gives the same span as the
operator applied to the resolved ends. Periods of different frequencies are rejected. -/
theorem span_operators (f : Freq) (a b x : Int) :
    Span.rshift (some (.res ⟨f, a⟩)) (some (.res ⟨f, b⟩)) = .ok ⟨.res ⟨f, a⟩, .res ⟨f, b⟩, 1⟩ ∧
    Span.lshift (some (.res ⟨f, a⟩)) (some (.res ⟨f, b⟩)) = .ok ⟨.res ⟨f, b⟩, .res ⟨f, a⟩, -1⟩ ∧
    (∃ l, (⟨.res ⟨f, a⟩, .res ⟨f, b⟩, 1⟩ : Span).serials = .ok (some l) ∧ (x ∈ l ↔ a ≤ x ∧ x ≤ b) ∧
      ∀ i : Nat, (h : i < l.length) → l[i] = a + (i : Int)) ∧
    (∃ l, (⟨.res ⟨f, b⟩, .res ⟨f, a⟩, -1⟩ : Span).serials = .ok (some l) ∧ (x ∈ l ↔ a ≤ x ∧ x ≤ b) ∧
      ∀ i : Nat, (h : i < l.length) → l[i] = b - (i : Int)) := by
  refine ⟨(make_res_res _ _ 1).trans (if_pos rfl), (make_res_res _ _ (-1)).trans (if_pos rfl),
    ⟨_, serials_res f f a b (by decide), mem_pyRange_up a b x, fun i h => ?_⟩,
    ⟨_, serials_res f f b a (by decide), mem_pyRange_down a b x, fun i h => ?_⟩⟩
  · rw [pyRange_getElem]; omega
  · rw [pyRange_getElem]; omega

theorem span_operators_open (p : Endpoint) :
    Span.rshift (some p) none = .ok ⟨p, .ctx true 0, 1⟩ ∧ Span.rshift none (some p) = .ok ⟨.ctx false 0, p, 1⟩ ∧
    Span.lshift (some p) none = .ok ⟨.ctx true 0, p, -1⟩ ∧ Span.lshift none (some p) = .ok ⟨p, .ctx false 0, -1⟩ := by
  cases p <;> exact ⟨rfl, rfl, rfl, rfl⟩

theorem span_operators_mixed (p q : Period) (h : p.freq ≠ q.freq) :
    Span.rshift (some (.res p)) (some (.res q)) = .error .mixedFreq ∧
    Span.lshift (some (.res p)) (some (.res q)) = .error .mixedFreq :=
  ⟨(make_res_res p q 1).trans (if_neg h), (make_res_res q p (-1)).trans (if_neg (Ne.symm h))⟩

/-- **Mixed frequencies are rejected by resolution too.** Whatever the shape of the span (both ends resolved, one or both
contextual), if the two ends are of different frequencies AFTER resolution against the context, `resolve` raises the
mixed-frequency error; it never hands out a span with ends of two frequencies. -/
theorem span_resolve_mixed_rejected (s : Span) (c : Ctx) (p q : Period)
    (hp : s.start.resolve c = .res p) (hq : s.stop.resolve c = .res q) (h : p.freq ≠ q.freq) :
    s.resolve c = .error .mixedFreq := by
  rw [Span.resolve, hp, hq, make_res_res, if_neg h]

/-- and conversely a successful resolution has both ends of one frequency -/
theorem span_resolve_ok_same_freq (s : Span) (c : Ctx) (s' : Span) (h : s.resolve c = .ok s') :
    ∃ p q, s'.start = .res p ∧ s'.stop = .res q ∧ p.freq = q.freq := by
  obtain ⟨p, q, -, -, hf, rfl⟩ := resolve_eq_ok h
  exact ⟨p, q, rfl, rfl, hf⟩

example : (⟨.res ⟨.Y, 2020⟩, .ctx true 0, 1⟩ : Span).resolve ⟨⟨.H, 4040⟩, ⟨.H, 4051⟩⟩ = .error .mixedFreq := by decide

/-- **Span equality.** Two resolved spans of one frequency are equal iff start, end and step coincide; spans of different
frequencies are never silently compared: `==` (and hence `!=`) raises the mixed-frequency error, whatever their steps. -/
theorem span_eq_spec (p p' q q' : Period) (st st' : Int) :
    (p.freq = q.freq → p'.freq = q'.freq →
      (⟨.res p, .res p', st⟩ : Span).eq ⟨.res q, .res q', st'⟩ = .ok (decide (p = q ∧ p' = q' ∧ st = st'))) ∧
    (p.freq ≠ q.freq → (⟨.res p, .res p', st⟩ : Span).eq ⟨.res q, .res q', st'⟩ = .error .mixedFreq) := by
  constructor
  · intro h h'
    simp only [Span.eq, endpointEq, eq_decide h, eq_decide h', bind, Except.bind]
    by_cases h1 : p = q <;> by_cases h2 : p' = q' <;> simp [h1, h2, pure, Except.pure, Bool.beq_eq_decide_eq]
  · intro h
    simp only [Span.eq, endpointEq, (mixed_frequencies_rejected p q h).2.1, bind, Except.bind]

example : (⟨.res ⟨.Q, 1⟩, .res ⟨.Q, 5⟩, 1⟩ : Span).eq ⟨.res ⟨.M, 1⟩, .res ⟨.M, 5⟩, 3⟩ = .error .mixedFreq := by decide
example : (⟨.res ⟨.Q, 1⟩, .res ⟨.Q, 5⟩, 1⟩ : Span).eq ⟨.res ⟨.Q, 1⟩, .res ⟨.Q, 5⟩, 2⟩ = .ok false := by decide

/-! ## 6a. Slices of a span -/

/-- every element of a slice is an element of the span at a position selected by the slice; nothing else is returned -/
theorem span_slice_mem (s : Span) (start stop step : Option Int) (l out : List Period) (a b st : Int)
    (hl : s.iter = .ok (some l)) (hi : sliceIndices l.length start stop step = some (a, b, st))
    (ho : s.getSlice start stop step = .ok (some out)) (p : Period) :
    p ∈ out ↔ ∃ i : Nat, ∃ h : i < l.length, l[i] = p ∧ (i : Int) ∈ pyRange a b st := by
  simp only [Span.getSlice, hl, hi, bind, Except.bind, pure, Except.pure] at ho
  cases ho
  simp only [List.mem_map, List.mem_filter, List.contains_iff_mem, Prod.exists]
  constructor
  · rintro ⟨q, i, ⟨hmem, hin⟩, rfl⟩
    obtain ⟨h1, h2⟩ := List.mem_zipIdx' hmem
    exact ⟨i, h1, h2.symm, by simpa using hin⟩
  · rintro ⟨i, h, rfl, hin⟩
    refine ⟨l[i], i, ⟨?_, by simpa using hin⟩, rfl⟩
    exact List.mem_zipIdx_iff_getElem?.2 (by simp [h])

example : sliceIndices 5 (some (-2)) none none = some (3, 5, 1) ∧ sliceIndices 5 none none (some (-1)) = some (4, -1, -1) ∧
    sliceIndices 5 (some 9) (some (-9)) (some (-2)) = some (4, -1, -2) ∧ sliceIndices 5 none none (some 0) = none := by decide
example : (⟨.res ⟨.Q, 10⟩, .res ⟨.Q, 15⟩, 1⟩ : Span).getSlice (some 1) none (some 2)
    = .ok (some [⟨.Q, 11⟩, ⟨.Q, 13⟩, ⟨.Q, 15⟩]) := by decide
example : (⟨.res ⟨.Q, 10⟩, .res ⟨.Q, 13⟩, 1⟩ : Span).getSlice none none (some (-1))
    = .ok (some [⟨.Q, 10⟩, ⟨.Q, 11⟩, ⟨.Q, 12⟩, ⟨.Q, 13⟩]) := by decide

/-! ## 6b. The encompassing span is the min of the starts and the max of the ends -/

/-- `sel` picks, from periods of one frequency, a member that is `le`-below every member (`none` from the empty list):
what Python's `min` (`le = ≤`) and `max` (`le = ≥`) do. -/
def Selects (le : Int → Int → Prop) (sel : List Period → R (Option Period)) : Prop :=
  ∀ f l, (∀ x ∈ l, x.freq = f) →
    ∃ r, sel l = .ok r ∧ (∀ m, r = some m → m ∈ l) ∧ ∀ x ∈ l, ∃ m, r = some m ∧ le m.serial x.serial

/-- A preorder on serials, and a checked comparison of periods that answers in accordance with it. -/
structure Compares (le : Int → Int → Prop) (cmp : Period → Period → R Bool) : Prop where
  refl : ∀ a, le a a
  trans : ∀ {a b c}, le a b → le b c → le a c
  ok : ∀ p q, p.freq = q.freq → ∃ b, cmp p q = .ok b ∧ (b = true → le p.serial q.serial) ∧
    (b = false → le q.serial p.serial)

/-- The running selection `acc := x if cmp x acc else acc` ends on a member that is `le`-below all. -/
theorem foldlM_pick_spec {le : Int → Int → Prop} {cmp : Period → Period → R Bool} (hc : Compares le cmp) (f : Freq) :
    ∀ (ps : List Period) (p : Period), p.freq = f → (∀ x ∈ ps, x.freq = f) →
    ∃ m, ps.foldlM (fun acc x => do if (← cmp x acc) then pure x else pure acc) p = (.ok m : R Period) ∧
      (m = p ∨ m ∈ ps) ∧ le m.serial p.serial ∧ ∀ x ∈ ps, le m.serial x.serial
  | [], p, _, _ => ⟨p, rfl, .inl rfl, hc.refl _, nofun⟩
  | q :: ps, p, hp, hps => by
    have hq : q.freq = f := hps q (List.mem_cons_self ..)
    have hps' : ∀ x ∈ ps, x.freq = f := fun x hx => hps x (List.mem_cons_of_mem _ hx)
    obtain ⟨b, hb, ht, hf⟩ := hc.ok q p (hq.trans hp.symm)
    cases b
    · -- `q` does not replace `p`
      obtain ⟨m, hm, hmem, hle, hall⟩ := foldlM_pick_spec hc f ps p hp hps'
      refine ⟨m, by rw [List.foldlM_cons, hb]; exact hm,
        hmem.imp_right (List.mem_cons_of_mem _), hle, ?_⟩
      rintro x (_ | ⟨_, hx⟩)
      · exact hc.trans hle (hf rfl)
      · exact hall x hx
    · -- `q` replaces `p`
      obtain ⟨m, hm, hmem, hle, hall⟩ := foldlM_pick_spec hc f ps q hq hps'
      refine ⟨m, by rw [List.foldlM_cons, hb]; exact hm,
        .inr (hmem.elim (· ▸ List.mem_cons_self ..) (List.mem_cons_of_mem _)), hc.trans hle (ht rfl), ?_⟩
      rintro x (_ | ⟨_, hx⟩)
      · exact hle
      · exact hall x hx

theorem selects_of_compares {le : Int → Int → Prop} {cmp : Period → Period → R Bool} (hc : Compares le cmp)
    {sel : List Period → R (Option Period)} (hnil : sel [] = pure none)
    (hcons : ∀ p ps, sel (p :: ps) = do
      let r ← ps.foldlM (fun acc x => do if (← cmp x acc) then pure x else pure acc) p; pure (some r)) :
    Selects le sel := by
  rintro f (_ | ⟨p, ps⟩) hf
  · exact ⟨none, hnil, nofun, nofun⟩
  · obtain ⟨m, hm, hmem, hle, hall⟩ := foldlM_pick_spec hc f ps p (hf p (List.mem_cons_self ..))
      (fun x hx => hf x (List.mem_cons_of_mem _ hx))
    refine ⟨some m, by rw [hcons, hm]; rfl, ?_, ?_⟩
    · rintro _ ⟨⟩; exact hmem.elim (· ▸ List.mem_cons_self ..) (List.mem_cons_of_mem _)
    · rintro x (_ | ⟨_, hx⟩)
      · exact ⟨m, rfl, hle⟩
      · exact ⟨m, rfl, hall x hx⟩

theorem compares_lt : Compares (· ≤ ·) Period.lt where
  refl := Int.le_refl
  trans := Int.le_trans
  ok p q h := ⟨_, (order_is_serial_order p q h).1, fun hb => Int.le_of_lt (of_decide_eq_true hb),
    fun hb => Int.not_lt.1 (of_decide_eq_false hb)⟩

theorem compares_gt : Compares (· ≥ ·) Period.gt where
  refl := Int.le_refl
  trans h1 h2 := Int.le_trans h2 h1
  ok p q h := ⟨_, (order_is_serial_order p q h).2.2.1, fun hb => Int.le_of_lt (of_decide_eq_true hb),
    fun hb => Int.not_lt.1 (of_decide_eq_false hb)⟩

theorem minPeriods_selects : Selects (· ≤ ·) minPeriods := selects_of_compares compares_lt rfl (fun _ _ => rfl)
theorem maxPeriods_selects : Selects (· ≥ ·) maxPeriods := selects_of_compares compares_gt rfl (fun _ _ => rfl)

/-- One end of the encompassing span: `sel` over what `proj` (`startOf` / `endOf`) finds in each argument is `le`-below
every attribute that `proj` reads and every period of every sequence argument. -/
theorem select_ends {le : Int → Int → Prop} {sel : List Period → R (Option Period)} (hsel : Selects le sel)
    (htrans : ∀ {a b c}, le a b → le b c → le a c) {proj : EncArg → Option Period}
    (hseq : ∀ l, proj (.seq l) = match sel (l.filterMap id) with | .ok r => r | .error _ => none)
    (hattr : ∀ s e, proj (.attrs s e) = s ∨ proj (.attrs s e) = e)
    (f : Freq) (as : List EncArg) (hf : ∀ a ∈ as, ∀ x ∈ a.periods, x.freq = f) :
    ∃ r, sel (as.filterMap proj) = .ok r ∧ (∀ m, r = some m → m.freq = f) ∧
      (∀ a ∈ as, ∀ p, proj a = some p → ∃ m, r = some m ∧ le m.serial p.serial) ∧
      (∀ l, .seq l ∈ as → ∀ p, some p ∈ l → ∃ m, r = some m ∧ le m.serial p.serial) := by
  have inner : ∀ l, EncArg.seq l ∈ as → (∀ m, proj (.seq l) = some m → m ∈ l.filterMap id) ∧
      ∀ p, some p ∈ l → ∃ m, proj (.seq l) = some m ∧ le m.serial p.serial := by
    intro l hl
    obtain ⟨r, hr, hmem, hall⟩ := hsel f (l.filterMap id) (hf _ hl)
    rw [hseq, hr]
    exact ⟨hmem, fun p hp => hall p (List.mem_filterMap.2 ⟨_, hp, rfl⟩)⟩
  have hT : ∀ x ∈ as.filterMap proj, x.freq = f := by
    intro x hx
    obtain ⟨a, ha, hx⟩ := List.mem_filterMap.1 hx
    cases a with
    | seq l => exact hf _ ha x ((inner l ha).1 x hx)
    | attrs s e =>
      refine hf _ ha x ?_
      rcases hattr s e with h | h <;> rw [h] at hx <;> subst hx <;> simp [EncArg.periods]
  obtain ⟨r, hr, hmem, hall⟩ := hsel f _ hT
  refine ⟨r, hr, fun m hm => hT m (hmem m hm), fun a ha p hp => hall p (List.mem_filterMap.2 ⟨a, ha, hp⟩), ?_⟩
  intro l hl p hp
  obtain ⟨m', hm', hle'⟩ := (inner l hl).2 p hp
  obtain ⟨m, hm, hle⟩ := hall m' (List.mem_filterMap.2 ⟨_, hl, hm'⟩)
  exact ⟨m, hm, htrans hle hle'⟩

/-- **Encompassing span.** For arguments whose periods all have one frequency, `get_encompassing_span` succeeds; its start is
`≤` and its end `≥` every period of every sequence argument and every start/end attribute of every object argument (whatever
the order of the elements inside a sequence, `None` elements and `None` arguments skipped); a missing start or end (no
argument supplies one) leaves the contextual end in the span. -/
theorem encompassing_contains (f : Freq) (args : List (Option EncArg))
    (hf : ∀ a, some a ∈ args → ∀ x ∈ a.periods, x.freq = f) :
    ∃ sp s e, encompassing args = .ok (sp, s, e) ∧
      sp = ⟨(s.map Endpoint.res).getD (.ctx false 0), (e.map Endpoint.res).getD (.ctx true 0), 1⟩ ∧
      (∀ l, some (EncArg.seq l) ∈ args → ∀ p, some p ∈ l →
        ∃ s0 e0, s = some s0 ∧ e = some e0 ∧ s0.serial ≤ p.serial ∧ p.serial ≤ e0.serial) ∧
      (∀ b p, some (EncArg.attrs (some p) b) ∈ args → ∃ s0, s = some s0 ∧ s0.serial ≤ p.serial) ∧
      (∀ a p, some (EncArg.attrs a (some p)) ∈ args → ∃ e0, e = some e0 ∧ p.serial ≤ e0.serial) := by
  have has : ∀ a, a ∈ args.filterMap id ↔ some a ∈ args := fun a => by simp
  have hf' : ∀ a ∈ args.filterMap id, ∀ x ∈ a.periods, x.freq = f := fun a ha => hf a ((has a).1 ha)
  -- by `EncArg.pick`, `startOf`/`endOf` of a sequence select over its periods and of an object read the one attribute
  obtain ⟨s, hs, hsf, hsa, hsl⟩ := select_ends minPeriods_selects compares_lt.trans (proj := EncArg.startOf)
    (fun _ => rfl) (fun _ _ => .inl rfl) f _ hf'
  obtain ⟨e, he, hef, hea, hel⟩ := select_ends maxPeriods_selects compares_gt.trans (proj := EncArg.endOf)
    (fun _ => rfl) (fun _ _ => .inr rfl) f _ hf'
  -- the span is always constructible: two resolved ends share the frequency `f`
  have hmake : Span.make (s.map .res) (e.map .res) 1 =
      .ok ⟨(s.map Endpoint.res).getD (.ctx false 0), (e.map Endpoint.res).getD (.ctx true 0), 1⟩ := by
    cases s with
    | none => cases e <;> rfl
    | some s0 =>
      cases e with
      | none => rfl
      | some e0 => exact (make_res_res s0 e0 1).trans (if_pos ((hsf s0 rfl).trans (hef e0 rfl).symm))
  refine ⟨_, s, e, ?_, rfl, ?_, ?_, ?_⟩
  · simp only [encompassing, hs, he, hmake, bind, Except.bind]; rfl
  · intro l hl p hp
    obtain ⟨s0, hs0, h0⟩ := hsl l ((has _).2 hl) p hp
    obtain ⟨e0, he0, h1⟩ := hel l ((has _).2 hl) p hp
    exact ⟨s0, e0, hs0, he0, h0, h1⟩
  · exact fun b p h => hsa _ ((has _).2 h) p rfl
  · exact fun a p h => hea _ ((has _).2 h) p rfl

/-! ## 6c. Simulation frames: short span ↔ long span (`spans_from_short_span`, `spans_from_long_span`, `extend_span`) -/

/-- the periods `a … b` of frequency `f` -/
def unitRange (f : Freq) (a b : Int) : List Period := (pyRange a (b + 1) 1).map (fun x => ⟨f, x⟩)

theorem pfu_unit_eq (f : Freq) (a b : Int) : periodsFromUntil ⟨f, a⟩ ⟨f, b⟩ 1 = .ok (unitRange f a b) := by
  simp [periodsFromUntil, checkPeriods, bind, Except.bind, pure, Except.pure, unitRange]

theorem mem_unitRange {f : Freq} {a b : Int} {p : Period} :
    p ∈ unitRange f a b ↔ p.freq = f ∧ a ≤ p.serial ∧ p.serial ≤ b := by
  simp only [unitRange, List.mem_map, mem_pyRange_up]
  constructor
  · rintro ⟨x, hx, rfl⟩; exact ⟨rfl, hx⟩
  · rintro ⟨rfl, h⟩; exact ⟨p.serial, h, rfl⟩

theorem length_unitRange (f : Freq) (a b : Int) : (unitRange f a b).length = (b - a + 1).toNat := by
  rw [unitRange, List.length_map, pyRange_length, pyRangeLen_up]

theorem unitRange_ends {f : Freq} {a b : Int} (h : a ≤ b) :
    (unitRange f a b).head? = some ⟨f, a⟩ ∧ (unitRange f a b).getLast? = some ⟨f, b⟩ := by
  rw [unitRange, List.head?_map, List.getLast?_map, (pyRange_up_ends h).1, (pyRange_up_ends h).2]
  exact ⟨rfl, rfl⟩

theorem unitRange_eq_nil {f : Freq} {a b : Int} (h : b < a) : unitRange f a b = [] := by
  rw [unitRange, pyRange_eq_nil (.inl ⟨by decide, by omega⟩), List.map_nil]

/-- unit-step `periods_from_until` of one frequency lists exactly the periods `a ≤ · ≤ b` of that frequency; for
`a ≤ b` its first element is `a` and its last is `b`, for `b < a` it is empty -/
theorem pfu_unit_spec (f : Freq) (a b : Int) :
    ∃ l, periodsFromUntil ⟨f, a⟩ ⟨f, b⟩ 1 = .ok l ∧
      (∀ p : Period, p ∈ l ↔ p.freq = f ∧ a ≤ p.serial ∧ p.serial ≤ b) ∧
      (a ≤ b → l.head? = some ⟨f, a⟩ ∧ l.getLast? = some ⟨f, b⟩) ∧ (b < a → l = []) :=
  ⟨_, pfu_unit_eq f a b, fun _ => mem_unitRange, unitRange_ends, unitRange_eq_nil⟩

theorem pfu_unit_length (f : Freq) (a b : Int) (l : List Period)
    (h : periodsFromUntil ⟨f, a⟩ ⟨f, b⟩ 1 = .ok l) : l.length = (b - a + 1).toNat := by
  rw [pfu_unit_eq] at h; cases h
  exact length_unitRange f a b

theorem spansFromShort_eq (f : Freq) (a b lag lead : Int) (hab : a ≤ b) :
    spansFromShortSpan ⟨f, a⟩ ⟨f, b⟩ lag lead = .ok (unitRange f a b, unitRange f (a + lag) (b + lead)) := by
  simp only [spansFromShortSpan, pfu_unit_eq, (unitRange_ends hab).1, (unitRange_ends hab).2, Period.add, bind,
    Except.bind]
  rfl

theorem spansFromLong_eq (f : Freq) (a b lag lead : Int) (hab : a ≤ b) :
    spansFromLongSpan ⟨f, a⟩ ⟨f, b⟩ lag lead = .ok (unitRange f (a + -lag) (b + -lead), unitRange f a b) := by
  simp only [spansFromLongSpan, pfu_unit_eq, (unitRange_ends hab).1, (unitRange_ends hab).2, Period.subInt, Period.add,
    bind, Except.bind]
  rfl

/-- **Short → long.** For one frequency and `a ≤ b` the call succeeds; the short span is exactly `a … b`, the long
span exactly `a + max_lag … b + max_lead` (unit step, whatever the signs of the shifts; an inverted range is empty). -/
theorem spansFromShort_spec (f : Freq) (a b lag lead : Int) (hab : a ≤ b) :
    ∃ short long, spansFromShortSpan ⟨f, a⟩ ⟨f, b⟩ lag lead = .ok (short, long) ∧
      (∀ p : Period, p ∈ short ↔ p.freq = f ∧ a ≤ p.serial ∧ p.serial ≤ b) ∧
      (∀ p : Period, p ∈ long ↔ p.freq = f ∧ a + lag ≤ p.serial ∧ p.serial ≤ b + lead) :=
  ⟨_, _, spansFromShort_eq f a b lag lead hab, fun _ => mem_unitRange, fun _ => mem_unitRange⟩

/-- **Long → short.** For `a ≤ b` the short span is exactly `a − max_lag … b − max_lead`. -/
theorem spansFromLong_spec (f : Freq) (a b lag lead : Int) (hab : a ≤ b) :
    ∃ short long, spansFromLongSpan ⟨f, a⟩ ⟨f, b⟩ lag lead = .ok (short, long) ∧
      (∀ p : Period, p ∈ long ↔ p.freq = f ∧ a ≤ p.serial ∧ p.serial ≤ b) ∧
      (∀ p : Period, p ∈ short ↔ p.freq = f ∧ a - lag ≤ p.serial ∧ p.serial ≤ b - lead) :=
  ⟨_, _, spansFromLong_eq f a b lag lead hab, fun _ => mem_unitRange, fun _ => mem_unitRange⟩

/-- **Rejection.** An inverted pair (`last < first`) is rejected by both constructions (the code indexes the empty
re-bound tuple: `IndexError`), as are mixed frequencies. Nothing is returned for them. -/
theorem spansFrom_inverted_rejected (f : Freq) (a b lag lead : Int) (hab : b < a) :
    spansFromShortSpan ⟨f, a⟩ ⟨f, b⟩ lag lead = .error .badInput ∧
    spansFromLongSpan ⟨f, a⟩ ⟨f, b⟩ lag lead = .error .badInput := by
  simp only [spansFromShortSpan, spansFromLongSpan, pfu_unit_eq, unitRange_eq_nil hab, bind, Except.bind]
  exact ⟨rfl, rfl⟩

theorem spansFrom_mixed_rejected (p q : Period) (h : p.freq ≠ q.freq) (lag lead : Int) :
    spansFromShortSpan p q lag lead = .error .mixedFreq ∧ spansFromLongSpan p q lag lead = .error .mixedFreq := by
  simp [spansFromShortSpan, spansFromLongSpan, periodsFromUntil, checkPeriods_mixed h, bind, Except.bind]

/-- **The two constructions are inverse to each other**: going from the short span `a … b` to the long one and back
with the same `max_lag`, `max_lead` (fed the first and last period of the long span) returns the same pair of spans,
whenever neither span is inverted. -/
theorem spansFromLong_spansFromShort (f : Freq) (a b lag lead : Int) (hab : a ≤ b) (hl : a + lag ≤ b + lead) :
    spansFromLongSpan ((⟨f, a⟩ : Period).add lag) ((⟨f, b⟩ : Period).add lead) lag lead
      = spansFromShortSpan ⟨f, a⟩ ⟨f, b⟩ lag lead := by
  rw [spansFromShort_eq f a b lag lead hab, Period.add, Period.add, spansFromLong_eq f _ _ lag lead hl,
    Int.add_neg_cancel_right, Int.add_neg_cancel_right]

theorem spansFromShort_spansFromLong (f : Freq) (a b lag lead : Int) (hab : a ≤ b) (hs : a - lag ≤ b - lead) :
    spansFromShortSpan ((⟨f, a⟩ : Period).subInt lag) ((⟨f, b⟩ : Period).subInt lead) lag lead
      = spansFromLongSpan ⟨f, a⟩ ⟨f, b⟩ lag lead := by
  rw [spansFromLong_eq f a b lag lead hab, Period.subInt, Period.subInt, Period.add, Period.add,
    spansFromShort_eq f _ _ lag lead (show a + -lag ≤ b + -lead by omega), Int.neg_add_cancel_right,
    Int.neg_add_cancel_right]

/-- **The long span contains the short one** whenever the lag is not positive and the lead not negative (the way the
simulators call it: `max_lag ≤ 0 ≤ max_lead`). -/
theorem short_subset_long (f : Freq) (a b lag lead : Int) (h1 : lag ≤ 0) (h2 : 0 ≤ lead) (short long : List Period)
    (h : spansFromShortSpan ⟨f, a⟩ ⟨f, b⟩ lag lead = .ok (short, long)) (p : Period) (hp : p ∈ short) : p ∈ long := by
  rcases Int.lt_or_le b a with hab | hab
  · rw [(spansFrom_inverted_rejected f a b lag lead hab).1] at h; cases h
  · rw [spansFromShort_eq f a b lag lead hab] at h; cases h
    have := mem_unitRange.1 hp
    exact mem_unitRange.2 ⟨this.1, by omega, by omega⟩

/-- **Frame lengths.** The short span has `b − a + 1` periods and the long span `(b + max_lead) − (a + max_lag) + 1`
(none when the shifts invert it): the long span is the short one plus `−max_lag` initial and `max_lead` terminal periods. -/
theorem spansFromShort_lengths (f : Freq) (a b lag lead : Int) (hab : a ≤ b) (short long : List Period)
    (h : spansFromShortSpan ⟨f, a⟩ ⟨f, b⟩ lag lead = .ok (short, long)) :
    short.length = (b - a + 1).toNat ∧ long.length = ((b + lead) - (a + lag) + 1).toNat := by
  rw [spansFromShort_eq f a b lag lead hab] at h; cases h
  exact ⟨length_unitRange f a b, length_unitRange f _ _⟩

/-- **`extend_span`**: the start moves by `min_shift` exactly when an initial condition is prepended, the end by
`max_shift` exactly when a terminal condition is appended; frequencies are kept; with both switches off it is the
identity. -/
theorem extendSpan_spec (a b : Period) (lo hi : Int) (pre app : Bool) :
    (extendSpan a b lo hi pre app).1.freq = a.freq ∧ (extendSpan a b lo hi pre app).2.freq = b.freq ∧
    (extendSpan a b lo hi pre app).1.serial = a.serial + (if pre then lo else 0) ∧
    (extendSpan a b lo hi pre app).2.serial = b.serial + (if app then hi else 0) ∧
    extendSpan a b lo hi false false = (a, b) := by
  refine ⟨rfl, rfl, rfl, rfl, ?_⟩
  cases a; cases b; simp [extendSpan, Period.add]

example : spansFromShortSpan ⟨.Q, 10⟩ ⟨.Q, 12⟩ (-2) 1
    = .ok ([⟨.Q, 10⟩, ⟨.Q, 11⟩, ⟨.Q, 12⟩], [⟨.Q, 8⟩, ⟨.Q, 9⟩, ⟨.Q, 10⟩, ⟨.Q, 11⟩, ⟨.Q, 12⟩, ⟨.Q, 13⟩]) := by decide
example : spansFromLongSpan ⟨.Q, 8⟩ ⟨.Q, 13⟩ (-2) 1
    = .ok ([⟨.Q, 10⟩, ⟨.Q, 11⟩, ⟨.Q, 12⟩], [⟨.Q, 8⟩, ⟨.Q, 9⟩, ⟨.Q, 10⟩, ⟨.Q, 11⟩, ⟨.Q, 12⟩, ⟨.Q, 13⟩]) := by decide
example : spansFromShortSpan ⟨.Q, 12⟩ ⟨.Q, 10⟩ 0 0 = .error .badInput := by decide

/-! ## 7. Non-vacuity: concrete values meet the hypotheses and the models compute -/
example : encompassing [some (.seq [some ⟨.Q, 8085⟩, none, some ⟨.Q, 8080⟩]), none, some (.attrs (some ⟨.Q, 8090⟩) (some ⟨.Q, 8082⟩))]
    = .ok (⟨.res ⟨.Q, 8080⟩, .res ⟨.Q, 8085⟩, 1⟩, some ⟨.Q, 8080⟩, some ⟨.Q, 8085⟩) := by decide
example : encompassing [some (.seq [some ⟨.Q, 1⟩, some ⟨.M, 5⟩]), some (.seq [])] = .ok (⟨.ctx false 0, .ctx true 0, 1⟩, none, none) := by decide
example : (encompassing [some (.seq [some ⟨.Q, 1⟩]), some (.seq [some ⟨.M, 5⟩])]).toOption = none := by decide

example : ValidYmd 2020 2 29 ∧ ymd2ord 2020 2 29 = 737484 ∧ ord2ymd 737484 = (2020, 2, 29) := by decide
example : (Freq.Q) ∈ regularFreqs ∧ toYearSegment ⟨.Q, 8083⟩ = .ok (2020, 4) := by decide
example : (⟨.res ⟨.Q, 10⟩, .res ⟨.Q, 3⟩, -3⟩ : Span).serials = .ok (some [10, 7, 4]) := by decide
example : (⟨.res ⟨.Q, 10⟩, .res ⟨.Q, 3⟩, -3⟩ : Span).reverse.serials = .ok (some [3, 6, 9]) := by decide
example : WellFormed (⟨.res ⟨.M, 0⟩, .res ⟨.M, 5⟩, 1⟩ : Span) := by intro p q h1 h2; cases h1; cases h2; rfl

end IrisVerif.Dates.C09
