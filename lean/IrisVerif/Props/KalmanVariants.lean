/-
The per-variant loop of `kalman_filter` (`Model/Kalman.lean`: `runVariant`, `filterVariants`, `scaleMse`): variant locality and
"rescaled exactly once, by its own scale".  Core Lean only.
-/
import IrisVerif.Model.Kalman
import IrisVerif.Lemmas.Monads

namespace IrisVerif.KalmanVariants
open IrisVerif IrisVerif.Kalman

theorem filterVariants_eq_mapM (rnd : QMat → QMat) (rescale : Bool) (vs : List VariantIn) :
    filterVariants rnd rescale vs = vs.mapM (runVariant rnd rescale) := by
  induction vs with
  | nil => rfl
  | cons v rest ih => rw [filterVariants, ih, List.mapM_cons]

/-- the loop returns one output per variant, and output `k` is exactly what filtering variant `k` alone returns -/
theorem filterVariants_pointwise (rnd : QMat → QMat) (rescale : Bool) (vs : List VariantIn) (outs : List VariantOut)
    (h : filterVariants rnd rescale vs = .ok outs) :
      outs.length = vs.length ∧
      ∀ (k : Nat) (hk : k < vs.length) (hk' : k < outs.length), runVariant rnd rescale vs[k] = .ok outs[k] := by
  rw [filterVariants_eq_mapM] at h
  refine ⟨mapM_ok_length h, fun k hk hk' => ?_⟩
  obtain ⟨y, hy, hxy⟩ := mapM_ok_getElem? h (List.getElem?_eq_getElem hk)
  rw [hxy, (List.getElem?_eq_some_iff.1 hy).2]

theorem filterVariants_length (rnd : QMat → QMat) (rescale : Bool) (vs : List VariantIn) (outs : List VariantOut)
    (h : filterVariants rnd rescale vs = .ok outs) : outs.length = vs.length :=
  (filterVariants_pointwise rnd rescale vs outs h).1

/-- **variant locality**: output `k` depends only on input variant `k` — two runs whose variant lists agree at position `k`
(whatever the other variants are, however many there are) return the same output at position `k` -/
theorem variant_locality (rnd : QMat → QMat) (rescale : Bool) (vs vs' : List VariantIn) (outs outs' : List VariantOut)
    (h : filterVariants rnd rescale vs = .ok outs) (h' : filterVariants rnd rescale vs' = .ok outs')
    (k : Nat) (hk : k < vs.length) (hk' : k < vs'.length) (hv : vs[k] = vs'[k])
    (ho : k < outs.length) (ho' : k < outs'.length) : outs[k] = outs'[k] := by
  have e := (filterVariants_pointwise rnd rescale vs outs h).2 k hk ho
  have e' := (filterVariants_pointwise rnd rescale vs' outs' h').2 k hk' ho'
  rw [hv, e'] at e
  exact (Except.ok.inj e).symm

/-- **rescaled exactly once, by its own scale**: every reported MSE of a variant is that variant's own variance scale times the
MSE of its own filter run (no other variant's scale enters) -/
theorem rescaled_once (rnd : QMat → QMat) (rescale : Bool) (v : VariantIn) (o : VariantOut)
    (h : runVariant rnd rescale v = .ok o) :
    o.predictVar = o.caches.map (fun c => scaleMse o.lik.varScale c.Q0)
    ∧ o.updateVar = o.caches.map (fun c => scaleMse o.lik.varScale c.Q1)
    ∧ o.smoothVar = o.back.map (fun b => scaleMse o.lik.varScale b.Q) := by
  unfold runVariant at h
  split at h
  · cases h
  · obtain ⟨cs, -, h⟩ := Except.bind_eq_ok.1 h
    obtain ⟨lk, -, h⟩ := Except.bind_eq_ok.1 h
    cases h
    exact ⟨rfl, rfl, rfl⟩

theorem no_rescale_scale_one (cs : List PeriodCache) (lk : Lik) (h : likelihood cs false = .ok lk) : lk.varScale = 1 := by
  -- `!false` selects the first branch of `likelihood`, which returns `varScale := 1`
  cases h
  rfl

/-! ### non-vacuity: a concrete two-variant run (different transition coefficients) succeeds, with rescaling -/

def exSys (t : Rat) : Sys :=
  { T := QMat.ofRows [[t]], P := QMat.ofRows [[1]], K := QMat.ofRows [[0]], Z := QMat.ofRows [[1]], H := QMat.ofRows [[1]],
    D := QMat.ofRows [[0]] }

def exPeriod (y : Rat) : PeriodIn :=
  { obs := [0], y := QMat.ofRows [[y]], stdU := QMat.ofRows [[1]], stdW := QMat.ofRows [[1]], u0 := QMat.ofRows [[0]],
    w0 := QMat.ofRows [[0]] }

def exVariant (t : Rat) : VariantIn :=
  { sys := exSys t, a := QMat.ofRows [[0]], Q := QMat.ofRows [[1]], periods := [exPeriod 1, exPeriod 2] }

example : (match filterVariants id true [exVariant (1/2), exVariant (1/4)] with
    | .ok outs => outs.length == 2 && (outs.map (fun o => o.lik.varScale)) != [1, 1]
    | .error _ => false) = true := by decide +kernel

end IrisVerif.KalmanVariants
