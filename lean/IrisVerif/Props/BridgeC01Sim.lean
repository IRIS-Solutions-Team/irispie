/-
Bridge (C01, simulator): the state recursion executed by `FirstOrder.simulateFrame` (exact rationals, `QMat`) is, seen
through the views of `Lemmas/QMatViews.lean`, the theorem-level `C01.path`; and the executable forward expansion
`FirstOrder.expansion` is `C01.Rexp`.  Hence `C01.residAt_eq` / `C01.level_eq_steadypath_add_deviation` / `C01.nonexplosive`
speak about the state path the executable simulator computes.

The link to `simulateFrame` is in three steps that are not composed into one statement: `simulateFrame_eq` (`simulateFrame` is the
fold `frameFold`, by `rfl`), `frameFold_fst` (the state component of that fold is `List.foldl xiStep`), and
`foldl_xiStep_eq_path(_PU)` (that `List.foldl` is `C01.path` on the views).

NOT proved here (tied by the exact `simulate-dyadic` correspondence stream only): the write-back `setCol` of the
current-dated rows into the data matrix, the measurement rows, the sum inside `antImpact` (= `C01.impact`), `initXi`,
and the frame loop `simulate`.
-/
import IrisVerif.Props.C01
import IrisVerif.Lemmas.Iterates
import IrisVerif.Model.FirstOrder
import IrisVerif.Lemmas.QMatViews

open Matrix

namespace IrisVerif.BridgeC01Sim

open IrisVerif IrisVerif.QMat IrisVerif.FirstOrder

def vecOf (n : Nat) (a : QMat) : Fin n → ℚ := fun i => a.get i 0

/-- the state recursion inside `simulateFrame` -/
def xiStep (T K Pu : QMat) (imp : Array (Option QMat)) (xi : QMat) (t : Nat) : QMat :=
  let xi := T * xi + K
  let xi := xi + colOf Pu t
  match imp.getD t none with | some s => xi + s | none => xi

/-- the fold of `simulateFrame`, verbatim -/
def frameFold (solT : Solution) (msT : MeasSol) (curr : List (Nat × Nat)) (imp : Array (Option QMat)) (Pu : QMat)
    (w : QMat) (cols : List Nat) (st : QMat × QMat × QMat) : QMat × QMat × QMat :=
  cols.foldl (fun (st : QMat × QMat × QMat) t =>
      let (xi, x, y) := st
      let xi := solT.T * xi + solT.K
      let xi := xi + colOf Pu t
      let xi := match imp.getD t none with | some s => xi + s | none => xi
      let x := setCol x curr t xi
      let yv := msT.Z * xi + (if w.rows == 0 then QMat.zero msT.Z.rows 1 else msT.H * colOf w t) + msT.D
      let y := setCol y ((List.range y.rows).map (fun r => (r, r))) t yv
      (xi, x, y)) st

theorem simulateFrame_eq (sol : Solution) (ms : MeasSol) (deviation : Bool) (solvec : List Token) (trueInit : List Bool)
    (d : Data) (first simLast : Nat) :
    simulateFrame sol ms deviation solvec trueInit d first simLast =
      (let solT := if deviation then deviationSolution sol else sol
       let msT := if deviation then deviationMeas ms else ms
       let r := frameFold solT msT (currIndexes solvec) (antImpact sol d.v first simLast d.x.cols)
          (if d.u.rows == 0 then QMat.zero sol.T.rows d.x.cols else solT.P * d.u) d.w
          ((List.range (simLast + 1 - first)).map (· + first)) (initXi solvec trueInit d.x first, d.x, d.y)
       { d with x := r.2.1, y := r.2.2 }) := by
  rfl

theorem frameFold_fst (solT : Solution) (msT : MeasSol) (curr : List (Nat × Nat)) (imp : Array (Option QMat)) (Pu w : QMat)
    (cols : List Nat) (st : QMat × QMat × QMat) :
    (frameFold solT msT curr imp Pu w cols st).1 = cols.foldl (xiStep solT.T solT.K Pu imp) st.1 :=
  (List.foldl_hom Prod.fst (g₂ := xiStep solT.T solT.K Pu imp) fun _ _ => rfl).symm

/-- view of the anticipated impact at column `t` (`none` = no impact) -/
def impV (n : Nat) (imp : Array (Option QMat)) (t : Nat) : Fin n → ℚ :=
  match imp.getD t none with | some s => vecOf n s | none => 0

theorem vecOf_xiStep (T K Pu : QMat) (imp : Array (Option QMat)) (xi : QMat) (t n : Nat)
    (hr : T.rows = n) (hc : T.cols = n) (hx : xi.cols = 1) :
    vecOf n (xiStep T K Pu imp xi t)
      = T.toMat n n *ᵥ vecOf n xi + vecOf n K + vecOf n (colOf Pu t) + impV n imp t := by
  have base := (((Views.of hr hc).mulVec_of (hx ▸ Nat.one_pos : 0 < xi.cols)).add_of K).add_of (colOf Pu t)
  unfold xiStep impV
  cases h : imp.getD t none with
  | none => exact base.get.trans (add_zero _).symm
  | some s => exact (base.add_of s).get

theorem xiStep_cols (T K Pu : QMat) (imp : Array (Option QMat)) (xi : QMat) (t : Nat) :
    (xiStep T K Pu imp xi t).cols = xi.cols := by
  unfold xiStep
  cases h : imp.getD t none <;> rfl

theorem foldl_xiStep_cols (T K Pu : QMat) (imp : Array (Option QMat)) (cols : List Nat) (xi : QMat) :
    (cols.foldl (xiStep T K Pu imp) xi).cols = xi.cols := by
  induction cols generalizing xi with
  | nil => rfl
  | cons t rest ih => rw [List.foldl_cons, ih, xiStep_cols]

/-- **Bridge: the state path computed by the executable simulator is `C01.path`.**  With `Tm Kv Pm` the views of the solution,
`uc t` the shock vector of data column `t` (`Pu = P · U`, so column `t` of `Pu` is `Pm *ᵥ uc t`), after the columns
`first, …, first + m - 1` the state is `path Tm Kv Pm ξ0 u imp m` with `u k = uc (first + k - 1)`, `imp k = impV (first + k - 1)`
(the truncated subtraction at `k = 0` does no harm: `path` never reads `u 0`, `imp 0`). -/
theorem foldl_xiStep_eq_path (T K Pu : QMat) (imp : Array (Option QMat)) (xi0 : QMat) (n nu first ncols : Nat)
    (Pm : Matrix (Fin n) (Fin nu) ℚ) (uc : Nat → Fin nu → ℚ)
    (hr : T.rows = n) (hc : T.cols = n) (hx : xi0.cols = 1)
    (hPu : ∀ t, t < ncols → vecOf n (colOf Pu t) = Pm *ᵥ uc t) (m : Nat) (hm : first + m ≤ ncols) :
    vecOf n (((List.range m).map (· + first)).foldl (xiStep T K Pu imp) xi0)
      = C01.path (T.toMat n n) (vecOf n K) Pm (vecOf n xi0) (fun k => uc (first + k - 1)) (fun k => impV n imp (first + k - 1)) m := by
  induction m with
  | zero => rfl
  | succ m ih =>
    rw [List.range_succ, List.map_append, List.map_singleton, List.foldl_concat,
      vecOf_xiStep T K Pu imp _ (m + first) n hr hc ((foldl_xiStep_cols ..).trans hx), ih (Nat.le_of_succ_le hm),
      hPu _ (by omega), C01.path, Nat.add_succ_sub_one, Nat.add_comm first m]

theorem vecOf_colOf_mul (P U : QMat) (n nu : Nat) (hr : P.rows = n) (hc : P.cols = nu) (t : Nat) (ht : t < U.cols) :
    vecOf n (colOf (P * U) t) = P.toMat n nu *ᵥ (fun k : Fin nu => U.get k t) := by
  funext i
  rw [vecOf, colOf, get_block, if_pos ⟨hr ▸ i.isLt, Nat.sub_pos_of_lt (Nat.lt_succ_self t)⟩, Nat.zero_add, Nat.add_zero]
  exact congrFun (congrFun ((Views.of hr hc).mul_of rfl).toMat i) ⟨t, ht⟩

/-- the bridge for the product form used by `simulateFrame` (`Pu = P · U`, transition shocks present) -/
theorem foldl_xiStep_eq_path_PU (T K P U : QMat) (imp : Array (Option QMat)) (xi0 : QMat) (n nu first : Nat)
    (hr : T.rows = n) (hc : T.cols = n) (hx : xi0.cols = 1) (hPr : P.rows = n) (hPc : P.cols = nu)
    (m : Nat) (hm : first + m ≤ U.cols) :
    vecOf n (((List.range m).map (· + first)).foldl (xiStep T K (P * U) imp) xi0)
      = C01.path (T.toMat n n) (vecOf n K) (P.toMat n nu) (vecOf n xi0)
          (fun k => fun j : Fin nu => U.get j (first + k - 1)) (fun k => impV n imp (first + k - 1)) m :=
  foldl_xiStep_eq_path T K (P * U) imp xi0 n nu first U.cols (P.toMat n nu) (fun t j => U.get j t) hr hc hx
    (fun t ht => vecOf_colOf_mul P U n nu hPr hPc t ht) m hm

theorem expansion_getD_zero (P X J Ru : QMat) (forward : Nat) :
    (expansion P X J Ru forward).getD 0 (QMat.zero 0 0) = P := by
  rw [expansion, Array.getD_eq_getD_getElem?, Array.getElem?_append_left Nat.zero_lt_one]
  rfl

/-- `expansionGen` is the generator that the driver hands to `runRequests` (`C01State.runRequests_fresh`) -/
theorem expansion_getD_succ (P X J Ru : QMat) (forward k : Nat) (hk : k < forward) :
    (expansion P X J Ru forward).getD (k + 1) (QMat.zero 0 0) = expansionGen X J Ru k := by
  have e : (Array.range forward)[k + 1 - #[P].size]? = some k := by
    rw [Array.getElem?_range]; exact if_pos hk
  rw [expansion, Array.getD_eq_getD_getElem?, Array.getElem?_append_right (Nat.le_add_left 1 k), Array.getElem?_map, e,
    Option.map_some, Option.getD_some, QMatBridge.powers_getD J forward k hk.le, expansionGen]

/-- **Bridge: the executable forward expansion is `C01.Rexp`** (`R_0 = P`, `R_k = -X J^(k-1) Ru`) on the views -/
theorem toMat_expansion (P X J Ru : QMat) (n nu nj forward k : Nat) (hk : k ≤ forward)
    (hXr : X.rows = n) (hXc : X.cols = nj) (hJr : J.rows = nj) (hJc : J.cols = nj) (hRc : Ru.cols = nu) :
    ((expansion P X J Ru forward).getD k (QMat.zero 0 0)).toMat n nu
      = C01.Rexp (P.toMat n nu) (X.toMat n nj) (J.toMat nj nj) (Ru.toMat nj nu) k := by
  cases k with
  | zero => rw [expansion_getD_zero]; rfl
  | succ k =>
    rw [expansion_getD_succ P X J Ru forward k hk, expansionGen]
    exact ((((Views.of hXr hXc).mul ((Views.of hJr hJc).pow k)).mul_of hRc).neg).toMat

end IrisVerif.BridgeC01Sim
