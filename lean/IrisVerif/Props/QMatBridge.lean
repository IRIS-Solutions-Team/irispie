/-
Client of the `QMat → Matrix` bridge (`Lemmas/QMatRefines.lean`) for the reduced-form VAR: the theorems of `Props/C18.lean`, which
are stated over Mathlib matrices under an algebraic hypothesis, are carried down to the executable model, the hypothesis
being derived from the model's own exact re-check.

`RedVar.estimate … = .ok e` ⇒ the Mathlib views of `e.lhsEst`, `e.rhsEst`, `e.beta`
satisfy `LeastSquares.NormalEq` -- the hypothesis of every theorem in `Props/C18.lean` Part 1 -- hence the model's
coefficient matrix minimises the sum of squared residuals over exactly the fitted columns (+ dummy observations),
and the residuals the model reports on the fitted columns are the residuals of that minimiser; covariance, mean,
resimulation and the companion matrix follow.  (The same for the first-order solution is `Props/BridgeC01Cert.lean`, in this namespace.)

`Examples` closes the namespace: the hypotheses are met by a concrete run; before it, what stays unbridged (also in
`notes/QMatRefines.md`).  A second namespace, `QMatSolveBridge`, follows: with the correctness of the solver
(`Lemmas/QMatSolve.lean`) a successful estimate certifies that `X Xᵀ` is non-singular, and the theorems that assume it are
restated without.
-/
import IrisVerif.Lemmas.QMatViews
import IrisVerif.Lemmas.QMatSolve
import IrisVerif.Props.C18
import Mathlib.Algebra.Order.Field.Rat

open Matrix

namespace IrisVerif.QMatBridge

open IrisVerif IrisVerif.QMat IrisVerif.RedVar IrisVerif.LeastSquares

theorem prior_lhs_rows (s : Spec) (pr : Prior) : (pr.lhs s).rows = s.n := by cases pr <;> rfl
theorem prior_rhs_rows (s : Spec) (pr : Prior) : (pr.rhs s).rows = s.numRhs := by cases pr <;> rfl

theorem foldl_hstack_rows (f : Prior → QMat) (ps : List Prior) (acc : QMat) :
    (ps.foldl (fun acc pr => QMat.hstack acc (f pr)) acc).rows = acc.rows :=
  List.foldlRecOn (motive := fun m : QMat => m.rows = acc.rows) ps _ rfl fun _ h _ _ => h

/-- both dummy blocks of a prior have `Prior.numObs` columns -/
theorem dummy_cols (s : Spec) (ps : List Prior) : (dummyLhs s ps).cols = (dummyRhs s ps).cols := by
  unfold dummyLhs dummyRhs
  rw [← List.foldl_hom QMat.cols (g₂ := fun c pr => c + pr.numObs s) fun _ pr => by cases pr <;> rfl,
    ← List.foldl_hom QMat.cols (g₂ := fun c pr => c + pr.numObs s) fun _ pr => by cases pr <;> rfl]
  rfl

theorem lhsFull_rows (s : Spec) (Y : OMat) (cols : List Nat) (pr : Option (List Prior)) :
    (lhsFull s Y cols pr).rows = s.n := by
  cases pr <;> rfl

theorem rhsFull_rows (s : Spec) (Y X : OMat) (cols : List Nat) (pr : Option (List Prior)) :
    (rhsFull s Y X cols pr).rows = s.numRhs := by
  cases pr <;> rfl

theorem full_cols (s : Spec) (Y X : OMat) (cols : List Nat) (pr : Option (List Prior)) :
    (rhsFull s Y X cols pr).cols = (lhsFull s Y cols pr).cols := by
  cases pr with
  | none => rfl
  | some ps =>
    show (rhsData s Y X cols).cols + (dummyRhs s ps).cols = (lhsData s Y cols).cols + (dummyLhs s ps).cols
    rw [dummy_cols]; rfl

theorem estimate_ok (s : Spec) (dof : Bool) (Y X : OMat) (pr : Option (List Prior)) (e : Estimate)
    (h : estimate s dof Y X pr = .ok e) :
    e.fittedCols = fitted s Y X ∧
    e.lhsEst = lhsFull s Y (fitted s Y X) pr ∧
    e.rhsEst = rhsFull s Y X (fitted s Y X) pr ∧
    e.u = OMat.ofFn s.n (numBase s Y) (residual s e.beta Y X) ∧
    ∃ x : QMat, QMat.solveChecked (normalMx e.rhsEst) (normalMy e.lhsEst e.rhsEst) = some x ∧
      e.beta = x.transpose := by
  obtain ⟨_, beta, hols, _, rfl⟩ := estimate_unfold s dof Y X pr e h
  obtain ⟨x, hx, hb⟩ := Option.map_eq_some_iff.1 hols
  exact ⟨rfl, rfl, rfl, rfl, x, hx, hb.symm⟩

theorem estimate_dims (s : Spec) (dof : Bool) (Y X : OMat) (pr : Option (List Prior)) (e : Estimate)
    (h : estimate s dof Y X pr = .ok e) :
    e.lhsEst.rows = s.n ∧ e.rhsEst.rows = s.numRhs ∧ e.rhsEst.cols = e.lhsEst.cols ∧
      e.beta.rows = s.n ∧ e.beta.cols = s.numRhs ∧ e.beta.wellShaped = true := by
  obtain ⟨_, hl, hr, _, x, hx, hb⟩ := estimate_ok s dof Y X pr e h
  have hlr : e.lhsEst.rows = s.n := by rw [hl]; exact lhsFull_rows _ _ _ _
  have hrr : e.rhsEst.rows = s.numRhs := by rw [hr]; exact rhsFull_rows _ _ _ _ _
  obtain ⟨_, _, h3, h4, _, _⟩ := solveChecked_sound _ _ x hx
  refine ⟨hlr, hrr, by rw [hl, hr]; exact full_cols _ _ _ _ _, ?_, ?_, ?_⟩
  · rw [hb, transpose_rows, h4]; exact hlr
  · rw [hb, transpose_cols, h3]; exact hrr
  · rw [hb]; exact wellShaped_transpose x

/-- the two moment matrices of `ols`, seen as Mathlib matrices: `X Xᵀ` and `X Yᵀ` -/
theorem normalMx_view {rhs : QMat} {k T : Nat} {R : Matrix (Fin k) (Fin T) ℚ} (h : rhs.Views R) :
    (normalMx rhs).Views (R * Rᵀ) := h.mul h.transpose

theorem normalMy_view {lhs rhs : QMat} {n k T : Nat} {L : Matrix (Fin n) (Fin T) ℚ} {R : Matrix (Fin k) (Fin T) ℚ}
    (hl : lhs.Views L) (hr : rhs.Views R) : (normalMy lhs rhs).Views (R * Lᵀ) := hr.mul hl.transpose

/-- Bridge (C18).  A successful run of the executable estimator yields matrices whose Mathlib views satisfy the
normal equations `(X Xᵀ) βᵀ = X Yᵀ` -- the hypothesis `NormalEq` of `Props/C18.lean` Part 1 -- *derived* from the
model's exact re-check (`QMat.solveChecked`), not assumed. -/
theorem estimate_normalEq (s : Spec) (dof : Bool) (Y X : OMat) (pr : Option (List Prior)) (e : Estimate)
    (h : estimate s dof Y X pr = .ok e) :
    NormalEq (e.lhsEst.toMat s.n e.lhsEst.cols) (e.rhsEst.toMat s.numRhs e.lhsEst.cols)
      (e.beta.toMat s.n s.numRhs) := by
  obtain ⟨hlr, hrr, hc, _, _, _⟩ := estimate_dims s dof Y X pr e h
  obtain ⟨_, _, _, _, x, hx, hb⟩ := estimate_ok s dof Y X pr e h
  have hR : e.rhsEst.Views (e.rhsEst.toMat s.numRhs e.lhsEst.cols) := .of hrr hc
  obtain ⟨_, _, hX, hAX⟩ := Views.of_solveChecked hx (hrr : (normalMx e.rhsEst).rows = _) (hlr : (normalMy _ _).cols = _)
  -- `normalMx = R Rᵀ`, `normalMy = R Lᵀ`, `beta = xᵀ`
  unfold NormalEq
  rw [hb, hX.transpose.toMat, Matrix.transpose_transpose, ← (normalMx_view hR).toMat,
    ← (normalMy_view (.of hlr rfl) hR).toMat]
  exact hAX

/-- C18 carried down to the executable model: the coefficient matrix returned by `RedVar.estimate` minimises the
sum of squared residuals over exactly the columns that entered the estimation, against *every* competing coefficient
matrix -- for all specifications, data sets, missing-value patterns and priors on which the model returns `ok`. -/
theorem estimate_minimises (s : Spec) (dof : Bool) (Y X : OMat) (pr : Option (List Prior)) (e : Estimate)
    (h : estimate s dof Y X pr = .ok e) (β' : Matrix (Fin s.n) (Fin s.numRhs) ℚ) :
    ssr (e.lhsEst.toMat s.n e.lhsEst.cols) (e.rhsEst.toMat s.numRhs e.lhsEst.cols) (e.beta.toMat s.n s.numRhs)
      ≤ ssr (e.lhsEst.toMat s.n e.lhsEst.cols) (e.rhsEst.toMat s.numRhs e.lhsEst.cols) β' :=
  C18.normalEq_minimises _ _ _ (estimate_normalEq s dof Y X pr e h) β'

/-- … equation by equation -/
theorem estimate_minimises_row (s : Spec) (dof : Bool) (Y X : OMat) (pr : Option (List Prior)) (e : Estimate)
    (h : estimate s dof Y X pr = .ok e) (β' : Matrix (Fin s.n) (Fin s.numRhs) ℚ) (i : Fin s.n) :
    let L := e.lhsEst.toMat s.n e.lhsEst.cols
    let R := e.rhsEst.toMat s.numRhs e.lhsEst.cols
    let β := e.beta.toMat s.n s.numRhs
    ∑ t, (L - β * R) i t * (L - β * R) i t ≤ ∑ t, (L - β' * R) i t * (L - β' * R) i t :=
  C18.normalEq_minimises_row _ _ _ (estimate_normalEq s dof Y X pr e h) β' i

/-- … and, when the moment matrix of the regressors is non-singular, the estimate is the closed form
`((X Xᵀ)⁻¹ X Yᵀ)ᵀ`, the unique solution -/
theorem estimate_eq_closed_form (s : Spec) (dof : Bool) (Y X : OMat) (pr : Option (List Prior)) (e : Estimate)
    (h : estimate s dof Y X pr = .ok e)
    (hdet : IsUnit ((e.rhsEst.toMat s.numRhs e.lhsEst.cols) * (e.rhsEst.toMat s.numRhs e.lhsEst.cols)ᵀ).det) :
    let L := e.lhsEst.toMat s.n e.lhsEst.cols
    let R := e.rhsEst.toMat s.numRhs e.lhsEst.cols
    e.beta.toMat s.n s.numRhs = ((R * Rᵀ)⁻¹ * (R * Lᵀ))ᵀ :=
  C18.normalEq_unique _ _ _ _ hdet (estimate_normalEq s dof Y X pr e h) (C18.normalEq_solution _ _ hdet)

/-- noise-free data return the generating coefficients, on the executable model: if the left-hand data of the
fitted columns are exactly `β₀ ·` regressors, the model returns `β₀` -/
theorem estimate_noise_free (s : Spec) (dof : Bool) (Y X : OMat) (pr : Option (List Prior)) (e : Estimate)
    (h : estimate s dof Y X pr = .ok e) (β₀ : Matrix (Fin s.n) (Fin s.numRhs) ℚ)
    (hdet : IsUnit ((e.rhsEst.toMat s.numRhs e.lhsEst.cols) * (e.rhsEst.toMat s.numRhs e.lhsEst.cols)ᵀ).det)
    (hgen : e.lhsEst.toMat s.n e.lhsEst.cols = β₀ * e.rhsEst.toMat s.numRhs e.lhsEst.cols) :
    e.beta.toMat s.n s.numRhs = β₀ := by
  have hne := estimate_normalEq s dof Y X pr e h
  rw [hgen] at hne
  exact C18.noise_free_recovery _ β₀ _ hdet hne

theorem getD_mem (l : List Nat) (k : Nat) (hk : k < l.length) : l.getD k 0 ∈ l := by
  rw [List.getD_eq_getElem?_getD, List.getElem?_eq_getElem hk]
  exact List.getElem_mem hk

/-- on the fitted columns the estimation matrices hold the data (the dummy observations come after them):
the left-hand data … -/
theorem lhsFull_get (s : Spec) (Y : OMat) (cols : List Nat) (pr : Option (List Prior)) (i k : Nat) (hi : i < s.n)
    (hk : k < cols.length) : (lhsFull s Y cols pr).get i k = (y0 s Y i (cols.getD k 0)).getD 0 := by
  have hd : (lhsData s Y cols).get i k = (y0 s Y i (cols.getD k 0)).getD 0 := get_ofFn_of_lt _ _ _ _ _ hi hk
  cases pr with
  | none => exact hd
  | some ps => exact (get_hstack_left _ _ i k hi hk).trans hd

/-- … and the regressors `[y1; x; 1]` -/
theorem rhsFull_get (s : Spec) (Y X : OMat) (cols : List Nat) (pr : Option (List Prior)) (r k : Nat) (hr : r < s.numRhs)
    (hk : k < cols.length) : (rhsFull s Y X cols pr).get r k = (reg s Y X r (cols.getD k 0)).getD 0 := by
  have hd : (rhsData s Y X cols).get r k = (reg s Y X r (cols.getD k 0)).getD 0 := get_ofFn_of_lt _ _ _ _ _ hr hk
  cases pr with
  | none => exact hd
  | some ps => exact (get_hstack_left _ _ r k hr hk).trans hd

theorem sumTo_eq_sum (n : Nat) (f : Nat → Rat) : sumTo n f = ∑ k ∈ Finset.range n, f k := foldl_sum n f

theorem sumTo_eq_sum_univ (n : Nat) (f : Nat → Rat) : sumTo n f = ∑ k : Fin n, f k :=
  (sumTo_eq_sum n f).trans (Fin.sum_univ_eq_sum_range f n).symm

theorem sumTo_add (a b : Nat) (f : Nat → Rat) : sumTo (a + b) f = sumTo a f + sumTo b (fun k => f (a + k)) := by
  rw [sumTo_eq_sum, sumTo_eq_sum, sumTo_eq_sum, Finset.sum_range_add]

theorem omat_get_ofFn (r c : Nat) (f : Nat → Nat → Cell) (i j : Nat) (hi : i < r) (hj : j < c) :
    (OMat.ofFn r c f).get i j = f i j := by
  unfold OMat.get OMat.ofFn
  rw [getD_map_range, if_pos hi, getD_map_range, if_pos hj]

theorem fitted_le_cols (s : Spec) (dof : Bool) (Y X : OMat) (pr : Option (List Prior)) (e : Estimate)
    (h : estimate s dof Y X pr = .ok e) : (fitted s Y X).length ≤ e.lhsEst.cols := by
  obtain ⟨_, hl, _, _, _⟩ := estimate_ok s dof Y X pr e h
  rw [hl]
  cases pr with
  | none => exact Nat.le_refl _
  | some ps => exact Nat.le_add_right _ _

/-- the residuals the model reports on the fitted periods are the residuals `Y - β X` of the Mathlib-level
minimiser (so the sums of squares in `estimate_minimises` are sums of squares of the reported residuals) -/
theorem residual_fitted (s : Spec) (dof : Bool) (Y X : OMat) (pr : Option (List Prior)) (e : Estimate)
    (h : estimate s dof Y X pr = .ok e) (i : Fin s.n) (k : Fin e.lhsEst.cols) (hk : (k : Nat) < (fitted s Y X).length) :
    e.u.get i ((fitted s Y X).getD k 0)
      = some ((e.lhsEst.toMat s.n e.lhsEst.cols - e.beta.toMat s.n s.numRhs * e.rhsEst.toMat s.numRhs e.lhsEst.cols) i k) := by
  obtain ⟨_, hl, hr, hu, _⟩ := estimate_ok s dof Y X pr e h
  obtain ⟨hbase, hobs⟩ := (C18.fitted_iff s Y X _).1 (getD_mem _ k hk)
  obtain ⟨hy, hfin⟩ := Bool.and_eq_true_iff.1 hobs
  have hL : e.lhsEst.get i k = (y0 s Y i ((fitted s Y X).getD k 0)).getD 0 :=
    (congrArg (QMat.get · i k) hl).trans (lhsFull_get s Y _ pr i k i.isLt hk)
  have hR (r : Fin s.numRhs) : e.rhsEst.get r k = (reg s Y X r ((fitted s Y X).getD k 0)).getD 0 :=
    (congrArg (QMat.get · r k) hr).trans (rhsFull_get s Y X _ pr r k r.isLt hk)
  rw [hu, omat_get_ofFn _ _ _ _ _ i.isLt hbase,
    residual_eq_some s e.beta Y X i _ (List.all_eq_true.1 hy i (List.mem_range.2 i.isLt)) hfin,
    Matrix.sub_apply, Matrix.mul_apply, toMat_apply, hL]
  unfold fitAt
  rw [sumTo_eq_sum_univ]
  simp only [toMat_apply, hR]

theorem estimate_cov (s : Spec) (dof : Bool) (Y X : OMat) (pr : Option (List Prior)) (e : Estimate)
    (h : estimate s dof Y X pr = .ok e) :
    ∃ denom : Int, denom ≠ 0 ∧
      denom = ((fitted s Y X).length : Int) - (if dof then (dofCount s : Int) else 0) ∧
      e.cov = covResiduals s e.u (fitted s Y X) denom := by
  obtain ⟨_, beta, _, hden, rfl⟩ := estimate_unfold s dof Y X pr e h
  exact ⟨_, hden, rfl, rfl⟩

/-- `C18.cov_residuals_spec` carried down: the model's `cov` is `(1/d) U Uᵀ` for the matrix `U` of the reported
residuals on the fitted periods (the `symmetrize` step changes nothing), it is symmetric, `d · cov = U Uᵀ`, and its
diagonal is non-negative when `d > 0` -/
theorem estimate_cov_spec (s : Spec) (dof : Bool) (Y X : OMat) (pr : Option (List Prior)) (e : Estimate)
    (h : estimate s dof Y X pr = .ok e) :
    ∃ d : ℚ, d ≠ 0 ∧ d = ((fitted s Y X).length : ℚ) - (if dof then (s.numRhs : ℚ) else 0) ∧
      let U : Matrix (Fin s.n) (Fin (fitted s Y X).length) ℚ :=
        fun i k => (e.u.get i ((fitted s Y X).getD k 0)).getD 0
      e.cov.toMat s.n s.n = (1 / d) • (U * Uᵀ) ∧ (e.cov.toMat s.n s.n)ᵀ = e.cov.toMat s.n s.n ∧
      d • e.cov.toMat s.n s.n = U * Uᵀ ∧ (0 < d → ∀ i, 0 ≤ e.cov.toMat s.n s.n i i) := by
  obtain ⟨denom, hden, hdef, hcov⟩ := estimate_cov s dof Y X pr e h
  have hd : (denom : ℚ) ≠ 0 := Int.cast_ne_zero.2 hden
  refine ⟨(denom : ℚ), hd, ?_, ?_⟩
  · rw [hdef, dofCount, Int.cast_sub, Int.cast_natCast, apply_ite Int.cast, Int.cast_natCast, Int.cast_zero]
  · intro U
    have hU : (QMat.ofFn s.n (fitted s Y X).length fun i k => (e.u.get i ((fitted s Y X).getD k 0)).getD 0).Views U :=
      Views.ofFn _ _ _
    have hc := (hU.mul hU.transpose).smul (1 / (denom : Rat))
    obtain ⟨g1, g2, g3, g4⟩ := C18.cov_residuals_spec U (denom : ℚ) hd
    -- the `symmetrize` step changes nothing (`g3`)
    have heq : e.cov.toMat s.n s.n = (1 / (denom : ℚ)) • (U * Uᵀ) :=
      hcov ▸ ((hc.add hc.transpose).smul (1 / 2)).toMat.trans g3
    rw [heq]
    exact ⟨rfl, g2, g1, g4⟩

/-- `C18.mean_fixed_point` carried down: a mean returned by the model through the checked solve (non-zero
intercept) satisfies `(I − Σ_l A_l) μ = c`, hence is a fixed point of the VAR recursion without shocks -/
theorem mean_spec (s : Spec) (p : Nat) (hp : s.p = p + 1) (A : QMat) (c μ : QVec) (hc : c.all (· == 0) = false)
    (h : mean s A (some c) = some μ) :
    let Al : Fin (p + 1) → Matrix (Fin s.n) (Fin s.n) ℚ := fun l i j => A.get i (l * s.n + j)
    (1 - ∑ l, Al l) *ᵥ QVec.toFn μ s.n = QVec.toFn c s.n ∧
    (∑ l, Al l *ᵥ QVec.toFn μ s.n) + QVec.toFn c s.n = QVec.toFn μ s.n := by
  intro Al
  simp only [mean, hc, Bool.false_eq_true, if_false] at h
  obtain ⟨x, hs, rfl⟩ := Option.map_eq_some_iff.1 h
  obtain ⟨_, hx, hsys⟩ := Views.of_solveChecked_vec hs (rfl : (QMat.identity s.n - sumA s A).rows = s.n)
    (Nat.one_pos : 0 < (QMat.col c).cols)
  have hS : (sumA s A).toMat s.n s.n = ∑ l, Al l := by
    ext i j
    unfold sumA
    rw [toMat_apply, get_ofFn_of_lt _ _ _ _ _ i.isLt j.isLt, sumTo_eq_sum_univ, hp, Matrix.sum_apply]
  have hfix : (1 - ∑ l, Al l) *ᵥ QVec.toFn x.toVec s.n = QVec.toFn c s.n := by
    rw [← hS, ← toMat_identity, ← toMat_sub _ _ s.n s.n rfl rfl, toFn_toVec x s.n hx.rows]
    exact hsys.trans (funext fun i => get_col_zero c i)
  exact ⟨hfix, C18.mean_fixed_point p Al _ _ hfix⟩

theorem fill_get (a : OMat) (d : Rat) (i j : Nat) (hi : i < a.rows) (hj : j < a.cols) :
    (a.fill d).get i j = (a.get i j).getD d := by
  unfold OMat.fill
  rw [get_ofFn_of_lt _ _ _ _ _ hi hj]

/-- completeness of the data used below: every cell of `Y` (n × cols) and of `X` (m × cols) is a number -/
structure Complete (s : Spec) (Y X : OMat) : Prop where
  Y_rows : Y.rows = s.n
  X_rows : X.rows = s.m
  X_cols : X.cols = Y.cols
  Y_some : ∀ i j, i < s.n → j < Y.cols → (Y.get i j).isSome = true
  X_some : ∀ k j, k < s.m → j < Y.cols → (X.get k j).isSome = true

theorem reg_some (s : Spec) (Y X : OMat) (hc : Complete s Y X) (r τ : Nat) (hτ : s.p + τ < Y.cols) :
    (reg s Y X r τ).isSome = true := by
  unfold reg
  split
  · rename_i h
    unfold y1
    exact hc.Y_some _ _ (Nat.mod_lt _ (Nat.pos_of_lt_mul_right h)) (Nat.lt_of_le_of_lt (Nat.sub_le _ _) hτ)
  · split
    · rename_i h1 h2
      unfold xx
      exact hc.X_some _ _ (Nat.sub_lt_left_of_lt_add (Nat.le_of_not_lt h1) h2) hτ
    · rfl

theorem regsFinite_of_complete (s : Spec) (Y X : OMat) (hc : Complete s Y X) (τ : Nat)
    (hτ : s.p + τ < Y.cols) : regsFinite s Y X τ = true := by
  unfold regsFinite
  rw [List.all_eq_true]
  intro r _
  exact reg_some s Y X hc r τ hτ

/-- the simulated value computed from the data equals the fitted value of the estimation equation -/
theorem simValue_eq_fit (s : Spec) (beta : QMat) (Y X : OMat) (hc : Complete s Y X) (E : QMat)
    (i τ : Nat) (hi : i < s.n) (hτ : s.p + τ < Y.cols) :
    simValue s (coefA s beta) (coefB s beta)
        ((coefC s beta).getD ((Array.range s.n).map (fun _ => 0))) (X.fill 0) E (Y.fill 0) i (s.p + τ)
      = fitAt s beta Y X i τ + E.get i (s.p + τ) := by
  unfold simValue fitAt
  have hA : sumTo s.numLagged (fun r => (coefA s beta).get i r * (Y.fill 0).get (r % s.n) (s.p + τ - (r / s.n + 1)))
      = sumTo s.numLagged (fun r => beta.get i r * (reg s Y X r τ).getD 0) := by
    refine sumTo_congr fun r hr => ?_
    unfold coefA reg y1
    rw [get_block, if_pos ⟨hi, hr⟩, if_pos hr, Nat.zero_add, Nat.zero_add,
      fill_get _ _ _ _ (hc.Y_rows.symm ▸ Nat.mod_lt r (Nat.pos_of_lt_mul_right hr))
        (Nat.lt_of_le_of_lt (Nat.sub_le _ _) hτ)]
  have hB : sumTo s.m (fun k => (coefB s beta).get i k * (X.fill 0).get k (s.p + τ))
      = sumTo s.m (fun k => beta.get i (s.numLagged + k) * (reg s Y X (s.numLagged + k) τ).getD 0) := by
    refine sumTo_congr fun k hk => ?_
    unfold coefB reg xx
    rw [get_block, if_pos ⟨hi, (Nat.add_sub_cancel_left ..).symm ▸ hk⟩, Nat.zero_add, Nat.add_sub_cancel_left,
      if_neg (Nat.not_lt.2 (Nat.le_add_right _ _)), if_pos (Nat.add_lt_add_left hk _),
      fill_get _ _ _ _ (hc.X_rows ▸ hk) (hc.X_cols ▸ hτ)]
  have hC : ((coefC s beta).getD ((Array.range s.n).map (fun _ => 0))).getD i 0
      = sumTo (if s.icpt then 1 else 0)
          (fun k => beta.get i (s.numLagged + s.m + k) * (reg s Y X (s.numLagged + s.m + k) τ).getD 0) := by
    unfold coefC sumTo reg
    cases s.icpt with
    | false => exact (getD_map_range _ _ _ _).trans (if_pos hi)
    | true =>
      refine (getD_map_range _ _ _ _).trans ((if_pos hi).trans ?_)
      simp only [if_true, List.range_one, List.foldl_cons, List.foldl_nil, Nat.add_zero, if_false,
        Nat.not_lt.2 (Nat.le_add_right _ _), Option.getD_some, mul_one, zero_add]
  rw [hA, hB, hC, show s.numRhs = s.numLagged + s.m + (if s.icpt then 1 else 0) from (Nat.add_assoc ..).symm,
    sumTo_add, sumTo_add]
  ring

/-- `C18.simulate_reproduces` end to end on the model.  For complete data, resimulating all base periods with the
residuals the estimator reports (whatever the coefficient matrix is) returns the data exactly, in every cell. -/
theorem resimulate_reproduces (s : Spec) (Y X : OMat) (e : Estimate) (hc : Complete s Y X) (hp : 1 ≤ s.p)
    (hpc : s.p ≤ Y.cols) (hu : e.u = OMat.ofFn s.n (numBase s Y) (residual s e.beta Y X))
    (path : QMat) (h : resimulate s Y X e = some path) :
    ∀ i j, i < s.n → j < Y.cols → path.get i j = (Y.get i j).getD 0 := by
  unfold resimulate at h
  simp only at h
  split at h
  · cases h
  · injection h with h
    intro i j hi hj
    have hnb : s.p + numBase s Y = Y.cols := Nat.add_sub_cancel' hpc
    have hi' : i < Y.rows := hc.Y_rows.symm ▸ hi
    have key := C18.simulate_reproduces s (coefA s e.beta) (coefB s e.beta)
      ((coefC s e.beta).getD ((Array.range s.n).map (fun _ => 0))) (X.fill 0)
      (QMat.ofFn s.n Y.cols (fun i j => if j < s.p then 0 else (e.u.get i (j - s.p)).getD 0))
      (Y.fill 0) (Y.fill 0) s.p (numBase s Y) hp hc.Y_rows.symm rfl rfl hnb.le
      (fun _ _ _ _ => rfl) ?_ i j hi' (hnb.symm ▸ hj)
    · rw [← h, key, fill_get _ _ _ _ hi' hj]
    · intro t ht1 ht2 i' hi'
      have hi'' : i' < s.n := hc.Y_rows ▸ hi'
      obtain ⟨τ, rfl⟩ := Nat.exists_eq_add_of_le ht1
      have hτ : s.p + τ < Y.cols := hnb ▸ ht2
      rw [simValue_eq_fit s e.beta Y X hc _ i' τ hi'' hτ, get_ofFn_of_lt _ _ _ _ _ hi'' hτ,
        if_neg (Nat.not_lt.2 (Nat.le_add_right _ _)), Nat.add_sub_cancel_left, hu,
        omat_get_ofFn _ _ _ _ _ hi'' (Nat.lt_of_add_lt_add_left ht2), fill_get _ _ _ _ hi' hτ,
        residual_eq_some s e.beta Y X i' τ (hc.Y_some _ _ hi'' hτ) (regsFinite_of_complete s Y X hc τ hτ)]
      exact add_sub_cancel _ _

theorem estimate_base_pos (s : Spec) (dof : Bool) (Y X : OMat) (pr : Option (List Prior)) (e : Estimate)
    (he : estimate s dof Y X pr = .ok e) : s.p < Y.cols := by
  have hlen := (estimate_unfold s dof Y X pr e he).1
  have h1 : (fitted s Y X).length ≤ Y.cols - s.p :=
    (List.length_filter_le _ _).trans (Nat.le_of_eq List.length_range)
  exact Nat.lt_of_sub_pos ((Nat.pos_of_ne_zero hlen).trans_le h1)

/-- … in particular for the residuals of a successful `estimate` -/
theorem estimate_resimulate_reproduces (s : Spec) (dof : Bool) (Y X : OMat) (pr : Option (List Prior))
    (e : Estimate) (he : estimate s dof Y X pr = .ok e) (hc : Complete s Y X) (hp : 1 ≤ s.p)
    (path : QMat) (h : resimulate s Y X e = some path) :
    ∀ i j, i < s.n → j < Y.cols → path.get i j = (Y.get i j).getD 0 := by
  obtain ⟨-, -, -, hu, -⟩ := estimate_ok s dof Y X pr e he
  exact resimulate_reproduces s Y X e hc hp (Nat.le_of_lt (estimate_base_pos s dof Y X pr e he)) hu path h

/-- the model's companion matrix is `C18.companion` (so `C18.companion_step` is a statement about it): with the
flat index `l · n + i` of lag `l`, variable `i` (`finProdFinEquiv`) and `A_l = A[:, l n : (l+1) n]` -/
theorem companionT_view (s : Spec) (p : Nat) (hp : s.p = p + 1) (A : QMat) :
    ((companionT s A).toMat ((p + 1) * s.n) ((p + 1) * s.n)).submatrix finProdFinEquiv finProdFinEquiv
      = C18.companion p (fun (l : Fin (p + 1)) (i j : Fin s.n) => A.get i (l * s.n + j)) := by
  ext ⟨la, ia⟩ ⟨lb, ib⟩
  have hL : s.numLagged = (p + 1) * s.n := by unfold Spec.numLagged; rw [hp, Nat.mul_comm]
  unfold companionT C18.companion
  rw [Matrix.submatrix_apply, toMat_apply, hL, get_ofFn_of_lt _ _ _ _ _ (Fin.isLt _) (Fin.isLt _),
    finProdFinEquiv_apply_val, finProdFinEquiv_apply_val]
  have hia := ia.isLt
  refine Fin.cases ?_ (fun l0 => ?_) la
  · dsimp only
    rw [Fin.val_zero, Nat.mul_zero, Nat.add_zero, if_pos hia, Fin.cases_zero, Nat.mul_comm, Nat.add_comm]
  · dsimp only
    rw [Fin.cases_succ, Fin.val_succ, Nat.mul_succ,
      if_neg (Nat.not_lt.2 ((Nat.le_add_left _ _).trans (Nat.le_add_left _ _))), ← Nat.add_assoc]
    -- `j + n = i` for the flat indices says that `j` is the flat index of `(l0, ia)`; the flat index is injective
    refine if_congr ?_ rfl rfl
    rw [Nat.add_left_inj, eq_comm (a := ia), ← Prod.mk.injEq, ← finProdFinEquiv.injective.eq_iff, Fin.ext_iff,
      finProdFinEquiv_apply_val, finProdFinEquiv_apply_val, Fin.val_castSucc]

/-
What is NOT bridged for C18: `resimulate_reproduces` assumes complete data (`Complete`): with a NaN in a base period
the residual is NaN, the model substitutes 0 and the simulated value is the fit, not the (missing) datum -- the
statement is then false.
(Non-singularity of `X Xᵀ`, the hypothesis `hdet` of `estimate_eq_closed_form`/`estimate_noise_free`, does not follow
from the re-check of `solveChecked`, which proves `A X = B`; it follows from the correctness of the elimination:
`QMatSolveBridge.estimate_isUnit_det` below.)
-/

/-! ## Non-vacuity: the hypotheses of the bridge theorems are met by a concrete run of the executable model
(evaluated by the kernel with `decide +kernel`; nothing beyond the standard kernel trust base) -/

namespace Examples

/-- `y = (1, 2, 5, 4)`, one lag and an intercept: three fitted periods, two regressors, non-zero residuals -/
def exS : Spec := ⟨1, 0, 1, true⟩
def exY : OMat := ⟨1, 4, #[#[some 1, some 2, some 5, some 4]]⟩
def exX : OMat := ⟨0, 4, #[]⟩

theorem ex_estimate_ok :
    ((estimate exS false exY exX none).toOption.map (fun e => e.fittedCols)) = some [0, 1, 2] := by decide +kernel

/-- hypothesis `h` of `estimate_normalEq`/`estimate_minimises` -/
example : ∃ e, estimate exS false exY exX none = .ok e ∧ e.fittedCols = [0, 1, 2] := by
  have h := ex_estimate_ok
  cases hh : estimate exS false exY exX none with
  | error err => rw [hh] at h; cases h
  | ok e => rw [hh] at h; exact ⟨e, rfl, Option.some.inj h⟩

end Examples

end IrisVerif.QMatBridge

/-! ## With the correctness of the executable solver (`Lemmas/QMatSolve.lean`): a model answers iff its system matrix is non-singular.
The theorems above that take a non-singularity hypothesis `hdet` are restated without it (primed where the name is taken): a
successful estimate certifies `det (X Xᵀ) ≠ 0` -/

namespace IrisVerif.QMatSolveBridge

open IrisVerif IrisVerif.QMat IrisVerif.RedVar IrisVerif.QMatBridge IrisVerif.LeastSquares

/-- the checked solve answers exactly on well-posed non-singular systems (dimensions named by the caller) -/
theorem solveChecked_some_iff_det (a b : QMat) (n : Nat) (hr : a.rows = n) (hc : a.cols = n) (hb : b.rows = n) :
    (∃ x, solveChecked a b = some x) ↔ (a.toMat n n).det ≠ 0 := by
  rw [← Option.isSome_iff_exists, solveChecked_isSome_iff_of a b hr hc hb, isUnit_iff_ne_zero]

/-- `ordinary_least_squares` fails (the model's `singular`) exactly when `X Xᵀ` is singular -/
theorem ols_isSome_iff (lhs rhs : QMat) (k T : Nat) (hr : rhs.rows = k) (hc : rhs.cols = T) :
    (ols lhs rhs).isSome = true ↔ IsUnit (rhs.toMat k T * (rhs.toMat k T)ᵀ).det := by
  unfold ols
  rw [Option.isSome_map, solveChecked_isSome_iff_of (normalMx rhs) (normalMy lhs rhs) hr hr hr,
    (normalMx_view (.of hr hc)).toMat]

/-- a successful estimate certifies that the moment matrix `X Xᵀ` of the regressors is non-singular -/
theorem estimate_isUnit_det (s : Spec) (dof : Bool) (Y X : OMat) (pr : Option (List Prior)) (e : Estimate)
    (h : estimate s dof Y X pr = .ok e) :
    IsUnit ((e.rhsEst.toMat s.numRhs e.lhsEst.cols) * (e.rhsEst.toMat s.numRhs e.lhsEst.cols)ᵀ).det := by
  obtain ⟨_, hrr, hc, _, _, _⟩ := estimate_dims s dof Y X pr e h
  obtain ⟨_, _, _, _, x, hx, _⟩ := estimate_ok s dof Y X pr e h
  exact (ols_isSome_iff e.lhsEst e.rhsEst _ _ hrr hc).1 (by rw [ols, hx]; rfl)

/-- the estimate is the closed form `((X Xᵀ)⁻¹ X Yᵀ)ᵀ` -- no non-singularity hypothesis -/
theorem estimate_closed_form (s : Spec) (dof : Bool) (Y X : OMat) (pr : Option (List Prior)) (e : Estimate)
    (h : estimate s dof Y X pr = .ok e) :
    let L := e.lhsEst.toMat s.n e.lhsEst.cols
    let R := e.rhsEst.toMat s.numRhs e.lhsEst.cols
    e.beta.toMat s.n s.numRhs = ((R * Rᵀ)⁻¹ * (R * Lᵀ))ᵀ :=
  estimate_eq_closed_form s dof Y X pr e h (estimate_isUnit_det s dof Y X pr e h)

/-- noise-free data return the generating coefficients -- no non-singularity hypothesis -/
theorem estimate_noise_free' (s : Spec) (dof : Bool) (Y X : OMat) (pr : Option (List Prior)) (e : Estimate)
    (h : estimate s dof Y X pr = .ok e) (β₀ : Matrix (Fin s.n) (Fin s.numRhs) ℚ)
    (hgen : e.lhsEst.toMat s.n e.lhsEst.cols = β₀ * e.rhsEst.toMat s.numRhs e.lhsEst.cols) :
    e.beta.toMat s.n s.numRhs = β₀ :=
  estimate_noise_free s dof Y X pr e h β₀ (estimate_isUnit_det s dof Y X pr e h) hgen

end IrisVerif.QMatSolveBridge
