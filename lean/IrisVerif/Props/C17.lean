/-
C17 — Sequential-model simulation makes every equation hold, also when exogenized.

The property theorems, with the predicates they are stated in (`Dom`, `planMeaning`, `EquationOutcome`, `scheduleOf`, ...), the
witness model of finding C17-a and the few lemmas only they use; the shared helper lemmas are in
IrisVerif/Lemmas/Sequential.lean.  Every theorem is about the executable model IrisVerif/Model/Sequential.lean.  Those about
values (transforms, one step, a schedule, `_detect_exogenized`) instantiate it at an arbitrary field `K` with abstract partial
`exp`/`log` (`UnaryFns`, `LawfulExpLog`); those about the execution orders, the merge of databoxes, the model object and the
data-source options hold for any carrier.  The formulas inside the model are the ones regenerated from the Python source
(IrisVerif/Generated/ExplanatoryGen.lean), so a changed formula re-checks these proofs.
-/
import IrisVerif.Lemmas.Sequential
import Mathlib.Algebra.CharZero.Defs
import Mathlib.Tactic.FieldSimp
import Mathlib.Tactic.Ring
import Mathlib.Tactic.NormNum.Basic
import Mathlib.Analysis.SpecialFunctions.Log.Basic


namespace IrisVerif.C17
open IrisVerif.Seq IrisVerif.Gen

variable {K : Type} [Field K] [DecidableEq K] [UnaryFns K]

/-! ### The tables and statement lists the translator found are the ones the model interprets -/

/-- the LHS transforms of the code are exactly the six of the model, in recognition order -/
theorem lhs_transforms_are_modelled : Explanatory.lhsTransforms = LhsT.all.map LhsT.name := rfl

/-- the plan transforms of the code are exactly the seven of the model -/
theorem plan_transforms_are_modelled : Explanatory.planTransforms = PlanT.all.map PlanT.name := rfl

/-- **every row of `CHOOSE_TRANSFORM_CLASS`, alias spellings included, points at the class of the transform that spelling
documents** (`PlanT.ofSpelling?`; the formulas of the classes are the subject of `plan_eq_level`, `level_inverts` and `detectExogenized_hits_target`) -/
theorem plan_spellings_resolve :
    ∀ row ∈ Explanatory.planChoose, (PlanT.ofSpelling? row.1).map PlanT.name = some row.2 := by decide +kernel

/-- ... and the table has a row for every documented spelling, and no two rows for one spelling -/
theorem plan_spellings_complete :
    (∀ s ∈ PlanT.spellings, ∃ row ∈ Explanatory.planChoose, row.1 = s)
      ∧ (Explanatory.planChoose.map (·.1)).Nodup := by decide +kernel

/-- non-vacuity: the alias resolves like the canonical spelling -/
example : PlanT.ofSpelling? "difflog" = PlanT.ofSpelling? "diff_log" ∧ PlanT.ofSpelling? "level" = some PlanT.none
    ∧ PlanT.ofSpelling? "diflog" = none := by decide +kernel

/-- `slatable_for_simulate`: the parameter block tests `parameters_from_data`, the residual block tests `shocks_from_data`,
the defaults are False / True, and a missing residual is 0 -/
theorem data_source_options_in_code :
    Explanatory.parameterBlockOption = "parameters_from_data" ∧ Explanatory.residualBlockOption = "shocks_from_data"
      ∧ Explanatory.parametersFromDataDefault = false ∧ Explanatory.shocksFromDataDefault = true
      ∧ Explanatory.defaultResidualIsZero = true := by decide +kernel

/-- `Explanatory.simulate` is the single statement `data[lhs, t] = eval_level(data, t)` -/
theorem simulate_statements : Explanatory.simulateSteps = [3] := rfl

/-- the statement list generated from `Explanatory.exogenize` is one of the two the theorems below cover: without
(`stepsAsIs`) or with (`stepsRepaired`) the statement that zeroes the residual before it is backed out -/
theorem exogenize_statements :
    Explanatory.exogenizeSteps = stepsAsIs ∨ Explanatory.exogenizeSteps = stepsRepaired := by decide

/-- plan transforms refer to the previous period unless told otherwise (`PlanTransform.__init__(shift=-1)`) -/
theorem plan_default_shift : Explanatory.planDefaultShift = -1 := rfl

/-! ### The level formula inverts the LHS transform; a plan transform is the LHS transform of the same name -/

/-- side condition under which `transform(lhs)` is a number: `lag ≠ 0` for roc/pct, `log lag` defined for diff_log -/
def Dom (tr : LhsT) (lag : V K) : Prop :=
  match tr with
  | .roc => lag ≠ V.fin 0
  | .pct => lag ≠ V.fin 0
  | .diffLog => ∃ l ll : K, lag = V.fin l ∧ UnaryFns.fn? 1 l = some ll
  | _ => True

theorem level_inverts_none (lag rhs : V K) : LhsT.apply .none (LhsT.level .none lag rhs) lag = rhs := rfl

/-- `exp rhs = v`, so `log v = rhs` -/
theorem level_inverts_log [LawfulExpLog K] (lag rhs : V K) (v : K) (h : LhsT.level .log lag rhs = V.fin v) :
    ∃ r : K, rhs = V.fin r ∧ LhsT.apply .log (V.fin v) lag = V.fin r := by
  obtain ⟨r, rfl, hr⟩ := V.exp_eq_fin (show V.exp rhs = V.fin v from h)
  exact ⟨r, rfl, (V.log_fin v).trans (congrArg V.ofOption (LawfulExpLog.log_exp r v hr))⟩

theorem level_inverts_diff (lag rhs : V K) (v : K) (h : LhsT.level .diff lag rhs = V.fin v) :
    ∃ r : K, rhs = V.fin r ∧ LhsT.apply .diff (V.fin v) lag = V.fin r := by
  obtain ⟨l, r, rfl, rfl, rfl⟩ := V.add_eq_fin (show lag + rhs = V.fin v from h)
  exact ⟨r, rfl, congrArg V.fin (add_sub_cancel_left l r)⟩

/-- `lag * exp rhs = v`, so `log v = log lag + rhs` -/
theorem level_inverts_diff_log [LawfulExpLog K] (lag rhs : V K) (v : K)
    (h : LhsT.level .diffLog lag rhs = V.fin v) (hd : Dom .diffLog lag) :
    ∃ r : K, rhs = V.fin r ∧ LhsT.apply .diffLog (V.fin v) lag = V.fin r := by
  obtain ⟨l, ll, rfl, hl⟩ := hd
  obtain ⟨_, e, hl', he, rfl⟩ := V.mul_eq_fin (show V.fin l * V.exp rhs = V.fin v from h)
  cases hl'
  obtain ⟨r, rfl, hr⟩ := V.exp_eq_fin he
  refine ⟨r, rfl, ?_⟩
  show V.log (V.fin (l * e)) - V.log (V.fin l) = V.fin r
  rw [V.log_fin, V.log_fin, LawfulExpLog.log_mul l e ll r hl (LawfulExpLog.log_exp r e hr), hl]
  exact congrArg V.fin (add_sub_cancel_left ll r)

theorem level_inverts_roc (lag rhs : V K) (v : K) (h : LhsT.level .roc lag rhs = V.fin v) (hd : Dom .roc lag) :
    ∃ r : K, rhs = V.fin r ∧ LhsT.apply .roc (V.fin v) lag = V.fin r := by
  obtain ⟨l, r, rfl, rfl, rfl⟩ := V.mul_eq_fin (show lag * rhs = V.fin v from h)
  have hl : l ≠ 0 := fun h0 => hd (by rw [h0])
  refine ⟨r, rfl, ?_⟩
  show V.fin (l * r) / V.fin l = V.fin r
  rw [V.fin_div, if_neg hl, mul_div_cancel_left₀ r hl]

/-- `lag * (1 + rhs / 100) = v`, so `100 * v / lag - 100 = rhs` -/
theorem level_inverts_pct [CharZero K] (lag rhs : V K) (v : K) (h : LhsT.level .pct lag rhs = V.fin v)
    (hd : Dom .pct lag) : ∃ r : K, rhs = V.fin r ∧ LhsT.apply .pct (V.fin v) lag = V.fin r := by
  obtain ⟨l, x, rfl, hx, _⟩ := V.mul_eq_fin (show lag * (1 + rhs / 100) = V.fin v from h)
  obtain ⟨_, y, _, hy, _⟩ := V.add_eq_fin hx
  obtain ⟨r, _, rfl, _⟩ := V.div_eq_fin hy
  have hl : l ≠ 0 := fun h0 => hd (by rw [h0])
  have h' : l * (1 + r / 100) = v := by simpa [LhsT.level, Explanatory.level_Pct] using h
  refine ⟨r, rfl, ?_⟩
  simp [LhsT.apply, Explanatory.lhs_Pct, hl, ← h']
  field_simp
  ring

/-- all six at once, in the form the simulator uses: whenever the level is a number `v` (and the transform is defined at
the lag), the right-hand side was a number and `transform(v, lag)` is that number -/
theorem level_inverts [CharZero K] [LawfulExpLog K] (tr : LhsT) (lag rhs : V K) (v : K)
    (h : LhsT.level tr lag rhs = V.fin v) (hd : Dom tr lag) :
    ∃ r : K, rhs = V.fin r ∧ LhsT.apply tr (V.fin v) lag = V.fin r := by
  cases tr with
  | none => exact ⟨v, h, rfl⟩
  | log => exact level_inverts_log lag rhs v h
  | diff => exact level_inverts_diff lag rhs v h
  | diffLog => exact level_inverts_diff_log lag rhs v h hd
  | roc => exact level_inverts_roc lag rhs v h hd
  | pct => exact level_inverts_pct lag rhs v h hd

/-- the meaning of a plan transform: the transform of the level `v` given the lagged level -/
def planMeaning (k : PlanT) (v lag : V K) : V K :=
  match k with
  | .none => v
  | .log => V.log v
  | .diff => v - lag
  | .diffLog => V.log v - V.log lag
  | .roc => v / lag
  | .pct => 100 * v / lag - 100
  | .flat => v - lag      -- "flat": no change from the lag, target 0

/-- the LHS transform whose level formula a plan transform evaluates (with the target in the place of the right-hand
side) and whose text is its meaning; `flat` is not one of them -/
def planLhs : PlanT → Option LhsT
  | .none => some .none | .log => some .log | .diff => some .diff | .diffLog => some .diffLog
  | .roc => some .roc | .pct => some .pct | .flat => none

/-- for each of the six, the generated formulas `plan_X` / `level_X` are the same text with the arguments swapped, and the
meaning is the generated `lhs_X`: both by unfolding -/
theorem plan_eq_level {k : PlanT} {tr : LhsT} (hk : planLhs k = some tr) (v target lag : V K) :
    PlanT.implied k target lag = LhsT.level tr lag target ∧ planMeaning k v lag = LhsT.apply tr v lag := by
  cases k <;> cases hk <;> exact ⟨rfl, rfl⟩

theorem plan_none (target lag : V K) : planMeaning .none (PlanT.implied .none target lag) lag = target := rfl

/-- `lag + target = v`, so `v - lag = target`: `level_inverts_diff`, read through the `diff` row of `plan_eq_level` -/
theorem plan_diff (target lag : V K) (v : K) (h : PlanT.implied .diff target lag = V.fin v) :
    ∃ d : K, target = V.fin d ∧ planMeaning .diff (V.fin v) lag = V.fin d :=
  level_inverts_diff lag target v h

theorem plan_flat (target : V K) (lag : K) :
    planMeaning .flat (PlanT.implied .flat target (V.fin lag)) (V.fin lag) = V.fin 0 :=
  congrArg V.fin (sub_self lag)

/-! ### One call of `simulate` or `exogenize` and the equation it belongs to -/

/-- **simulate**: after `data[lhs, t] = eval_level(data, t)` the equation holds at `t`, provided the equation does not read
its own LHS cell, the level is a number and the transform is defined at the lag -/
theorem simulate_step_holds [CharZero K] [LawfulExpLog K] (eq : Equation K) (tbl : Table K) (t : Int) (v : K)
    (hself : (eq.lhs, t) ∉ eq.deps t)
    (hv : eq.evalLevel tbl t = V.fin v) (hd : Dom eq.tr (eq.lagVal tbl t)) :
    eq.Holds (tbl.set eq.lhs t (V.fin v)) t := by
  have hfr := Table.set_of_notMem (tbl := tbl) (v := V.fin v) hself
  obtain ⟨r, hr, happ⟩ := level_inverts eq.tr _ _ v hv hd
  refine ⟨r, ?_, ?_⟩
  · unfold Equation.lhsValue
    rw [Table.set_same, eq.lagVal_congr_deps t tbl _ hfr]
    exact happ
  · rw [eq.rhsFull_congr t tbl _ hfr]
    exact hr

/-- the arithmetic behind `exogenize_asIs`: the residual `ρ = L - (R + C)` is backed out against the residual `C`
that was in the data, so `L = R + ρ` needs `C = 0` -/
theorem V.holds_after_backing_out {L R C : V K} {ρ : K} (h : L - (R + C) = V.fin ρ) :
    (∃ a, L = V.fin a ∧ R + V.fin ρ = V.fin a) ↔ C = V.fin 0 := by
  obtain ⟨a, s, rfl, hs, rfl⟩ := V.sub_eq_fin h
  obtain ⟨b, c, rfl, rfl, rfl⟩ := V.add_eq_fin hs
  simp only [V.fin_add, V.fin.injEq, exists_eq_left']
  rw [show b + (a - (b + c)) = a - c by ring, sub_eq_self]

/-- **exogenize without zeroing the residual** (`stepsAsIs`: `LHS := v; residual := eval_residual`): the LHS takes the implied value, and
whenever the stored residual is a number the equation holds afterwards **iff the incoming residual was zero** -/
theorem exogenize_asIs (eq : Equation K) (tbl : Table K) (t : Int) (v : V K) (ρ : K)
    (hid : eq.identity = false)
    (hself : (eq.lhs, t) ∉ eq.deps t) (hres : (eq.res, t) ∉ eq.depsNoRes t)
    (hρ : eq.evalResidual (tbl.set eq.lhs t v) t = V.fin ρ) :
    let tbl2 := (tbl.set eq.lhs t v).set eq.res t (eq.evalResidual (tbl.set eq.lhs t v) t)
    tbl2 eq.lhs t = v ∧ tbl2 eq.res t = V.fin ρ ∧ (eq.Holds tbl2 t ↔ tbl eq.res t = V.fin 0) := by
  intro tbl2
  have hne : (eq.lhs, t) ≠ (eq.res, t) := fun h => hself (h ▸ Equation.res_mem_deps hid t)
  have hres2 : tbl2 eq.res t = V.fin ρ := Table.set_same.trans hρ
  refine ⟨(Table.set_other hne).trans Table.set_same, hres2, ?_⟩
  -- storing the residual changes neither the transformed LHS nor the right-hand side without the residual
  set tbl1 := tbl.set eq.lhs t v
  have hfr : ∀ c ∈ eq.depsNoRes t, tbl2 c.1 c.2 = tbl1 c.1 c.2 := Table.set_of_notMem hres
  have hL : eq.lhsValue tbl2 t = eq.lhsValue tbl1 t := by
    unfold Equation.lhsValue
    rw [eq.lagVal_congr t tbl1 tbl2 (fun c hc => hfr c (List.mem_append_right _ hc)),
      show tbl2 eq.lhs t = tbl1 eq.lhs t from Table.set_other hne]
  have hR : eq.rhs.eval tbl2 t = eq.rhs.eval tbl1 t :=
    Expr.eval_congr fun c hc => hfr c (List.mem_append_left _ hc)
  have hρ' : eq.lhsValue tbl1 t - (eq.rhs.eval tbl1 t + tbl eq.res t) = V.fin ρ := by
    rw [← hρ, ← show tbl1 eq.res t = tbl eq.res t from Table.set_other (Ne.symm hne)]
    simp only [Equation.evalResidual, Equation.rhsFull, hid, Bool.false_eq_true, if_false]
    rfl
  unfold Equation.Holds
  simp only [Equation.rhsFull, hid, Bool.false_eq_true, if_false, hL, hR, hres2]
  exact V.holds_after_backing_out hρ'

/-- **exogenize with the residual zeroed first** (`stepsRepaired`: `LHS := v; residual := 0; residual := eval_residual`): the LHS takes the
implied value and the equation holds afterwards for every incoming residual (whenever the stored residual is a number) -/
theorem exogenize_repaired (eq : Equation K) (tbl : Table K) (t : Int) (v : V K) (ρ : K)
    (hid : eq.identity = false)
    (hself : (eq.lhs, t) ∉ eq.deps t) (hres : (eq.res, t) ∉ eq.depsNoRes t)
    (hρ : eq.evalResidual ((tbl.set eq.lhs t v).set eq.res t (V.fin 0)) t = V.fin ρ) :
    let tbl1 := (tbl.set eq.lhs t v).set eq.res t (V.fin 0)
    let tbl2 := tbl1.set eq.res t (eq.evalResidual tbl1 t)
    tbl2 eq.lhs t = v ∧ tbl2 eq.res t = V.fin ρ ∧ eq.Holds tbl2 t := by
  intro tbl1 tbl2
  have hne : (eq.lhs, t) ≠ (eq.res, t) := fun h => hself (h ▸ Equation.res_mem_deps hid t)
  have hcomm : tbl1 = (tbl.set eq.res t (V.fin 0)).set eq.lhs t v := Table.set_comm hne
  have := exogenize_asIs eq (tbl.set eq.res t (V.fin 0)) t v ρ hid hself hres (by rw [← hcomm]; exact hρ)
  simp only [← hcomm] at this
  exact ⟨this.1, this.2.1, this.2.2.2 Table.set_same⟩

/-- **exogenize, either statement list**: the LHS takes the implied value, and the equation holds afterwards iff the list zeroes
the residual first or the incoming residual is zero -/
theorem exogenize_steps (exo : List Nat) (hexo : exo = stepsAsIs ∨ exo = stepsRepaired)
    (eq : Equation K) (tbl tbl2 : Table K) (t : Int) (v : V K)
    (hid : eq.identity = false)
    (hself : (eq.lhs, t) ∉ eq.deps t) (hres : (eq.res, t) ∉ eq.depsNoRes t)
    (hrun : runSteps exo eq t v tbl = .ok tbl2)
    (hfin : tbl2 eq.res t ≠ V.nan) :
    tbl2 eq.lhs t = v ∧ (eq.Holds tbl2 t ↔ (exo = stepsRepaired ∨ tbl eq.res t = V.fin 0)) := by
  have fin_of : ∀ x : V K, x ≠ V.nan → ∃ ρ, x = V.fin ρ := fun x hx => by
    cases x with
    | nan => exact absurd rfl hx
    | fin ρ => exact ⟨ρ, rfl⟩
  rcases hexo with rfl | rfl
  · obtain rfl := Except.ok.inj ((runSteps_asIs eq t v tbl).symm.trans hrun)
    rw [Table.set_same] at hfin
    obtain ⟨ρ, hρ⟩ := fin_of _ hfin
    have := exogenize_asIs eq tbl t v ρ hid hself hres hρ
    exact ⟨this.1, this.2.2.trans (or_iff_right (show stepsAsIs ≠ stepsRepaired by decide)).symm⟩
  · obtain rfl := Except.ok.inj ((runSteps_repaired eq t v tbl).symm.trans hrun)
    rw [Table.set_same] at hfin
    obtain ⟨ρ, hρ⟩ := fin_of _ hfin
    have := exogenize_repaired eq tbl t v ρ hid hself hres hρ
    exact ⟨this.1, iff_of_true this.2.2 (Or.inl rfl)⟩

/-- **exogenize, the generated statement list** (`Explanatory.exogenizeSteps`, whichever of the two it is): the LHS takes the
implied value, and the equation holds iff the list zeroes the residual first or the incoming residual is zero.  With
`exogenizeSteps = [0, 2]` a non-zero incoming residual leaves the equation false after the step (finding C17-a). -/
theorem exogenize_current_code (eq : Equation K) (tbl tbl2 : Table K) (t : Int) (v : V K)
    (hid : eq.identity = false)
    (hself : (eq.lhs, t) ∉ eq.deps t) (hres : (eq.res, t) ∉ eq.depsNoRes t)
    (hrun : runSteps Explanatory.exogenizeSteps eq t v tbl = .ok tbl2)
    (hfin : tbl2 eq.res t ≠ V.nan) :
    tbl2 eq.lhs t = v ∧
      (eq.Holds tbl2 t ↔ (Explanatory.exogenizeSteps = stepsRepaired ∨ tbl eq.res t = V.fin 0)) :=
  exogenize_steps _ exogenize_statements eq tbl tbl2 t v hid hself hres hrun hfin

/-! ### What a step establishes survives to the end of an admissible schedule -/

/-- what the property promises for equation `eq` at column `t` in the output data: the equation holds with its residual —
unless the computed LHS is NaN, the LHS transform is undefined at the lag, or the point is exogenized and the backed-out
residual is NaN -/
def EquationOutcome (plan : Plan) (eq : Equation K) (tblF : Table K) (t : Int) : Prop :=
  eq.Holds tblF t ∨ tblF eq.lhs t = V.nan ∨ ¬ Dom eq.tr (eq.lagVal tblF t)
    ∨ (eq.identity = false ∧ (plan eq.lhs t).isSome = true ∧ tblF eq.res t = V.nan)

/-- what a step guarantees about its own equation: the promise of the property, or — for `stepsAsIs` only — the excuse that the
residual that was in the data when the step ran (`resBefore`) was not zero at a plan point -/
def Outcome (exo : List Nat) (plan : Plan) (eq : Equation K) (resBefore : V K) (tblF : Table K) (t : Int) : Prop :=
  EquationOutcome plan eq tblF t
    ∨ (eq.identity = false ∧ (plan eq.lhs t).isSome = true ∧ exo = stepsAsIs ∧ resBefore ≠ V.fin 0)

/-- the outcome only looks at the LHS cell and `deps` (the residual cell of a non-identity is among them) -/
theorem Outcome.congr (exo : List Nat) (plan : Plan) (eq : Equation K) (rb : V K) (tbl tbl' : Table K) (t : Int)
    (hl : tbl' eq.lhs t = tbl eq.lhs t) (h : ∀ c ∈ eq.deps t, tbl' c.1 c.2 = tbl c.1 c.2)
    (ho : Outcome exo plan eq rb tbl t) : Outcome exo plan eq rb tbl' t := by
  unfold Outcome EquationOutcome at *
  rw [eq.holds_congr t tbl tbl' hl h, hl, eq.lagVal_congr_deps t tbl tbl' h]
  -- that settles all but the last disjunct of `EquationOutcome` (the stored residual is NaN)
  refine ho.imp_left (Or.imp_right (Or.imp_right (Or.imp_right ?_)))
  rintro ⟨hid, hp, hr⟩
  exact ⟨hid, hp, (h (eq.res, t) (Equation.res_mem_deps hid t)).trans hr⟩

/-- **one step of `_simulate_v`** establishes the outcome for its own equation, provided the equation does not read what the
step writes (`selfOK`) -/
theorem step_outcome [CharZero K] [LawfulExpLog K] (exo : List Nat) (hexo : exo = stepsAsIs ∨ exo = stepsRepaired)
    (eqs : List (Equation K)) (plan : Plan) (tbl tbl' : Table K) (s : Int × Nat) (eq : Equation K)
    (heq : eqs[s.2]? = some eq) (hself : selfOK eqs s = true)
    (hstep : stepWith [3] exo eqs plan tbl s = .ok tbl') : Outcome exo plan eq (tbl eq.res s.1) tbl' s.1 := by
  obtain ⟨hs1, hs2⟩ := selfOK_unpack eqs s eq heq hself
  rcases stepWith_eq_ok heq hstep with rfl | ⟨v, hid, hp, hstep⟩
  · refine Or.inl ?_
    cases hv : eq.evalLevel tbl s.1 with
    | nan => exact Or.inr (Or.inl Table.set_same)
    | fin v =>
      by_cases hd : Dom eq.tr (eq.lagVal tbl s.1)
      · exact Or.inl (simulate_step_holds eq tbl s.1 v hs1 hv hd)
      · refine Or.inr (Or.inr (Or.inl ?_))
        rwa [eq.lagVal_congr_deps s.1 tbl _ (Table.set_of_notMem hs1)]
  · by_cases hfin : tbl' eq.res s.1 = V.nan
    · exact Or.inl (Or.inr (Or.inr (Or.inr ⟨hid, hp, hfin⟩)))
    · have := exogenize_steps exo hexo eq tbl tbl' s.1 v hid hs1 (hs2 hid) hstep hfin
      by_cases h0 : exo = stepsRepaired ∨ tbl eq.res s.1 = V.fin 0
      · exact Or.inl (Or.inl (this.2.mpr h0))
      · exact Or.inr ⟨hid, hp, hexo.resolve_right fun h => h0 (Or.inl h), fun h => h0 (Or.inr h)⟩

/-- **Schedule theorem, per step, for either statement list of `exogenize`.**  For any model, data, residual paths and plan and
any schedule `pre ++ s :: post` that runs without error: if step `s` is admissible with respect to the steps after it
(`stepOK`: its equation reads nothing that `s` itself or a later step writes, and what `s` wrote is not overwritten), then the
outcome of `s` holds in the **final** data. -/
theorem schedule_step_with [CharZero K] [LawfulExpLog K] (exo : List Nat) (hexo : exo = stepsAsIs ∨ exo = stepsRepaired)
    (eqs : List (Equation K)) (plan : Plan) (tbl tblF : Table K) (pre post : List (Int × Nat)) (s : Int × Nat)
    (eq : Equation K) (heq : eqs[s.2]? = some eq)
    (hok : stepOK eqs plan s post = true)
    (hrun : simulateWith [3] exo eqs plan tbl (pre ++ s :: post) = .ok tblF) :
    ∃ tblK : Table K, simulateWith [3] exo eqs plan tbl pre = .ok tblK
      ∧ Outcome exo plan eq (tblK eq.res s.1) tblF s.1 := by
  rw [simulateWith, List.foldlM_append] at hrun
  obtain ⟨tblK, hpre, hrun⟩ := Except.bind_eq_ok.1 hrun
  rw [List.foldlM_cons] at hrun
  obtain ⟨tbl', hs, hrun⟩ := Except.bind_eq_ok.1 hrun
  simp only [stepOK, Bool.and_eq_true] at hok
  refine ⟨tblK, hpre, ?_⟩
  -- nothing the outcome looks at is written by a later step
  have hframe : ∀ c : Cell, (c ∈ stepDeps eqs s ∨ c ∈ stepWrites eqs plan s) → tblF c.1 c.2 = tbl' c.1 c.2 :=
    fun c hc => simulateWith_frame exo eqs plan post tbl' tblF hrun c fun s' hs' hmem =>
      have := (laterOK_iff eqs plan s post).1 hok.2 s' hs' c hmem
      hc.elim this.1 this.2
  have hdeps : stepDeps eqs s = eq.deps s.1 := by rw [stepDeps, heq]
  exact Outcome.congr exo plan eq _ tbl' tblF s.1 (hframe (eq.lhs, s.1) (Or.inr ((mem_stepWrites heq).2 (Or.inl rfl))))
    (fun c hc => hframe c (Or.inl (hdeps ▸ hc))) (step_outcome exo hexo eqs plan tblK tbl' s eq heq hok.1 hs)

/-- **Schedule theorem for the generated statement lists** (`simulateV` runs the lists the translator found in
`Explanatory.simulate` / `Explanatory.exogenize`). -/
theorem schedule_step [CharZero K] [LawfulExpLog K]
    (eqs : List (Equation K)) (plan : Plan) (tbl tblF : Table K) (pre post : List (Int × Nat)) (s : Int × Nat)
    (eq : Equation K) (heq : eqs[s.2]? = some eq)
    (hok : stepOK eqs plan s post = true)
    (hrun : simulateV eqs plan tbl (pre ++ s :: post) = .ok tblF) :
    ∃ tblK : Table K, simulateV eqs plan tbl pre = .ok tblK
      ∧ Outcome Explanatory.exogenizeSteps plan eq (tblK eq.res s.1) tblF s.1 := by
  unfold simulateV at *
  rw [simulate_statements] at *
  exact schedule_step_with _ exogenize_statements eqs plan tbl tblF pre post s eq heq hok hrun

/-- **Schedule theorem, whole schedule.**  If the schedule is `admissible` (every step reads only cells that no later step
and not the step itself writes; no cell is written twice) and — if the generated list of `exogenize` is `stepsAsIs` — the input
residual is zero at every planned point, then after the fold every equation holds at every scheduled period with the final
data, except where the computed LHS (or the stored residual of an exogenized point) is NaN or the transform is undefined
at the lag.  If the generated list is `stepsRepaired` the residual hypothesis is vacuous. -/
theorem schedule_admissible [CharZero K] [LawfulExpLog K]
    (eqs : List (Equation K)) (plan : Plan) (tbl tblF : Table K) (sched : List (Int × Nat))
    (hadm : admissible eqs plan sched = true)
    (hrun : simulateV eqs plan tbl sched = .ok tblF)
    (hres : Explanatory.exogenizeSteps = stepsAsIs → ∀ s ∈ sched, ∀ eq, eqs[s.2]? = some eq → eq.identity = false →
      (plan eq.lhs s.1).isSome = true → tbl eq.res s.1 = V.fin 0) :
    ∀ s ∈ sched, ∀ eq, eqs[s.2]? = some eq →
      eq.Holds tblF s.1 ∨ tblF eq.lhs s.1 = V.nan ∨ ¬ Dom eq.tr (eq.lagVal tblF s.1)
        ∨ (eq.identity = false ∧ (plan eq.lhs s.1).isSome = true ∧ tblF eq.res s.1 = V.nan) := by
  intro s hs eq heq
  obtain ⟨pre, post, rfl⟩ := List.append_of_mem hs
  obtain ⟨hok, hpre⟩ := admissible_split eqs plan pre post s hadm
  obtain ⟨tblK, hK, ho | ⟨hid, hp, hasis, hne⟩⟩ := schedule_step eqs plan tbl tblF pre post s eq heq hok hrun
  · exact ho
  · -- the residual cell of a plan point is written by this step only, so it still held the input residual
    exfalso
    apply hne
    have hw : (eq.res, s.1) ∈ stepWrites eqs plan s := (mem_stepWrites heq).2 (Or.inr ⟨hid, hp, rfl⟩)
    unfold simulateV at hK
    rw [simulate_statements] at hK
    rw [simulateWith_frame _ eqs plan pre tbl tblK hK (eq.res, s.1) fun s' hs' => hpre s' hs' _ hw]
    exact hres hasis s hs eq heq hid hp

/-! ### Finding C17-a on a concrete model -/

/-- `x = 0.5*x[-1] + res_x` with row 0 = `x`, row 1 = `res_x` -/
def wEq : Equation K := { lhs := 0, tr := .none, identity := false, rhs := .mul (.const (1/2)) (.var 0 (-1)), res := 1 }

/-- data: `x[0] = 4`, `res_x[1] = r0`, everything else NaN -/
def wTbl (r0 : K) : Table K := fun r c => if r = 0 ∧ c = 0 then V.fin 4 else if r = 1 ∧ c = 1 then V.fin r0 else V.nan

/-- the witness equation written out: `x[t] - (0.5*x[t-1] + res_x[t])` is the residual it backs out -/
theorem wEq_residual (tbl : Table K) (t : Int) :
    (wEq : Equation K).evalResidual tbl t = tbl 0 t - (V.fin (1/2) * tbl 0 (t + -1) + tbl 1 t) := rfl

theorem wEq_level (tbl : Table K) (t : Int) :
    (wEq : Equation K).evalLevel tbl t = V.fin (1/2) * tbl 0 (t + -1) + tbl 1 t := rfl

omit [DecidableEq K] [UnaryFns K] in
theorem wEq_self (t : Int) : ((wEq : Equation K).lhs, t) ∉ (wEq : Equation K).deps t := by
  simp [wEq, Equation.deps, Equation.lagCells, LhsT.lagShift, Explanatory.lagShift_None, Expr.reads]

omit [DecidableEq K] [UnaryFns K] in
theorem wEq_res (t : Int) : ((wEq : Equation K).res, t) ∉ (wEq : Equation K).depsNoRes t := by
  simp [wEq, Equation.depsNoRes, Equation.lagCells, LhsT.lagShift, Explanatory.lagShift_None, Expr.reads]

/-- **C17-a, concrete witness** (any field of characteristic 0, e.g. ℚ): `x = 0.5*x[-1] + res_x`, `x[-1] = 4`, `x` exogenized
to `1.5`.  With the statement list `stepsAsIs` of `Explanatory.exogenize` and an incoming residual `r0 ≠ 0` the LHS takes the
implied value but the equation is **false** in the output; with `r0 = 0` it is true. -/
theorem c17a_witness [CharZero K] (r0 : K) :
    ∃ tbl2 : Table K, runSteps stepsAsIs wEq 1 (V.fin (3/2)) (wTbl r0) = .ok tbl2 ∧ tbl2 0 1 = V.fin (3/2)
      ∧ tbl2 1 1 = V.fin (3/2 - (1/2 * 4 + r0)) ∧ ((wEq : Equation K).Holds tbl2 1 ↔ r0 = 0) := by
  refine ⟨_, runSteps_asIs _ _ _ _, ?_⟩
  have := exogenize_asIs (wEq : Equation K) (wTbl r0) 1 (V.fin (3/2)) (3/2 - (1/2 * 4 + r0)) rfl (wEq_self 1) (wEq_res 1)
    (by rw [wEq_residual]; rfl)
  exact ⟨this.1, this.2.1, this.2.2.trans ⟨V.fin.inj, congrArg V.fin⟩⟩

/-- the same model under `stepsRepaired`: the equation holds for every incoming residual -/
theorem c17a_repaired [CharZero K] (r0 : K) :
    ∃ tbl2 : Table K, runSteps stepsRepaired wEq 1 (V.fin (3/2)) (wTbl r0) = .ok tbl2 ∧ tbl2 0 1 = V.fin (3/2)
      ∧ (wEq : Equation K).Holds tbl2 1 := by
  refine ⟨_, runSteps_repaired _ _ _ _, ?_⟩
  have := exogenize_repaired (wEq : Equation K) (wTbl r0) 1 (V.fin (3/2)) (3/2 - (1/2 * 4 + 0)) rfl (wEq_self 1) (wEq_res 1)
    (by rw [wEq_residual]; rfl)
  exact ⟨this.1, this.2.2⟩

/-- non-vacuity of `simulate_step_holds`: its hypotheses are met by the witness model with a residual of 1/4 -/
example [CharZero K] [LawfulExpLog K] : (wEq : Equation K).Holds ((wTbl (1/4 : K)).set 0 1 (V.fin (1/2 * 4 + 1/4))) 1 :=
  simulate_step_holds _ _ _ _ (wEq_self 1) (by rw [wEq_level]; rfl) trivial

/-- non-vacuity of `admissible`: the witness model over two periods, in both orders, with a plan point at the first -/
example : admissible [(wEq : Equation ℚ)] (fun r c => if r = 0 ∧ c = 1 then some ⟨.none, false, -1, some 0⟩ else none)
    (datesEquations [1, 2] 1) = true := by decide +kernel
example : admissible [(wEq : Equation ℚ)] (fun _ _ => none) (equationsDates [1, 2] 1) = true := by decide +kernel
/-- ... and a schedule that is not: an equation reading its own LHS cell -/
example : admissible [({ lhs := 0, tr := .none, identity := true, rhs := .var 0 0, res := 1 } : Equation ℚ)]
    (fun _ _ => none) (datesEquations [1] 1) = false := by decide +kernel

/-! ### The hypotheses on `exp`/`log` hold for the real functions -/

noncomputable instance realFns : UnaryFns ℝ where
  fn? := fun k x =>
    if k = 0 then some (Real.exp x)
    else if k = 1 then (if 0 < x then some (Real.log x) else none)
    else none

instance realLawful : LawfulExpLog ℝ where
  log_exp := by
    intro x y h
    simp only [UnaryFns.fn?, if_true] at h
    injection h with h
    subst h
    simp [UnaryFns.fn?, Real.exp_pos, Real.log_exp]
  log_mul := by
    intro a b la lb ha hb
    simp only [UnaryFns.fn?] at ha hb ⊢
    norm_num at ha hb ⊢
    obtain ⟨ha0, rfl⟩ := ha
    obtain ⟨hb0, rfl⟩ := hb
    exact ⟨mul_pos ha0 hb0, Real.log_mul ha0.ne' hb0.ne'⟩

/-! ### The two execution orders are admissible under closed-form conditions on the model text -/

section orders
variable {β : Type}

/-- **dates×equations.**  For any plan and any increasing list of simulated columns: if every equation passes `SelfOKText`,
different equations write different rows, and the model is sequentialised with leads only into input cells
(`DatesEquationsCond`: a row written by equation `j` is read by equation `i`, inside the span, only at a lag, or in the same
period when `j` is not later than `i`), then the `dates_equations` schedule is `Admissible`. -/
theorem datesEquations_admissible (eqs : List (Equation β)) (plan : Plan) (cols : List Int)
    (hcols : cols.Pairwise (· < ·)) (hS : AllSelfOK eqs) (hW : DistinctWrites eqs)
    (hC : DatesEquationsCond eqs cols) :
    Admissible eqs plan (datesEquations cols eqs.length) := by
  refine ⟨fun s _ => selfOK_of_text eqs s hS, (pairwise_datesEquations hcols).2 ?_⟩
  intro t ht t' ht' i hi j hj hord
  exact noClobber_of eqs plan cols (fun k i j => k < 0 ∨ (k = 0 ∧ j ≤ i)) hW hC ht ht' (fun k hk => by omega) (by omega)

/-- **equations×dates.**  Same, under `EquationsDatesCond`: a row written by equation `j` is read by equation `i`, inside the
span, only when `j` is an earlier equation (at any shift, leads included) or `j = i` at a non-positive shift. -/
theorem equationsDates_admissible (eqs : List (Equation β)) (plan : Plan) (cols : List Int)
    (hcols : cols.Pairwise (· < ·)) (hS : AllSelfOK eqs) (hW : DistinctWrites eqs)
    (hC : EquationsDatesCond eqs cols) :
    Admissible eqs plan (equationsDates cols eqs.length) := by
  refine ⟨fun s _ => selfOK_of_text eqs s hS, (pairwise_equationsDates hcols).2 ?_⟩
  intro i hi j hj t ht t' ht' hord
  exact noClobber_of eqs plan cols (fun k i j => j < i ∨ (j = i ∧ k ≤ 0)) hW hC ht ht' (fun k hk => by omega) (by omega)

/-- purely textual sufficient condition for every span: the model is **sequentialised and has no leads on written rows** -/
def SequentialisedNoLeads (eqs : List (Equation β)) : Prop :=
  ∀ p ∈ eqs.zipIdx, ∀ q ∈ eqs.zipIdx, ∀ tok ∈ p.1.depTokens, tok.1 ∈ q.1.writeRows →
    (tok.2 < 0 ∨ (tok.2 = 0 ∧ q.2 ≤ p.2))

theorem datesEquations_admissible_of_sequentialised (eqs : List (Equation β)) (plan : Plan) (cols : List Int)
    (hcols : cols.Pairwise (· < ·)) (hS : AllSelfOK eqs) (hW : DistinctWrites eqs)
    (hC : SequentialisedNoLeads eqs) :
    Admissible eqs plan (datesEquations cols eqs.length) :=
  datesEquations_admissible eqs plan cols hcols hS hW (fun p hp q hq tok htok hw _ _ _ => hC p hp q hq tok htok hw)

/-- purely textual sufficient condition for `equations_dates` on every span: an equation reads rows written by equations
only from **earlier** equations (any shift) or its own lags -/
def ReadsOnlyEarlierEquations (eqs : List (Equation β)) : Prop :=
  ∀ p ∈ eqs.zipIdx, ∀ q ∈ eqs.zipIdx, ∀ tok ∈ p.1.depTokens, tok.1 ∈ q.1.writeRows →
    (q.2 < p.2 ∨ (q.2 = p.2 ∧ tok.2 ≤ 0))

theorem equationsDates_admissible_of_text (eqs : List (Equation β)) (plan : Plan) (cols : List Int)
    (hcols : cols.Pairwise (· < ·)) (hS : AllSelfOK eqs) (hW : DistinctWrites eqs)
    (hC : ReadsOnlyEarlierEquations eqs) :
    Admissible eqs plan (equationsDates cols eqs.length) :=
  equationsDates_admissible eqs plan cols hcols hS hW (fun p hp q hq tok htok hw _ _ _ => hC p hp q hq tok htok hw)

end orders

theorem admissible_decides {β : Type} (eqs : List (Equation β)) (plan : Plan) (sched : List (Int × Nat)) :
    admissible eqs plan sched = true ↔ Admissible eqs plan sched := admissible_iff eqs plan sched

/-- all flags printed by the driver are `T` exactly when the schedule is `Admissible` -/
theorem admissibleFlags_sound {β : Type} (eqs : List (Equation β)) (plan : Plan) (sched : List (Int × Nat)) :
    (∀ b ∈ admissibleFlags eqs plan sched, b = true) ↔ Admissible eqs plan sched := admissibleFlags_all_iff eqs plan sched

/-- the flag at position `k` is `stepOK` of the `k`-th step w.r.t. the steps after it — the hypothesis of `schedule_step` -/
theorem admissibleFlags_step {β : Type} (eqs : List (Equation β)) (plan : Plan) (pre post : List (Int × Nat)) (s : Int × Nat) :
    (admissibleFlags eqs plan (pre ++ s :: post))[pre.length]? = some (stepOK eqs plan s post) :=
  admissibleFlags_getElem eqs plan pre post s

/-! ### the two conditions are incomparable (rows: 0 = x0, 1 = x1, 2 = res_x0, 3 = res_x1, 4 = z) -/

/-- `x0 = x1[-1]; x1 = x0`: a LAG of a later equation's LHS -/
def lagOfLater : List (Equation ℚ) :=
  [{ lhs := 0, tr := .none, identity := false, rhs := .var 1 (-1), res := 2 },
   { lhs := 1, tr := .none, identity := false, rhs := .var 0 0, res := 3 }]

/-- `x0 = z; x1 = x0[+1]`: a LEAD of an earlier equation's LHS -/
def leadOfEarlier : List (Equation ℚ) :=
  [{ lhs := 0, tr := .none, identity := false, rhs := .var 4 0, res := 2 },
   { lhs := 1, tr := .none, identity := false, rhs := .var 0 1, res := 3 }]

/-- admissible under dates×equations (condition and decision agree) but not under equations×dates -/
example : AllSelfOK lagOfLater ∧ DistinctWrites lagOfLater ∧ DatesEquationsCond lagOfLater [1, 2]
    ∧ ¬ EquationsDatesCond lagOfLater [1, 2]
    ∧ admissible lagOfLater (fun _ _ => none) (datesEquations [1, 2] 2) = true
    ∧ admissible lagOfLater (fun _ _ => none) (equationsDates [1, 2] 2) = false := by decide +kernel

/-- admissible under equations×dates but not under dates×equations -/
example : AllSelfOK leadOfEarlier ∧ DistinctWrites leadOfEarlier ∧ EquationsDatesCond leadOfEarlier [1, 2]
    ∧ ¬ DatesEquationsCond leadOfEarlier [1, 2]
    ∧ admissible leadOfEarlier (fun _ _ => none) (equationsDates [1, 2] 2) = true
    ∧ admissible leadOfEarlier (fun _ _ => none) (datesEquations [1, 2] 2) = false := by decide +kernel

/-- a lead that lands after the span end is an input cell: with one simulated column `leadOfEarlier` is fine under both -/
example : DatesEquationsCond leadOfEarlier [1] ∧ admissible leadOfEarlier (fun _ _ => none) (datesEquations [1] 2) = true := by
  decide +kernel

/-! ### End to end: from the model text and the plan to "every equation holds" -/

/-- the schedule `_simulate_v` builds for an execution order (`true` = `dates_equations`, `false` = `equations_dates`) -/
def scheduleOf {β : Type} (datesFirst : Bool) (eqs : List (Equation β)) (cols : List Int) : List (Int × Nat) :=
  if datesFirst then datesEquations cols eqs.length else equationsDates cols eqs.length

/-- the condition on the model text that the chosen order needs -/
def OrderCond {β : Type} (datesFirst : Bool) (eqs : List (Equation β)) (cols : List Int) : Prop :=
  if datesFirst then DatesEquationsCond eqs cols else EquationsDatesCond eqs cols

theorem scheduleOf_admissible {β : Type} (datesFirst : Bool) (eqs : List (Equation β)) (plan : Plan) (cols : List Int)
    (hcols : cols.Pairwise (· < ·)) (hS : AllSelfOK eqs) (hW : DistinctWrites eqs) (hC : OrderCond datesFirst eqs cols) :
    Admissible eqs plan (scheduleOf datesFirst eqs cols) := by
  cases datesFirst
  · exact equationsDates_admissible eqs plan cols hcols hS hW hC
  · exact datesEquations_admissible eqs plan cols hcols hS hW hC

theorem mem_scheduleOf {β : Type} (datesFirst : Bool) (eqs : List (Equation β)) (cols : List Int) (s : Int × Nat) :
    s ∈ scheduleOf datesFirst eqs cols ↔ s.1 ∈ cols ∧ s.2 < eqs.length := by
  cases datesFirst
  · exact mem_equationsDates cols eqs.length s
  · exact mem_datesEquations cols eqs.length s

/-- **End-to-end theorem.**  Hypotheses about the model text (`AllSelfOK`, `DistinctWrites`, the order condition), the span
(increasing columns) and — only if the generated list of `exogenize` is `stepsAsIs` — zero input residuals at planned points; for
any data, residual paths, parameters and plan, under either execution order: if `_simulate_v` runs without error, every
equation holds at every simulated column in the final data (up to the NaN/undefined excuses of `EquationOutcome`). -/
theorem simulate_all_equations_hold [CharZero K] [LawfulExpLog K]
    (datesFirst : Bool) (eqs : List (Equation K)) (plan : Plan) (tbl tblF : Table K) (cols : List Int)
    (hcols : cols.Pairwise (· < ·)) (hS : AllSelfOK eqs) (hW : DistinctWrites eqs) (hC : OrderCond datesFirst eqs cols)
    (hrun : simulateV eqs plan tbl (scheduleOf datesFirst eqs cols) = .ok tblF)
    (hres : Explanatory.exogenizeSteps = stepsAsIs → ∀ t ∈ cols, ∀ eq ∈ eqs, eq.identity = false →
      (plan eq.lhs t).isSome = true → tbl eq.res t = V.fin 0) :
    ∀ t ∈ cols, ∀ eq ∈ eqs, EquationOutcome plan eq tblF t := by
  intro t ht eq heq
  obtain ⟨i, hget⟩ := List.mem_iff_getElem?.mp heq
  have hadm := (admissible_iff eqs plan _).mpr (scheduleOf_admissible datesFirst eqs plan cols hcols hS hW hC)
  have hmem := mem_scheduleOf datesFirst eqs cols
  exact schedule_admissible eqs plan tbl tblF _ hadm hrun
    (fun h s hs eq' heq' hid hp => hres h s.1 ((hmem s).mp hs).1 eq' (List.mem_of_getElem? heq') hid hp)
    (t, i) ((hmem (t, i)).mpr ⟨ht, (List.getElem?_eq_some_iff.mp hget).1⟩) eq hget

/-- the statement list generated from `Explanatory.exogenize` is the one that zeroes the residual first -/
theorem exogenize_is_repaired : Explanatory.exogenizeSteps = stepsRepaired := rfl

/-- **End-to-end theorem for the generated statement lists**: no hypothesis on the data at all. -/
theorem simulate_all_equations_hold_current [CharZero K] [LawfulExpLog K]
    (datesFirst : Bool) (eqs : List (Equation K)) (plan : Plan) (tbl tblF : Table K) (cols : List Int)
    (hcols : cols.Pairwise (· < ·)) (hS : AllSelfOK eqs) (hW : DistinctWrites eqs) (hC : OrderCond datesFirst eqs cols)
    (hrun : simulateV eqs plan tbl (scheduleOf datesFirst eqs cols) = .ok tblF) :
    ∀ t ∈ cols, ∀ eq ∈ eqs, EquationOutcome plan eq tblF t :=
  simulate_all_equations_hold datesFirst eqs plan tbl tblF cols hcols hS hW hC hrun
    (fun h => absurd (h.symm.trans exogenize_is_repaired) (by decide))

/-- non-vacuity: the witness model `x = 0.5*x[-1] + res_x` over columns 1, 2 meets every hypothesis, under both orders -/
example : ([1, 2] : List Int).Pairwise (· < ·) ∧ AllSelfOK [(wEq : Equation ℚ)] ∧ DistinctWrites [(wEq : Equation ℚ)]
    ∧ DatesEquationsCond [(wEq : Equation ℚ)] [1, 2] ∧ EquationsDatesCond [(wEq : Equation ℚ)] [1, 2] := by decide +kernel

/-! ### The extent of the data array -/

/-- **Every read lands inside the data array.**  With `nPre = −max_lag` columns before and `nPost = max_lead` columns after the
`nPer` simulated ones (what the Dataslate allocates), every cell an equation reads at a simulated column — right-hand side,
transform lag, residual — has a column in `[0, nPre + nPer + nPost)`; in particular no lag wraps around to the end of the
array (numpy's negative indexing) and no lead runs off it. -/
theorem reads_inside_array {β : Type} (eqs : List (Equation β)) (nPer : Nat) (eq : Equation β) (h : eq ∈ eqs)
    (t : Int) (ht : (nPreOf eqs : Int) ≤ t ∧ t < nPreOf eqs + nPer) :
    ∀ c ∈ eq.deps t, 0 ≤ c.2 ∧ c.2 < (nPreOf eqs + nPer + nPostOf eqs : Nat) := by
  intro c hc
  rw [Equation.deps_eq_map] at hc
  obtain ⟨tok, htok, rfl⟩ := List.mem_map.mp hc
  obtain ⟨h1, h2⟩ := minShift_le eqs eq h tok htok
  obtain ⟨h3, h4⟩ := le_maxShift eqs eq h tok htok
  unfold nPreOf nPostOf at *
  simp only
  omega

theorem lhs_inside_array {β : Type} (eqs : List (Equation β)) (nPer : Nat)
    (t : Int) (ht : (nPreOf eqs : Int) ≤ t ∧ t < nPreOf eqs + nPer) :
    0 ≤ t ∧ t < (nPreOf eqs + nPer + nPostOf eqs : Nat) := by
  omega

/-- non-vacuity: `x = 0.5*x[-1] + res` has one pre-sample column and no post-sample column -/
example : nPreOf [(wEq : Equation ℚ)] = 1 ∧ nPostOf [(wEq : Equation ℚ)] = 0 := by decide

/-! ### `_detect_exogenized` at every transform and every shift -/

/-- `values_before[self._shift]` with `values_before = data[row, :t]`, at any column `t` (negative ones included): a shift
`k ≤ −1` reads the cell `|k|` columns back when that is a column of the array, and is Python's `IndexError` otherwise -/
theorem planLagColumn_of_neg (p : PlanPoint) (t : Int) (hk : p.shift ≤ -1) :
    planLagColumn p t = if 0 ≤ t + p.shift then some (t + p.shift) else none := by
  unfold planLagColumn pyIndex
  rw [if_neg (by omega : ¬ (0 ≤ p.shift ∧ p.shift < t))]
  by_cases h : 0 ≤ t + p.shift
  · rw [if_pos h, if_pos (by omega)]
  · rw [if_neg h, if_neg (by omega)]

/-- for EVERY shift `k ≤ −1` that stays inside the array the lag is the cell `|k|` columns back — not only for the default `−1` -/
theorem planLagColumn_neg (p : PlanPoint) (t : Int) (hk : p.shift ≤ -1) (ht : 0 ≤ t + p.shift) :
    planLagColumn p t = some (t + p.shift) := by
  rw [planLagColumn_of_neg p t hk, if_pos ht]

set_option linter.unusedVariables false in
/-- ... and a shift that reaches before the first column is an error (Python `IndexError`), never a wrap-around -/
theorem planLagColumn_out (p : PlanPoint) (t : Int) (ht0 : 0 ≤ t) (hk : p.shift ≤ -1) (ht : t + p.shift < 0) :
    planLagColumn p t = none := by
  rw [planLagColumn_of_neg p t hk, if_neg (by omega)]

theorem PlanT.implied_congr_lag {k : PlanT} (h : k.usesLag = false) (target lag lag' : V K) :
    k.implied target lag = k.implied target lag' := by
  cases k with
  | none | log => rfl
  | diff | diffLog | roc | pct | flat => exact absurd h (by decide)

/-- `_detect_exogenized` without the `do` notation: the two reads (each may fail), then the formula -/
theorem detectExogenized_eq (tbl : Table K) (lhsRow : Nat) (p : PlanPoint) (t : Int) :
    detectExogenized tbl lhsRow p t =
      match (if p.kind.usesTarget then p.target.map (tbl · t) else some V.nan),
            (if p.kind.usesLag then (planLagColumn p t).map (tbl lhsRow) else some V.nan) with
      | some target, some lag =>
        if p.whenData && (p.kind.implied target lag).isNan then .ok none else .ok (some (p.kind.implied target lag))
      | _, _ => .error .badIndex := by
  unfold detectExogenized
  cases p.kind.usesTarget <;> cases p.target <;> cases p.kind.usesLag <;> cases planLagColumn p t <;> rfl

/-- what `_detect_exogenized` computed when it returns a value: the transform's formula on the target read at column `t`
(when the transform uses one) and the LHS value `|shift|` columns back -/
theorem detectExogenized_ok (tbl : Table K) (lhsRow : Nat) (p : PlanPoint) (t : Int) (w : V K) (hk : p.shift ≤ -1)
    (h : detectExogenized tbl lhsRow p t = .ok (some w)) :
    ∃ target : V K, (p.kind.usesTarget = true → ∃ r, p.target = some r ∧ target = tbl r t)
      ∧ w = p.kind.implied target (tbl lhsRow (t + p.shift)) := by
  rw [detectExogenized_eq] at h
  split at h
  · next target lag hA hB =>
    refine ⟨target, fun hT => ?_, ?_⟩
    · rw [if_pos hT] at hA
      obtain ⟨r, hr, rfl⟩ := Option.map_eq_some_iff.1 hA
      exact ⟨r, hr, rfl⟩
    · obtain rfl : w = p.kind.implied target lag := by
        split at h <;> cases h
        rfl
      cases hL : p.kind.usesLag with
      | false => exact PlanT.implied_congr_lag hL _ _ _
      | true =>
        rw [if_pos hL, planLagColumn_of_neg p t hk] at hB
        split at hB
        · cases hB; rfl
        · cases hB
  · cases h

/-- **`_detect_exogenized` for every transform and every shift `k ≤ −1`**: when it decides to exogenize at a number `v`, the
documented meaning of the transform — taken between `v` and the LHS value `|k|` columns back, `data[lhs, t+k]` — is the target
read at column `t` (side conditions as `Dom` in `level_inverts`; `flat`: the difference to the lag is 0). -/
theorem detectExogenized_hits_target [CharZero K] [LawfulExpLog K] (tbl : Table K) (lhsRow : Nat) (p : PlanPoint)
    (t : Int) (v : K) (hk : p.shift ≤ -1)
    (h : detectExogenized tbl lhsRow p t = .ok (some (V.fin v)))
    (hd : match p.kind with
      | .roc => tbl lhsRow (t + p.shift) ≠ V.fin 0
      | .pct => tbl lhsRow (t + p.shift) ≠ V.fin 0
      | .diffLog => ∃ l ll : K, tbl lhsRow (t + p.shift) = V.fin l ∧ UnaryFns.fn? 1 l = some ll
      | _ => True) :
    ∃ target : V K, (p.kind.usesTarget = true → ∃ r, p.target = some r ∧ target = tbl r t) ∧
      planMeaning p.kind (V.fin v) (tbl lhsRow (t + p.shift)) = (if p.kind = .flat then V.fin 0 else target) := by
  obtain ⟨target, hT, hw⟩ := detectExogenized_ok tbl lhsRow p t (V.fin v) hk h
  refine ⟨target, hT, ?_⟩
  generalize tbl lhsRow (t + p.shift) = lag at hw hd
  cases hl : planLhs p.kind with
  | none =>
    obtain hflat : p.kind = .flat := by
      revert hl
      cases p.kind <;> decide
    rw [hflat] at hw ⊢
    obtain rfl : V.fin v = lag := hw
    exact (plan_flat target v).trans (if_pos rfl).symm
  | some tr =>
    obtain ⟨e1, e2⟩ := plan_eq_level hl (V.fin v) target lag
    -- `hd` is `Dom tr lag` spelt by plan kind (`flat`, which has no `tr`, goes at `cases hl`)
    have hdom : Dom tr lag := by cases hkind : p.kind <;> rw [hkind] at hl hd <;> cases hl <;> exact hd
    obtain ⟨d, rfl, hm⟩ := level_inverts tr lag target v (e1 ▸ hw.symm) hdom
    rw [if_neg (by rintro e; rw [e] at hl; cases hl), e2, hm]

/-- non-vacuity: a `diff` point with shift −2 at column 3: the lag is read at column 1 -/
example [CharZero K] :
    detectExogenized (fun r c => if r = 0 ∧ c = 1 then V.fin (4 : K) else if r = 2 ∧ c = 3 then V.fin (1/2) else V.nan)
      0 ⟨.diff, false, -2, some 2⟩ 3 = .ok (some (V.fin (4 + 1/2))) := by
  rfl

/-! ### The order conditions are necessary on LHS rows -/

section converse
variable {β : Type}

/-- the part of `DatesEquationsCond` that concerns LHS rows (written at every step, whatever the plan) -/
def DatesEquationsCondLhs (eqs : List (Equation β)) (cols : List Int) : Prop :=
  ∀ p ∈ eqs.zipIdx, ∀ q ∈ eqs.zipIdx, ∀ tok ∈ p.1.depTokens, tok.1 = q.1.lhs →
    ∀ t ∈ cols, t + tok.2 ∈ cols → (tok.2 < 0 ∨ (tok.2 = 0 ∧ q.2 ≤ p.2))

/-- the part of `EquationsDatesCond` that concerns LHS rows -/
def EquationsDatesCondLhs (eqs : List (Equation β)) (cols : List Int) : Prop :=
  ∀ p ∈ eqs.zipIdx, ∀ q ∈ eqs.zipIdx, ∀ tok ∈ p.1.depTokens, tok.1 = q.1.lhs →
    ∀ t ∈ cols, t + tok.2 ∈ cols → (q.2 < p.2 ∨ (q.2 = p.2 ∧ tok.2 ≤ 0))

/-- **Converse for dates×equations.**  If the `dates_equations` schedule is `Admissible` (for whatever plan), the model text
satisfies the closed-form condition on LHS rows: inside the span an LHS is read only at a lag, or in the same period from an
equation that is not later.  (For residual rows the condition is necessary only where the plan has a point — the residual is
not written elsewhere — so the full `DatesEquationsCond` is sufficient but not necessary.) -/
theorem datesEquations_cond_necessary (eqs : List (Equation β)) (plan : Plan) (cols : List Int)
    (hcols : cols.Pairwise (· < ·)) (h : Admissible eqs plan (datesEquations cols eqs.length)) :
    DatesEquationsCondLhs eqs cols := by
  intro p hp q hq tok htok hrow t ht ht'
  by_contra hbad
  exact clobber_of_token eqs plan hp hq t htok hrow
    ((pairwise_datesEquations hcols).1 h.2 t ht (t + tok.2) ht' p.2 (List.snd_lt_of_mem_zipIdx hp) q.2
      (List.snd_lt_of_mem_zipIdx hq) (by omega))

/-- the same for equations×dates: inside the span an LHS is read only by a later equation, or by its own at a shift `≤ 0` -/
theorem equationsDates_cond_necessary (eqs : List (Equation β)) (plan : Plan) (cols : List Int)
    (hcols : cols.Pairwise (· < ·)) (h : Admissible eqs plan (equationsDates cols eqs.length)) :
    EquationsDatesCondLhs eqs cols := by
  intro p hp q hq tok htok hrow t ht ht'
  by_contra hbad
  exact clobber_of_token eqs plan hp hq t htok hrow
    ((pairwise_equationsDates hcols).1 h.2 p.2 (List.snd_lt_of_mem_zipIdx hp) q.2
      (List.snd_lt_of_mem_zipIdx hq) t ht (t + tok.2) ht' (by omega))

/-- the sufficient condition of `datesEquations_admissible` implies the LHS part, so on LHS rows the closed-form condition is
**exactly** admissibility's requirement -/
theorem datesEquationsCond_lhs_of_full (eqs : List (Equation β)) (cols : List Int) (h : DatesEquationsCond eqs cols) :
    DatesEquationsCondLhs eqs cols :=
  fun p hp q hq tok htok hrow t ht ht' => h p hp q hq tok htok (by simp [Equation.writeRows, hrow]) t ht ht'

end converse

/-- non-vacuity of the converses: the incomparability examples satisfy / violate the LHS conditions as expected -/
example : DatesEquationsCondLhs lagOfLater [1, 2] ∧ ¬ EquationsDatesCondLhs lagOfLater [1, 2] := by
  unfold DatesEquationsCondLhs EquationsDatesCondLhs; decide +kernel

/-! ### Assembly of the returned databox (`target_db | out_db`) -/

section merge
variable {κ ν : Type} [DecidableEq κ]

/-- **fresh results override the target, every other name is carried over**: looking a name up in the returned databox gives
the (last) value the simulation produced under that name if there is one, and otherwise what the target held -/
theorem merge_lookup (target out : Dict κ ν) (k : κ) :
    (mergeOutput target out).lookup k = (Dict.last? out k).or (target.lookup k) :=
  Dict.lookup_update target out k

/-- a name the simulation produced (output names are distinct) comes out with the simulated series -/
theorem merge_fresh_wins (target out : Dict κ ν) (k : κ) (v : ν) (hu : out.Pairwise (fun a b => a.1 ≠ b.1))
    (h : out.lookup k = some v) : (mergeOutput target out).lookup k = some v := by
  rw [merge_lookup, Dict.last?_eq_lookup out k hu, h]; rfl

/-- a name the simulation did not produce is carried over from the target unchanged -/
theorem merge_carries_over (target out : Dict κ ν) (k : κ) (h : ∀ p ∈ out, p.1 ≠ k) :
    (mergeOutput target out).lookup k = target.lookup k := by
  refine List.foldlRecOn (motive := fun acc : Dict κ ν => acc.lookup k = target.lookup k) out _ rfl fun acc ih p hp => ?_
  rw [Dict.lookup_set1, if_neg (Ne.symm (h p hp)), ih]

/-- the names of the target come first, in the target's order; new names follow -/
theorem merge_keeps_target_order (target out : Dict κ ν) :
    target.map (·.1) <+: (mergeOutput target out).map (·.1) := Dict.keys_prefix_update target out

/-- non-vacuity: target {a:1, x:2}, fresh results {x:9, r:7} -/
example : mergeOutput [("a", 1), ("x", 2)] [("x", 9), ("r", 7)] = [("a", 1), ("x", 9), ("r", 7)] := by decide

end merge

/-! ### The model object: re-ordering, re-finalizing, row numbers -/

section object
variable {β : Type}

/-- **Invariant of the object**: after any sequence of operations (re-orderings, copies, simulations) started from a freshly
built object, the object IS the freshly built object for the equations in their current order — in particular the compiled
evaluators carry the row numbers of the numbering in force, never those of an earlier order. -/
theorem object_after_ops (numOf : List (Equation β) → Nat → Nat) (ops : List ObjOp) (src : List (Equation β)) :
    ops.foldl (ModelObj.apply numOf) (ModelObj.finalize numOf src) = ModelObj.finalize numOf (sourceAfter ops src) :=
  List.foldl_hom (ModelObj.finalize numOf) fun _ op => by cases op <;> rfl

variable [Carrier β]

/-- **Simulation after any sequence of re-orderings = simulation of the freshly built model in that order = the name-level
semantics.**  Whatever operations the object went through, simulating with its compiled evaluators on a data array (and plan)
laid out by its numbering gives, through that numbering, exactly the result of the name-level simulation of the equations in
their current order: same errors, same value in every cell.  (`numOf src` must be injective on names, as a row numbering is.) -/
theorem simulate_after_ops (numOf : List (Equation β) → Nat → Nat) (hinj : ∀ src, Function.Injective (numOf src))
    (ops : List ObjOp) (src : List (Equation β)) (plan plan' : Plan) (tbl tbl' : Table β) (sched : List (Int × Nat)) :
    let obj := ops.foldl (ModelObj.apply numOf) (ModelObj.finalize numOf src)
    PlanAgree obj.numbering plan plan' → Agree obj.numbering tbl tbl' →
    RelE obj.numbering (simulateV (sourceAfter ops src) plan tbl sched) (simulateV obj.compiled plan' tbl' sched) := by
  intro obj hp ht
  have hobj : obj = ModelObj.finalize numOf (sourceAfter ops src) := object_after_ops numOf ops src
  rw [hobj] at hp ht ⊢
  exact simulateWith_rename (hinj _) hp sched ht

/-- row numbering is immaterial (restated for `simulateV`): the harness's own numbering and irispie's give the same results -/
theorem simulateV_rename (num : Nat → Nat) (hinj : Function.Injective num) (eqs : List (Equation β)) (plan plan' : Plan)
    (hp : PlanAgree num plan plan') (sched : List (Int × Nat)) (tbl tbl' : Table β) (h : Agree num tbl tbl') :
    RelE num (simulateV eqs plan tbl sched) (simulateV (eqs.map (Equation.rename num)) plan' tbl' sched) :=
  simulateWith_rename hinj hp sched h

end object

/-- non-vacuity: two re-orderings and a copy of a two-equation object; shifting every row by 10 is an injective numbering;
`reorderList` puts the element at position `p[i]` in place `i` -/
example : sourceAfter [.reorder [1, 0], .copy, .simulate, .reorder [1, 0]] lagOfLater = lagOfLater := rfl
example : Function.Injective (fun n : Nat => n + 10) := fun _ _ h => Nat.add_right_cancel h
example : reorderList [2, 0, 1] ["a", "b", "c"] = ["c", "a", "b"] := by decide

/-! ### Where parameters and residuals come from: the two data-source options -/

section options
variable {β : Type} [Carrier β]

/-- **parameters come from the databox iff `parameters_from_data`** (default: not) — whatever `shocks_from_data` is, and
whatever the databox holds under the parameter's name -/
theorem parameter_cell (pfd sfd : Option Bool) (m d : V β) :
    initialCell .parameter pfd sfd m d = (if pfd = some true then (if d.isNan then m else d) else m) := by
  rcases pfd with _ | _ | _ <;> rfl

/-- **residuals come from the databox iff `shocks_from_data`** (default: they do; missing ones are 0) — whatever
`parameters_from_data` is -/
theorem residual_cell (pfd sfd : Option Bool) (m d : V β) :
    initialCell .residual pfd sfd m d
      = (if sfd = some false then V.fin (Carrier.ofNat 0) else (if d.isNan then V.fin (Carrier.ofNat 0) else d)) := by
  rcases sfd with _ | _ | _ <;> rfl

/-- the two options act independently, and variables are never touched by either -/
theorem data_source_options_independent (pfd pfd' sfd sfd' : Option Bool) (m d : V β) :
    initialCell .parameter pfd sfd m d = initialCell .parameter pfd sfd' m d
      ∧ initialCell .residual pfd sfd m d = initialCell .residual pfd' sfd m d
      ∧ initialCell .variable pfd sfd m d = d := by
  refine ⟨?_, ?_, rfl⟩
  · rw [parameter_cell, parameter_cell]
  · rw [residual_cell, residual_cell]

end options

/-- non-vacuity, all nine combinations of (absent / False / True)²: a databox item 2 named like a parameter whose model value
is 1 is used only under `parameters_from_data=True`; an input residual 3 only unless `shocks_from_data=False` -/
example : ∀ pfd ∈ [none, some false, some true], ∀ sfd ∈ [none, some false, some true],
    (initialCell .parameter pfd sfd (V.fin (1 : ℚ)) (V.fin 2) = V.fin 2 ↔ pfd = some true)
      ∧ (initialCell .residual pfd sfd V.nan (V.fin (3 : ℚ)) = V.fin 3 ↔ sfd ≠ some false) := by
  intro pfd hp sfd hs
  rw [parameter_cell, residual_cell]
  simp only [List.mem_cons, List.not_mem_nil, or_false] at hp hs
  rcases hp with rfl | rfl | rfl <;> rcases hs with rfl | rfl | rfl <;> simp [V.isNan, Carrier.ofNat]

end IrisVerif.C17
